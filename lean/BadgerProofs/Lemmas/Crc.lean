import BadgerModel.Crc
/-!
Lemmas on the bit-level CRC32-C model: every stage keeps the register below `2^32` and is
injective in it (`RegInj`: the bit step because the polynomial has its top bit set, the rest by
composition), and the byte step is injective in the data byte. Consequence (`C16_crc_single_byte`, in
`Props/C16`): changing one byte of a message — all other bytes and the length unchanged — always changes
the checksum.
-/
namespace Badger

theorem crcPoly_lt : crcPoly < 2 ^ 32 := by decide
theorem crcPoly_ge : 2 ^ 31 ≤ crcPoly := by decide

theorem crcBit_lt {c : Nat} (h : c < 2 ^ 32) : crcBit c < 2 ^ 32 := by
  unfold crcBit
  apply Nat.xor_lt_two_pow
  · exact Nat.lt_of_le_of_lt (Nat.div_le_self _ _) h
  · split
    · exact crcPoly_lt
    · exact Nat.pow_pos (by decide)

theorem xor_right_cancel {a b c : Nat} (h : a ^^^ c = b ^^^ c) : a = b := by
  have := congrArg (· ^^^ c) h
  simpa [Nat.xor_assoc] using this

theorem xor_left_cancel {a b c : Nat} (h : c ^^^ a = c ^^^ b) : a = b := by
  rw [Nat.xor_comm c a, Nat.xor_comm c b] at h
  exact xor_right_cancel h

/-- The polynomial has bit 31 set, the shifted registers do not: xoring it into one of them
    cannot give the other. -/
theorem xor_crcPoly_ne {a b : Nat} (ha : a < 2 ^ 31) (hb : b < 2 ^ 31) : a ^^^ crcPoly ≠ b := by
  intro h
  have e : a ^^^ b = crcPoly := by rw [← h, ← Nat.xor_assoc, Nat.xor_self, Nat.zero_xor]
  exact absurd (e ▸ Nat.xor_lt_two_pow ha hb) (Nat.not_lt.mpr crcPoly_ge)

/-- Bit 31 of the result tells whether the polynomial was xored in, i.e. the bit shifted out. -/
theorem crcBit_inj {c d : Nat} (hc : c < 2 ^ 32) (hd : d < 2 ^ 32) (h : crcBit c = crcBit d) :
    c = d := by
  unfold crcBit at h
  have hc2 : c / 2 < 2 ^ 31 := Nat.div_lt_of_lt_mul hc
  have hd2 : d / 2 < 2 ^ 31 := Nat.div_lt_of_lt_mul hd
  have key : c / 2 = d / 2 → c % 2 = d % 2 → c = d := fun h1 h2 => by
    rw [← Nat.div_add_mod c 2, ← Nat.div_add_mod d 2, h1, h2]
  by_cases p : c % 2 = 1 <;> by_cases q : d % 2 = 1
  · rw [if_pos p, if_pos q] at h
    exact key (xor_right_cancel h) (p.trans q.symm)
  · rw [if_pos p, if_neg q, Nat.xor_zero] at h
    exact absurd h (xor_crcPoly_ne hc2 hd2)
  · rw [if_neg p, if_pos q, Nat.xor_zero] at h
    exact absurd h.symm (xor_crcPoly_ne hd2 hc2)
  · rw [if_neg p, if_neg q, Nat.xor_zero, Nat.xor_zero] at h
    exact key h ((Nat.mod_two_ne_one.mp p).trans (Nat.mod_two_ne_one.mp q).symm)

/-- `f` maps registers to registers, injectively. Every stage of the checksum does: a bit step, xoring
    a byte in, and whatever is composed of these. -/
structure RegInj (f : Nat → Nat) : Prop where
  lt : ∀ {c}, c < 2 ^ 32 → f c < 2 ^ 32
  inj : ∀ {c d}, c < 2 ^ 32 → d < 2 ^ 32 → f c = f d → c = d

theorem RegInj.comp {f g : Nat → Nat} (hf : RegInj f) (hg : RegInj g) : RegInj fun c => g (f c) :=
  ⟨fun hc => hg.lt (hf.lt hc), fun hc hd h => hf.inj hc hd (hg.inj (hf.lt hc) (hf.lt hd) h)⟩

theorem RegInj.repeat {f : Nat → Nat} (hf : RegInj f) (n : Nat) : RegInj (Nat.repeat f n) := by
  induction n with
  | zero => exact ⟨id, fun _ _ => id⟩
  | succ n ih => exact ih.comp hf

theorem regInj_crcBit : RegInj crcBit := ⟨crcBit_lt, crcBit_inj⟩

theorem regInj_xor (b : UInt8) : RegInj (· ^^^ b.toNat) :=
  ⟨fun hc => Nat.xor_lt_two_pow hc (Nat.lt_trans b.toNat_lt (by decide)), fun _ _ => xor_right_cancel⟩

theorem crcByte_eq (c : Nat) (b : UInt8) : crcByte c b = Nat.repeat crcBit 8 (c ^^^ b.toNat) := rfl

theorem regInj_crcByte (b : UInt8) : RegInj (crcByte · b) :=
  (regInj_xor b).comp (regInj_crcBit.repeat 8)

theorem crcByte_inj_byte {c : Nat} (a b : UInt8) (hc : c < 2 ^ 32)
    (h : crcByte c a = crcByte c b) : a = b := by
  rw [crcByte_eq, crcByte_eq] at h
  exact UInt8.toNat_inj.mp (xor_left_cancel
    ((regInj_crcBit.repeat 8).inj ((regInj_xor a).lt hc) ((regInj_xor b).lt hc) h))

theorem regInj_crcUpdate (d : Bytes) : RegInj (crcUpdate · d) := by
  induction d with
  | nil => exact ⟨id, fun _ _ => id⟩
  | cons b bs ih => exact (regInj_crcByte b).comp ih

theorem crcUpdate_append (a b : Bytes) : ∀ c, crcUpdate c (a ++ b) = crcUpdate (crcUpdate c a) b := by
  induction a with
  | nil => intro c; rfl
  | cons x xs ih => intro c; exact ih _

theorem crc32c_lt (d : Bytes) : crc32c d < 2 ^ 32 :=
  Nat.xor_lt_two_pow ((regInj_crcUpdate d).lt (by decide)) (by decide)

/-- The all-zero 5-byte header (what a zero-filled tail parses to) never verifies against the
    four zero bytes that follow it. -/
theorem crc32c_zero_header : crc32c [0, 0, 0, 0, 0] ≠ 0 := by decide

-- the CRC-32C check value: the checksum of "123456789"
set_option maxRecDepth 8000 in
example : crc32c [0x31, 0x32, 0x33, 0x34, 0x35, 0x36, 0x37, 0x38, 0x39] = 0xE3069283 := by decide

end Badger
