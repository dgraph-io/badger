import BadgerProofs.Lemmas.LsmInv
/-!
# The internal-key order as propositions

`klt`/`kvlt`/`elt` say what `cmpBytes`/`kvCmp`/`entCmp … = .lt` say (user key ascending, version
descending). They are defined at the head of `Lemmas/LsmInv.lean` (`SO.klt` unfolds to the same
thing as `LL.klt`), whose facts (`Badger.LL`), those used here, are taken over by `export`. Added are what the stream,
backup and stream-writer proofs (C24, C25, C26) share: sorted lists are determined by their members
(`sorted_ext`), stay sorted under a map that keeps key and version (`sorted_map`), and two entries of one
key are ordered by version (`elt_same_key_ver`). The facts about reads (a read of several sources as a
fold of `SO.pick`, which is `Badger.pick`: `pick_eq`; `seekGE` on a concatenation; `srcGet` on a sorted
list) stand for themselves: no proof downstream uses them.
-/
namespace Badger
namespace SO

export LL (kle kle_of_klt kle_trans kle_iff_ne_gt klt_tri klt_of_klt_of_kle elt_asymm sorted_iff sorted_cons sorted_append
  entCmp_lt_iff_elt elt_kle elt_of_klt)

theorem elt_same_key_ver {a b : Ent} (h : elt a b) (hk : a.key = b.key) : b.ver < a.ver :=
  (entCmp_lt_same_key hk).mp ((entCmp_lt_iff_elt a b).mpr h)

/-- the better of two candidates: larger version, the left one on ties -/
def pick : Option Ent → Option Ent → Option Ent
  | none, y => y
  | some a, none => some a
  | some a, some b => if a.ver < b.ver then some b else some a

theorem pick_eq : pick = _root_.Badger.pick := by
  funext x y
  cases x <;> cases y <;> rfl

@[simp] theorem newestLE_nil (k : Bytes) (ts : Nat) : newestLE [] k ts = none := rfl

theorem newestLE_flatten_foldl (ls : List (List Ent)) (k : Bytes) (ts : Nat) (init : Option Ent) :
    ls.foldl (fun b l => pick b (newestLE l k ts)) init = pick init (newestLE ls.flatten k ts) := by
  rw [pick_eq]
  exact LL.newestLE_flatten_foldl ls k ts init

theorem seekGE_append_lt {k : Bytes} {ts : Nat} {a b : List Ent}
    (h : ∀ x ∈ a, kvlt x.key x.ver k ts) : seekGE k ts (a ++ b) = seekGE k ts b := by
  rw [seekGE_eq_find?, seekGE_eq_find?, List.find?_append, List.find?_eq_none.mpr, Option.none_or]
  intro x hx
  simp [(kvCmp_lt_iff ..).mpr (h x hx)]

theorem seekGE_append_ge {k : Bytes} {ts : Nat} {a b : List Ent}
    (h : ∃ x ∈ a, ¬ kvlt x.key x.ver k ts) : seekGE k ts (a ++ b) = seekGE k ts a := by
  obtain ⟨x, hx, hn⟩ := h
  rw [seekGE_eq_find?, seekGE_eq_find?, List.find?_append, Option.or_of_isSome]
  exact List.find?_isSome.mpr ⟨x, hx, by simpa using mt (kvCmp_lt_iff ..).mp hn⟩

/-- Seek + SameKey on a sorted source is the newest version `≤ ts`. -/
theorem srcGet_eq_newestLE {es : List Ent} (hs : SortedEnts es) (k : Bytes) (ts : Nat) :
    srcGet es k ts = newestLE es k ts := LL.srcGet_eq_newestLE hs k ts

theorem sorted_ext {a b : List Ent} (ha : SortedEnts a) (hb : SortedEnts b)
    (h : ∀ x, x ∈ a ↔ x ∈ b) : a = b :=
  pairwise_ext (fun _ _ => entCmp_lt_asymm) ha hb h

theorem sorted_map {f : Ent → Ent} (hk : ∀ e, (f e).key = e.key) (hv : ∀ e, (f e).ver = e.ver)
    {l : List Ent} (h : SortedEnts l) : SortedEnts (l.map f) := by
  unfold SortedEnts entCmp at *
  rw [List.pairwise_map]
  exact h.imp fun hab => by rw [hk, hk, hv, hv]; exact hab

end SO
end Badger
