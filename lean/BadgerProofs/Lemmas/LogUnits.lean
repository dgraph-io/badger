import BadgerProofs.Lemmas.Log
/-!
Write units of a log (what badger writes: a non-transactional record, or the records of one
transaction closed by its end marker) and the behaviour of the `iterate` loop over them: complete units
are delivered (`iterGo_units`), records of an open transaction followed by anything that `Breaks` it
are not (`iterGo_partial`); the value pointers delivered point at the records (`deliveredUnits_points`).
-/
namespace Badger

/-- A unit of a WAL / value log as written by badger. -/
inductive LogUnit where
  /-- one record outside any transaction (`meta` has neither `bitTxn` nor `bitFinTxn`) -/
  | single (e : Entry)
  /-- the records of one transaction with commit timestamp `ts`, then the end marker `fin` -/
  | txn (ts : Nat) (es : List Entry) (fin : Entry)

def LogUnit.entries : LogUnit → List Entry
  | .single e => [e]
  | .txn _ es fin => es ++ [fin]

/-- The records of a unit that `iterate` hands to the callback (the end marker is not). -/
def LogUnit.payload : LogUnit → List Entry
  | .single e => [e]
  | .txn _ es _ => es

/-- A transaction record: `bitTxn` set, key carries the commit timestamp `ts`. -/
def TxnEntry (ts : Nat) (e : Entry) : Prop :=
  e.WF ∧ e.metaB &&& bitTxn ≠ 0 ∧ parseTs e.key = ts

def LogUnit.WF : LogUnit → Prop
  | .single e => e.WF ∧ e.key ≠ [] ∧ e.metaB &&& bitTxn = 0 ∧ e.metaB &&& bitFinTxn = 0
  | .txn ts es fin =>
    ts ≠ 0 ∧ es ≠ [] ∧ (∀ e ∈ es, TxnEntry ts e) ∧
    fin.WF ∧ fin.key ≠ [] ∧ fin.metaB &&& bitTxn = 0 ∧ fin.metaB &&& bitFinTxn ≠ 0 ∧
    parseUintDec fin.value = some ts

def unitsEntries (us : List LogUnit) : List Entry := us.flatMap LogUnit.entries

/-- Records with the value pointers `(fid, offset, len)` of their positions when written in
    order starting at `off`. -/
def withVptrs (fid : Nat) (cipher : Nat → Nat → UInt8) : Nat → List Entry → Delivered
  | _, [] => []
  | off, e :: es =>
    (e, ⟨fid, (encodeEntry (cipher off) e).length, off⟩) ::
      withVptrs fid cipher (off + (encodeEntry (cipher off) e).length) es

def encLen (cipher : Nat → Nat → UInt8) (off : Nat) (es : List Entry) : Nat :=
  (encodeAll cipher off es).length

/-- What `iterate` must deliver for the units `us` written from `off`: every payload record, in
    write order, with its value pointer. -/
def deliveredUnits (fid : Nat) (cipher : Nat → Nat → UInt8) : Nat → List LogUnit → Delivered
  | _, [] => []
  | off, u :: us =>
    withVptrs fid cipher off u.payload ++
      deliveredUnits fid cipher (off + encLen cipher off u.entries) us

theorem LogUnit.payload_prefix (u : LogUnit) : u.payload <+: u.entries := by
  cases u with
  | single e => exact List.prefix_refl _
  | txn ts es fin => exact List.prefix_append _ _

theorem LogUnit.entries_WF (u : LogUnit) (wf : u.WF) : ∀ e ∈ u.entries, e.WF := by
  cases u with
  | single e => exact fun x hx => List.mem_singleton.mp hx ▸ wf.1
  | txn ts es fin =>
    intro x hx
    rcases List.mem_append.mp hx with hx | hx
    · exact (wf.2.2.1 x hx).1
    · exact List.mem_singleton.mp hx ▸ wf.2.2.2.1

theorem LogUnit.prefix_txn (u : LogUnit) (wf : u.WF) (p : List Entry) (e : Entry) (q : List Entry)
    (h : u.entries = p ++ e :: q) : ∃ ts, ts ≠ 0 ∧ ∀ x ∈ p, TxnEntry ts x := by
  have hp : ∀ x ∈ p, x ∈ u.entries.dropLast := fun x hx => by
    rw [h, List.dropLast_append_of_ne_nil (List.cons_ne_nil _ _)]
    exact List.mem_append_left _ hx
  cases u with
  | single e0 => exact ⟨1, by decide, fun x hx => nomatch hp x hx⟩
  | txn ts es fin =>
    rw [LogUnit.entries, List.dropLast_concat] at hp
    exact ⟨ts, wf.1, fun x hx => wf.2.2.1 x (hp x hx)⟩

theorem encodeAll_cons (cipher : Nat → Nat → UInt8) (off : Nat) (e : Entry) (es : List Entry) :
    encodeAll cipher off (e :: es) = encodeEntry (cipher off) e ++
      encodeAll cipher (off + (encodeEntry (cipher off) e).length) es :=
  rfl

theorem encLen_cons (cipher : Nat → Nat → UInt8) (off : Nat) (e : Entry) (es : List Entry) :
    encLen cipher off (e :: es) = (encodeEntry (cipher off) e).length +
      encLen cipher (off + (encodeEntry (cipher off) e).length) es :=
  List.length_append

theorem encLen_singleton (cipher : Nat → Nat → UInt8) (off : Nat) (e : Entry) :
    encLen cipher off [e] = (encodeEntry (cipher off) e).length := by
  rw [encLen, encodeAll, encodeAll, List.append_nil]

theorem encodeAll_append (cipher : Nat → Nat → UInt8) (a b : List Entry) : ∀ off,
    encodeAll cipher off (a ++ b) =
      encodeAll cipher off a ++ encodeAll cipher (off + encLen cipher off a) b := by
  induction a with
  | nil => intro off; rfl
  | cons e es ih =>
    intro off
    rw [List.cons_append, encodeAll, ih, encodeAll, List.append_assoc, encLen_cons, Nat.add_assoc]

theorem encLen_append (cipher : Nat → Nat → UInt8) (off : Nat) (a b : List Entry) :
    encLen cipher off (a ++ b) = encLen cipher off a + encLen cipher (off + encLen cipher off a) b := by
  rw [encLen, encodeAll_append, List.length_append]; rfl

theorem unitsEntries_cons (u : LogUnit) (us : List LogUnit) :
    unitsEntries (u :: us) = u.entries ++ unitsEntries us := by
  simp [unitsEntries]

theorem IterResult.prepend_prepend (a b : Delivered) (r : IterResult) :
    (r.prepend b).prepend a = r.prepend (a ++ b) := by
  simp [IterResult.prepend]

theorem IterResult.prepend_nil (r : IterResult) : r.prepend [] = r := by
  simp [IterResult.prepend]

theorem parseTs_ne_zero_key {k : Bytes} (h : parseTs k ≠ 0) : k ≠ [] := by
  intro hk; subst hk; exact h rfl

section
variable (fid : Nat) (cipher : Nat → Nat → UInt8)

/-- Transaction records of timestamp `ts`, read while no transaction is open or the one of `ts` is,
    are buffered; afterwards the transaction of `ts` is open (unless there was no record). -/
theorem iterGo_txnEntries (ts : Nat) (hts : ts ≠ 0) (es : List Entry) :
    ∀ (f off lc ve : Nat) (pend : Delivered) (rest : Bytes), lc = 0 ∨ lc = ts →
    (∀ e ∈ es, TxnEntry ts e) →
    iterGo fid cipher (es.length + f) off lc ve pend (encodeAll cipher off es ++ rest) =
      iterGo fid cipher f (off + encLen cipher off es) (if es = [] then lc else ts) ve
        (pend ++ withVptrs fid cipher off es) rest := by
  induction es with
  | nil =>
    intro f off lc ve pend rest _ _
    rw [if_pos rfl, withVptrs, List.append_nil, List.length_nil, Nat.zero_add]; rfl
  | cons e es ih =>
    intro f off lc ve pend rest hlc h
    obtain ⟨wf, hb, hk⟩ := h e List.mem_cons_self
    rw [List.length_cons, Nat.add_right_comm, encodeAll, List.append_assoc,
      iterGo_txn fid cipher _ off lc ve pend e _ wf (parseTs_ne_zero_key (hk ▸ hts)) hb (hk ▸ hlc), hk,
      ih _ _ _ _ _ _ (.inr rfl) (fun x hx => h x (List.mem_cons_of_mem _ hx)), ite_self,
      if_neg (List.cons_ne_nil _ _), encLen_cons, Nat.add_assoc, withVptrs, List.append_assoc]
    rfl

/-- One complete unit read in the idle state (`lastCommit = 0`, nothing buffered, everything
    before it valid) is delivered, and the loop is idle again right after it. -/
theorem iterGo_unit (u : LogUnit) (wf : u.WF) (f off : Nat) (rest : Bytes) :
    iterGo fid cipher (u.entries.length + f) off 0 off [] (encodeAll cipher off u.entries ++ rest) =
      (iterGo fid cipher f (off + encLen cipher off u.entries) 0
        (off + encLen cipher off u.entries) [] rest).prepend (withVptrs fid cipher off u.payload) := by
  cases u with
  | single e =>
    obtain ⟨wfe, hk, hb, hfin⟩ := wf
    rw [LogUnit.entries, LogUnit.payload, encodeAll, encodeAll, List.append_nil, encLen_singleton,
      List.length_singleton, Nat.add_comm 1, iterGo_single fid cipher f off off [] e rest wfe hk hb hfin]
    rfl
  | txn ts es fin =>
    obtain ⟨hts, hne, hes, wff, hk, hb, hfin, hv⟩ := wf
    rw [LogUnit.entries, LogUnit.payload, encodeAll_append, List.append_assoc, List.length_append,
      Nat.add_assoc, iterGo_txnEntries fid cipher ts hts es _ _ _ _ _ _ (.inl rfl) hes, if_neg hne,
      encodeAll, encodeAll, List.append_nil, List.length_singleton, Nat.add_comm 1,
      iterGo_fin fid cipher f _ ts off _ fin rest wff hk hb hfin hv, encLen_append, encLen_singleton,
      List.nil_append, Nat.add_assoc]

theorem iterGo_units (us : List LogUnit) : ∀ (f off : Nat) (rest : Bytes), (∀ u ∈ us, u.WF) →
    iterGo fid cipher ((unitsEntries us).length + f) off 0 off []
        (encodeAll cipher off (unitsEntries us) ++ rest) =
      (iterGo fid cipher f (off + encLen cipher off (unitsEntries us)) 0
        (off + encLen cipher off (unitsEntries us)) [] rest).prepend
        (deliveredUnits fid cipher off us) := by
  induction us with
  | nil => intro f off rest _; simp [unitsEntries, encodeAll, encLen, deliveredUnits, IterResult.prepend_nil]
  | cons u us ih =>
    intro f off rest h
    rw [unitsEntries_cons, encodeAll_append, List.append_assoc, List.length_append,
      Nat.add_assoc, iterGo_unit fid cipher u (h u (by simp)), ih _ _ _ (fun x hx => h x (by simp [hx])),
      IterResult.prepend_prepend]
    simp only [deliveredUnits, encLen, encodeAll_append, List.length_append, Nat.add_assoc]

/-- What makes the loop stop without delivering anything more, when `lastCommit = lc`: a short
    read, a zero entry, or a record that does not continue / close the open transaction. -/
def Breaks (ks : Nat → UInt8) (lc : Nat) (b : Bytes) : Prop :=
  Torn (safeReadEntry ks b) ∨
  ∃ e hlen, safeReadEntry ks b = .ok (e, hlen) ∧
    (e.key = [] ∨
     (e.metaB &&& bitTxn ≠ 0 ∧ (if lc = 0 then parseTs e.key else lc) ≠ parseTs e.key) ∨
     (e.metaB &&& bitTxn = 0 ∧ e.metaB &&& bitFinTxn ≠ 0 ∧ parseUintDec e.value ≠ some lc) ∨
     (e.metaB &&& bitTxn = 0 ∧ e.metaB &&& bitFinTxn = 0 ∧ lc ≠ 0))

theorem iterGo_breaks (f off lc ve : Nat) (pend : Delivered) (b : Bytes)
    (h : Breaks (cipher off) lc b) :
    iterGo fid cipher (f + 1) off lc ve pend b = ⟨none, [], ve⟩ := by
  rcases h with h | ⟨e, hlen, hr, h⟩
  · exact iterGo_torn fid cipher f off lc ve pend b h
  · by_cases hk : e.key = []
    · rw [iterGo, hr]; exact if_pos hk
    · rw [iterGo_ok fid cipher f off lc ve pend b e hlen _ hr hk rfl]
      rcases h with h | ⟨hb, h⟩ | ⟨hb, hf, h⟩ | ⟨hb, hf, h⟩
      · exact absurd h hk
      · rw [if_pos hb, if_pos h]
      · rw [if_neg (fun x => x hb), if_pos hf]
        cases hv : parseUintDec e.value with
        | none => rfl
        | some t => exact if_pos fun (heq : lc = t) => h (heq ▸ hv)
      · rw [if_neg (fun x => x hb), if_neg (fun x => x hf), if_pos h]

theorem iterGo_partial (ts : Nat) (hts : ts ≠ 0) (p : List Entry) (hp : ∀ e ∈ p, TxnEntry ts e)
    (f off ve : Nat) (tail : Bytes)
    (hb : Breaks (cipher (off + encLen cipher off p)) (if p = [] then 0 else ts) tail) :
    iterGo fid cipher (p.length + (f + 1)) off 0 ve [] (encodeAll cipher off p ++ tail) =
      ⟨none, [], ve⟩ := by
  rw [iterGo_txnEntries fid cipher ts hts p _ _ _ _ _ _ (.inl rfl) hp]
  exact iterGo_breaks fid cipher f _ _ ve _ tail hb

theorem length_le_encLen (es : List Entry) : ∀ off, es.length ≤ encLen cipher off es := by
  induction es with
  | nil => intro off; simp [encLen, encodeAll]
  | cons e es ih =>
    intro off
    have := ih (off + (encodeEntry (cipher off) e).length)
    have := encodeEntry_length_pos (cipher off) e
    simp only [encLen, encodeAll, List.length_append, List.length_cons] at *
    omega

theorem withVptrs_points (es : List Entry) :
    ∀ (off : Nat) (more : Bytes), ∀ d ∈ withVptrs fid cipher off es,
      ∃ k, d.2.offset = off + k ∧ d.2.fid = fid ∧
        ((encodeAll cipher off es ++ more).drop k).take d.2.len =
          encodeEntry (cipher d.2.offset) d.1 := by
  induction es with
  | nil => intro off more d hd; cases hd
  | cons x xs ih =>
    intro off more d hd
    rw [withVptrs, List.mem_cons] at hd
    rcases hd with rfl | hd
    · exact ⟨0, rfl, rfl, by rw [encodeAll_cons, List.append_assoc, List.drop_zero, List.take_left]⟩
    · obtain ⟨k, hk, hf, ht⟩ := ih _ more d hd
      refine ⟨(encodeEntry (cipher off) x).length + k, by rw [hk, Nat.add_assoc], hf, ?_⟩
      rw [encodeAll_cons, List.append_assoc, ← List.drop_drop, List.drop_left]
      exact ht

theorem deliveredUnits_points (us : List LogUnit) :
    ∀ (off : Nat) (more : Bytes), ∀ d ∈ deliveredUnits fid cipher off us,
      ∃ k, d.2.offset = off + k ∧ d.2.fid = fid ∧
        ((encodeAll cipher off (unitsEntries us) ++ more).drop k).take d.2.len =
          encodeEntry (cipher d.2.offset) d.1 := by
  induction us with
  | nil => intro off more d hd; cases hd
  | cons u us ih =>
    intro off more d hd
    rw [deliveredUnits, List.mem_append] at hd
    rw [unitsEntries_cons]
    rcases hd with hd | hd
    · obtain ⟨t, ht⟩ := u.payload_prefix
      rw [← ht, List.append_assoc, encodeAll_append, List.append_assoc]
      exact withVptrs_points fid cipher u.payload off _ d hd
    · obtain ⟨k, hk, hf, ht⟩ := ih (off + encLen cipher off u.entries) more d hd
      refine ⟨encLen cipher off u.entries + k, by rw [hk, Nat.add_assoc], hf, ?_⟩
      rw [encodeAll_append, List.append_assoc, ← List.drop_drop,
        List.drop_left' (i := encLen cipher off u.entries) rfl]
      exact ht

end
end Badger
