import BadgerProofs.Lemmas.Watermark
/-!
The invariant of the watermark `process` loop, the transition summary `WM.Trans`, and the
ghost bookkeeping (`Ghost`, `procsOK`, `marksOK`, `GRel`) used to state and prove the C34
theorems (`Props/C34.lean`) and the oracle invariants (`Lemmas/Oracle.lean`); at the end the
watermark as `Open` leaves it (`WM.opened`, with `WM.opened_grel`, `WM.opened_progress`).
-/
namespace Badger

structure WM.Inv (s : WM) : Prop where
  heapSorted : s.heap.Pairwise (· < ·)
  sync : ∀ x, x ∈ s.heap ↔ (s.pending x).isSome
  heapGe : ∀ x ∈ s.heap, s.doneUntil ≤ x
  /-- the loop stopped at an index that is still pending -/
  headPos : ∀ x rest, s.heap = x :: rest → s.pending.val x > 0
  wSorted : s.waiters.Sorted
  wAhead : ∀ p ∈ s.waiters, s.doneUntil < p.1

theorem WM.init_inv : WM.init.Inv := by
  refine ⟨?_, ?_, ?_, ?_, ?_, ?_⟩ <;> simp [WM.init, Pending.empty, Waiters.Sorted]

/-- What a transition guarantees: one `processOne` (`ms = []`), one mark, or the sequence `ms` of marks. -/
structure WM.Trans (s : WM) (ms : List Mark) (r : WM × List Wakeup) : Prop where
  inv : r.1.Inv
  mono : s.doneUntil ≤ r.1.doneUntil
  woke : ∀ k ∈ r.2, k.idx ≤ r.1.doneUntil
  conserve : ∀ k ∈ s.waiters.flat, k ∈ r.1.waiters.flat ∨ k ∈ r.2
  /-- `failed = false`: a process that has exited ignores the `wait` marks it is sent -/
  registered : r.1.failed = false → ∀ k, Mark.wait k.idx k.waiter ∈ ms → k ∈ r.1.waiters.flat ∨ k ∈ r.2
  /-- no spurious wake-up -/
  src : ∀ k, k ∈ r.2 ∨ k ∈ r.1.waiters.flat → k ∈ s.waiters.flat ∨ Mark.wait k.idx k.waiter ∈ ms
  failedMono : s.failed = true → r.1.failed = true

theorem WM.Trans.refl (s : WM) (h : s.Inv) : WM.Trans s [] (s, []) :=
  ⟨h, Nat.le_refl _, by simp, fun k hk => .inl hk, fun _ _ => nofun, fun k hk => .inl (by simpa using hk), id⟩

theorem WM.Trans.comp {s : WM} {ms ns : List Mark} {r1 r2 : WM × List Wakeup} (h1 : WM.Trans s ms r1)
    (h2 : WM.Trans r1.1 ns r2) : WM.Trans s (ms ++ ns) (r2.1, r1.2 ++ r2.2) := by
  have keep : ∀ k, k ∈ r1.1.waiters.flat ∨ k ∈ r1.2 → k ∈ r2.1.waiters.flat ∨ k ∈ r1.2 ++ r2.2 := fun k hk =>
    hk.elim (fun h => (h2.conserve k h).imp_right fun h => List.mem_append.mpr (.inr h))
      fun h => .inr (List.mem_append.mpr (.inl h))
  refine ⟨h2.inv, Nat.le_trans h1.mono h2.mono, ?_, fun k hk => keep k (h1.conserve k hk), ?_, ?_,
    fun h => h2.failedMono (h1.failedMono h)⟩
  · intro k hk
    rcases List.mem_append.mp hk with hk | hk
    · exact Nat.le_trans (h1.woke k hk) h2.mono
    · exact h2.woke k hk
  · intro hnf k hk
    have hnf1 : r1.1.failed = false := Bool.eq_false_iff.mpr fun hf => by
      rw [h2.failedMono hf] at hnf; cases hnf
    rcases List.mem_append.mp hk with hk | hk
    · exact keep k (h1.registered hnf1 k hk)
    · exact (h2.registered hnf k hk).imp_right fun h => List.mem_append.mpr (.inr h)
  · have back : ∀ k, k ∈ r1.2 ∨ k ∈ r1.1.waiters.flat → k ∈ s.waiters.flat ∨ Mark.wait k.idx k.waiter ∈ ms ++ ns :=
      fun k hk => (h1.src k hk).imp_right fun h => List.mem_append.mpr (.inl h)
    rintro k (hk | hk)
    · rcases List.mem_append.mp hk with hk | hk
      · exact back k (.inl hk)
      · exact (h2.src k (.inl hk)).elim (fun h => back k (.inr h)) fun h => .inr (List.mem_append.mpr (.inr h))
    · exact (h2.src k (.inr hk)).elim (fun h => back k (.inr h)) fun h => .inr (List.mem_append.mpr (.inr h))

theorem WM.Inv.flat_ahead {s : WM} (hI : s.Inv) {k : Wakeup} (hk : k ∈ s.waiters.flat) : s.doneUntil < k.idx := by
  obtain ⟨p, hp, e, _⟩ := (Waiters.mem_flat _ _).mp hk
  exact e ▸ hI.wAhead p hp

theorem WM.Inv.le_of_pending_pos {s : WM} (hI : s.Inv) {i : Nat} (h : s.pending.val i > 0) :
    s.doneUntil ≤ i :=
  hI.heapGe i ((hI.sync i).mpr (Pending.val_pos_isSome _ _ h))

/-- The heap `processOne i _` runs its pop loop on (`heap1` there). -/
def WM.pushed (s : WM) (i : Nat) : List Nat := if (s.pending i).isSome then s.heap else heapPush i s.heap

/-- The pending map `processOne i d` runs its pop loop on (`pending1` there). -/
def WM.counted (s : WM) (i : Nat) (d : Bool) : Pending :=
  s.pending.set i (s.pending.val i + (if d then -1 else 1))

theorem WM.Inv.mem_pushed {s : WM} (hI : s.Inv) (i x : Nat) : x ∈ s.pushed i ↔ x = i ∨ x ∈ s.heap := by
  unfold WM.pushed
  split
  · rename_i hp
    exact ⟨.inr, fun h => h.elim (fun e => e ▸ (hI.sync i).mpr hp) id⟩
  · exact mem_heapPush _ _ _

theorem WM.counted_val (s : WM) (i : Nat) (d : Bool) (x : Nat) :
    (s.counted i d).val x = (if i = x then (if d then -1 else 1) else 0) + s.pending.val x := by
  unfold WM.counted
  by_cases hx : i = x
  · subst hx; rw [Pending.val_set_same, if_pos rfl, Int.add_comm]
  · rw [Pending.val_set_other _ _ _ _ (fun e => hx e.symm), if_neg hx, Int.zero_add]

theorem WM.processOne_popSpec (s : WM) (hI : s.Inv) (i : Nat) (d : Bool) (hle : s.doneUntil ≤ i) :
    PopSpec (s.counted i d) (s.pushed i) s.doneUntil (popLoop (s.counted i d) (s.pushed i) s.doneUntil) := by
  apply popLoop_spec
  · unfold WM.pushed
    split
    · exact hI.heapSorted
    · rename_i hn
      exact heapPush_sorted _ _ hI.heapSorted fun hm => hn ((hI.sync i).mp hm)
  · intro x
    rw [hI.mem_pushed, hI.sync x]
    by_cases hx : x = i
    · subst hx; simp [WM.counted]
    · simp [WM.counted, Pending.set_other _ _ _ _ hx, hx]
  · intro x hx
    rcases (hI.mem_pushed i x).mp hx with rfl | hx
    · exact hle
    · exact hI.heapGe x hx

/-- `processOne` on a live state whose index is not behind the watermark; whichever notification path the code
    takes, the right side has the map path (`notify_eq_notifyMap`). -/
theorem WM.processOne_eq (s : WM) (hI : s.Inv) (i : Nat) (d : Bool) (hf : s.failed = false)
    (hle : s.doneUntil ≤ i) :
    s.processOne i d =
      ({ s with doneUntil := (popLoop (s.counted i d) (s.pushed i) s.doneUntil).2.2,
                heap := (popLoop (s.counted i d) (s.pushed i) s.doneUntil).1,
                pending := (popLoop (s.counted i d) (s.pushed i) s.doneUntil).2.1,
                waiters := (notifyMap s.waiters (popLoop (s.counted i d) (s.pushed i) s.doneUntil).2.2).1 },
       (notifyMap s.waiters (popLoop (s.counted i d) (s.pushed i) s.doneUntil).2.2).2) := by
  have hmono := (WM.processOne_popSpec s hI i d hle).mono
  unfold WM.pushed WM.counted at hmono ⊢
  unfold WM.processOne
  rw [if_neg (by simp [hf]), if_neg (by omega)]
  simp only
  rw [notify_eq_notifyMap _ _ _ hI.wSorted hI.wAhead hmono]

theorem WM.processOne_cases (s : WM) (i : Nat) (d : Bool) :
    s.processOne i d = (s, []) ∨ s.processOne i d = ({ s with failed := true }, []) ∨
      (s.failed = false ∧ s.doneUntil ≤ i) := by
  by_cases hf : s.failed = true
  · exact .inl (by simp [WM.processOne, hf])
  · by_cases hle : s.doneUntil ≤ i
    · exact .inr (.inr ⟨by simpa using hf, hle⟩)
    · refine .inr (.inl ?_)
      unfold WM.processOne
      rw [if_neg hf, if_pos (by omega)]

theorem WM.processOne_trans (s : WM) (hI : s.Inv) (i : Nat) (d : Bool) : WM.Trans s [] (s.processOne i d) := by
  rcases WM.processOne_cases s i d with e | e | ⟨hf, hle⟩
  · rw [e]; exact WM.Trans.refl s hI
  · rw [e]
    exact { WM.Trans.refl s hI with inv := { hI with }, registered := fun _ _ => nofun, failedMono := fun _ => rfl }
  · have sp := WM.processOne_popSpec s hI i d hle
    rw [WM.processOne_eq s hI i d hf hle]
    refine ⟨⟨sp.sorted, sp.sync, sp.ge, sp.headPos, ?_, ?_⟩, sp.mono, ?_, ?_, fun _ _ => nofun, ?_, ?_⟩
    · exact List.Pairwise.sublist List.filter_sublist hI.wSorted
    · intro p hp; exact ((mem_notifyMap_kept _ _ _).mp hp).2
    · intro k hk; exact ((mem_notifyMap_woke _ _ _).mp hk).2
    · intro k hk
      by_cases hk2 : k.idx ≤ (popLoop (s.counted i d) (s.pushed i) s.doneUntil).2.2
      · exact .inr ((mem_notifyMap_woke _ _ _).mpr ⟨hk, hk2⟩)
      · exact .inl ((mem_notifyMap_flat _ _ _).mpr ⟨hk, by omega⟩)
    · rintro k (h | h)
      · exact .inl ((mem_notifyMap_woke _ _ _).mp h).1
      · exact .inl ((mem_notifyMap_flat _ _ _).mp h).1
    · intro h; simp [hf] at h

theorem WM.processMany_trans (s : WM) (hI : s.Inv) (d : Bool) (is : List Nat) :
    WM.Trans s [] (s.processMany d is) := by
  induction is generalizing s with
  | nil => exact WM.Trans.refl s hI
  | cons i is ih =>
    have h1 := WM.processOne_trans s hI i d
    exact WM.Trans.comp h1 (ih (s.processOne i d).1 h1.inv)

theorem WM.setLast_inv (s : WM) (hI : s.Inv) (l : Nat) : ({ s with lastIndex := l } : WM).Inv :=
  { hI with }

theorem WM.Trans.ofSetLast {s : WM} {l : Nat} {m : Mark} {r : WM × List Wakeup} (hm : ∀ i w, m ≠ .wait i w)
    (h : WM.Trans ({ s with lastIndex := l } : WM) [] r) : WM.Trans s [m] r :=
  { h with registered := fun _ _ hk => absurd (List.mem_singleton.mp hk).symm (hm _ _),
           src := fun k hk => .inl ((h.src k hk).resolve_right nofun) }

/-- The `processOne(index, done)` calls a mark expands to, in order. -/
def Mark.procs : Mark → List (Nat × Bool)
  | .begin i => [(i, false)]
  | .done i => [(i, true)]
  | .beginMany is => is.map (fun i => (i, false))
  | .doneMany [] => [(0, true)]
  | .doneMany (i :: is) => (i :: is).map (fun i => (i, true))
  | .wait _ _ => []

theorem WM.processMany_single (s : WM) (d : Bool) (i : Nat) : s.processMany d [i] = s.processOne i d := by
  simp [WM.processMany]

/-- A mark other than `wait`, received by a live watermark, is a run of `processOne` calls (after
    `lastIndex` has been set, which no invariant reads). -/
theorem WM.step_eq_processMany (s : WM) (m : Mark) (hf : s.failed = false) :
    (∃ i w, m = .wait i w) ∨
    ((∀ i w, m ≠ .wait i w) ∧ ∃ l d is, s.step m = ({ s with lastIndex := l } : WM).processMany d is ∧
      m.procs = is.map (fun i => (i, d))) := by
  unfold WM.step
  rw [if_neg (by simp [hf])]
  cases m with
  | wait i w => exact .inl ⟨i, w, rfl⟩
  | begin idx => exact .inr ⟨nofun, idx, false, [idx], (WM.processMany_single _ _ _).symm, rfl⟩
  | done idx => exact .inr ⟨nofun, s.lastIndex, true, [idx], (WM.processMany_single _ _ _).symm, rfl⟩
  | beginMany is =>
    cases is with
    | nil => exact .inr ⟨nofun, s.lastIndex, false, [], rfl, rfl⟩
    | cons i is => exact .inr ⟨nofun, _, false, i :: is, rfl, rfl⟩
  | doneMany is =>
    cases is with
    | nil => exact .inr ⟨nofun, s.lastIndex, true, [0], (WM.processMany_single _ _ _).symm, rfl⟩
    | cons i is => exact .inr ⟨nofun, s.lastIndex, true, i :: is, rfl, rfl⟩

theorem WM.step_trans (s : WM) (hI : s.Inv) (m : Mark) : WM.Trans s [m] (s.step m) := by
  by_cases hf : s.failed = true
  · rw [show s.step m = (s, []) by simp [WM.step, hf]]
    exact { WM.Trans.refl s hI with registered := fun hnf => absurd (hf.symm.trans hnf) (by decide),
                                    src := fun k hk => .inl (by simpa using hk) }
  rcases WM.step_eq_processMany s m (by simpa using hf) with ⟨idx, w, rfl⟩ | ⟨hm, l, d, is, e, -⟩
  · -- a `wait` mark registers exactly `⟨w, idx⟩`: answered at once, or stored
    have hreg : ∀ k : Wakeup, Mark.wait k.idx k.waiter ∈ [Mark.wait idx w] ↔ k = ⟨w, idx⟩ := fun k => by
      cases k; simp [and_comm]
    simp only [WM.step, if_neg hf]
    split
    · rename_i hge
      refine ⟨hI, Nat.le_refl _, by intro k hk; simp at hk; subst hk; exact hge, fun k hk => .inl hk,
        fun _ k hk => .inr (List.mem_singleton.mpr ((hreg k).mp hk)), ?_, id⟩
      rintro k (hk | hk)
      · exact .inr ((hreg k).mpr (List.mem_singleton.mp hk))
      · exact .inl hk
    · rename_i hlt
      refine ⟨{ hI with wSorted := Waiters.add_sorted _ _ _ hI.wSorted, wAhead := ?_ },
        Nat.le_refl _, by simp, fun k hk => .inl ((Waiters.mem_flat_add _ _ _ _).mpr (.inr hk)),
        fun _ k hk => .inl ((Waiters.mem_flat_add _ _ _ _).mpr (.inl ((hreg k).mp hk))), ?_, id⟩
      · intro p hp
        rcases Waiters.mem_add _ _ _ _ hp with e | hm
        · simp only at e ⊢; omega
        · exact hI.wAhead p hm
      · rintro k (hk | hk)
        · simp at hk
        · exact ((Waiters.mem_flat_add _ _ _ _).mp hk).symm.imp_right (hreg k).mpr
  · rw [e]
    exact (WM.processMany_trans _ (WM.setLast_inv s hI l) d is).ofSetLast hm

theorem WM.runW_cons (s : WM) (m : Mark) (ms : List Mark) :
    s.runW (m :: ms) = ((s.step m).1.runW ms |>.1, (s.step m).2 ++ ((s.step m).1.runW ms).2) := rfl

theorem WM.run_cons (s : WM) (m : Mark) (ms : List Mark) : s.run (m :: ms) = (s.step m).1.run ms := rfl

theorem WM.run_nil (s : WM) : s.run [] = s := rfl

theorem WM.runW_trans (s : WM) (hI : s.Inv) (ms : List Mark) : WM.Trans s ms (s.runW ms) := by
  induction ms generalizing s with
  | nil => exact WM.Trans.refl s hI
  | cons m ms ih =>
    have h1 := WM.step_trans s hI m
    exact WM.Trans.comp h1 (ih _ h1.inv)

theorem WM.run_append (s : WM) (ms ns : List Mark) : s.run (ms ++ ns) = (s.run ms).run ns := by
  induction ms generalizing s with
  | nil => rfl
  | cons m ms ih => simp only [List.cons_append, WM.run_cons]; exact ih _

theorem WM.runW_append (s : WM) (ms ns : List Mark) :
    (s.runW (ms ++ ns)).2 = (s.runW ms).2 ++ ((s.run ms).runW ns).2 := by
  induction ms generalizing s with
  | nil => simp [WM.runW, WM.run]
  | cons m ms ih =>
    simp only [List.cons_append, WM.runW_cons, WM.run_cons]
    rw [ih, List.append_assoc]

theorem WM.runW_single (s : WM) (m : Mark) : (s.runW [m]).2 = (s.step m).2 := by
  simp [WM.runW]

theorem WM.run_inv (ms : List Mark) : (WM.init.run ms).Inv := (WM.runW_trans _ WM.init_inv ms).inv

/-! ## Trace discipline (what badger's oracle guarantees about the marks it sends)

`C34_not_ahead` with a strict `<`, the absence of the `doneUntil > index` assertion and progress
depend on *how* the watermark is used. The discipline is stated on the sequence of
`processOne(index, done)` calls the marks expand to (`Mark.procs`):

* a `Done(i)` is sent only for an index with an unfinished `Begin(i)` (`cnt i > 0`);
* `Begin`s arrive in non-decreasing index order (`maxSeen ≤ i`; the oracle sends them under
  `o.Lock` with `readTs = nextTxnTs-1`, `ts = nextTxnTs++`), *strictly* increasing for the strict
  variant (txnMark: each commit timestamp is begun exactly once).

`DB.Open` positions both watermarks with one `Done(n)` without `Begin`; that is the start state
`WM.opened n`. Why each hypothesis is needed: `begin 5, done 5, begin 3` fires the assertion
(order); `begin 5, done 5, begin 5` has `pending 5 > 0` with `doneUntil = 5` (strictness needs
"begun once"); `done 7` without `begin` moves `doneUntil` to 7 although nothing was begun
(progress/`cnt` bookkeeping needs matched `Done`s).
-/

/-- Number of `Begin(i)` minus number of `Done(i)` in a sequence of calls. -/
def netCount : List (Nat × Bool) → Nat → Int
  | [], _ => 0
  | p :: ps, i => (if p.1 = i then (if p.2 then -1 else 1) else 0) + netCount ps i

/-- Ghost bookkeeping along a trace of `processOne` calls `(index, done)`: `cnt j` is begins minus
    dones at `j` (what `pending` holds, `GRel.cnt`), `seen` the indices that occurred and `maxSeen`
    their maximum; a `Done` counts for these two as well, as in the code, where either kind of mark
    pushes an absent index on the heap. -/
structure Ghost where
  cnt : Nat → Int
  maxSeen : Nat
  seen : Nat → Prop

def Ghost.proc (g : Ghost) (p : Nat × Bool) : Ghost :=
  { cnt := fun j => (if p.1 = j then (if p.2 then -1 else 1) else 0) + g.cnt j
    maxSeen := max g.maxSeen p.1
    seen := fun j => j = p.1 ∨ g.seen j }

def Ghost.procs (g : Ghost) (ps : List (Nat × Bool)) : Ghost := ps.foldl Ghost.proc g

def Ghost.run (g : Ghost) (ms : List Mark) : Ghost := ms.foldl (fun g m => g.procs m.procs) g

/-- The discipline on a sequence of `processOne` calls (`strict`: begins strictly increasing). -/
def procsOK (strict : Bool) (g : Ghost) : List (Nat × Bool) → Prop
  | [] => True
  | p :: ps =>
    (if p.2 then g.cnt p.1 > 0 else (if strict then g.maxSeen < p.1 else g.maxSeen ≤ p.1)) ∧
    procsOK strict (g.proc p) ps

def marksOK (strict : Bool) (g : Ghost) : List Mark → Prop
  | [] => True
  | m :: ms => procsOK strict g m.procs ∧ marksOK strict (g.procs m.procs) ms

instance decProcsOK (strict : Bool) : (g : Ghost) → (ps : List (Nat × Bool)) → Decidable (procsOK strict g ps)
  | _, [] => isTrue True.intro
  | g, p :: ps => @instDecidableAnd _ _ inferInstance (decProcsOK strict (g.proc p) ps)

instance decMarksOK (strict : Bool) : (g : Ghost) → (ms : List Mark) → Decidable (marksOK strict g ms)
  | _, [] => isTrue True.intro
  | g, m :: ms => @instDecidableAnd _ _ (decProcsOK strict g m.procs) (decMarksOK strict (g.procs m.procs) ms)

theorem Ghost.run_cons (g : Ghost) (m : Mark) (ms : List Mark) :
    g.run (m :: ms) = (g.procs m.procs).run ms := rfl

theorem Ghost.run_append (g : Ghost) (ms ns : List Mark) : g.run (ms ++ ns) = (g.run ms).run ns := by
  simp [Ghost.run, List.foldl_append]

theorem Ghost.run_snoc (g : Ghost) (ms : List Mark) (m : Mark) :
    g.run (ms ++ [m]) = (g.run ms).procs m.procs := by
  rw [Ghost.run_append]; rfl

theorem marksOK_append (strict : Bool) (g : Ghost) (ms ns : List Mark) :
    marksOK strict g (ms ++ ns) ↔ marksOK strict g ms ∧ marksOK strict (g.run ms) ns := by
  induction ms generalizing g with
  | nil => simp [marksOK, Ghost.run]
  | cons m ms ih =>
    simp only [List.cons_append, marksOK, Ghost.run_cons, ih]
    constructor
    · rintro ⟨a, b, c⟩; exact ⟨⟨a, b⟩, c⟩
    · rintro ⟨⟨a, b⟩, c⟩; exact ⟨a, b, c⟩

theorem marksOK_snoc (strict : Bool) (g : Ghost) (ms : List Mark) (m : Mark) :
    marksOK strict g (ms ++ [m]) ↔ marksOK strict g ms ∧ procsOK strict (g.run ms) m.procs := by
  rw [marksOK_append]; simp [marksOK]

theorem Ghost.run_snoc_begin (g : Ghost) (ms : List Mark) (i : Nat) :
    g.run (ms ++ [.begin i]) = (g.run ms).proc (i, false) := Ghost.run_snoc g ms _

theorem Ghost.run_snoc_done (g : Ghost) (ms : List Mark) (i : Nat) :
    g.run (ms ++ [.done i]) = (g.run ms).proc (i, true) := Ghost.run_snoc g ms _

theorem Ghost.run_snoc_wait (g : Ghost) (ms : List Mark) (i w : Nat) :
    g.run (ms ++ [.wait i w]) = g.run ms := Ghost.run_snoc g ms _

theorem marksOK_snoc_begin (strict : Bool) (g : Ghost) (ms : List Mark) (i : Nat) :
    marksOK strict g (ms ++ [.begin i]) ↔
      marksOK strict g ms ∧ if strict then (g.run ms).maxSeen < i else (g.run ms).maxSeen ≤ i := by
  simp [marksOK_snoc, Mark.procs, procsOK]

theorem marksOK_snoc_done (strict : Bool) (g : Ghost) (ms : List Mark) (i : Nat) :
    marksOK strict g (ms ++ [.done i]) ↔ marksOK strict g ms ∧ (g.run ms).cnt i > 0 := by
  simp [marksOK_snoc, Mark.procs, procsOK]

theorem marksOK_snoc_wait (strict : Bool) (g : Ghost) (ms : List Mark) (i w : Nat) :
    marksOK strict g (ms ++ [.wait i w]) ↔ marksOK strict g ms := by
  simp [marksOK_snoc, Mark.procs, procsOK]

/-- Watermark as `DB.Open` leaves it: `Done(n)` on a fresh watermark. -/
def WM.opened (n : Nat) : WM := WM.init.run [.done n]

/-- The bookkeeping of `WM.opened n` (`WM.opened_grel`): `n` is the one index seen and nothing is
    pending. The `Done(n)` of `Open` has no `Begin`; `cnt` counts from here. -/
def Ghost.opened (n : Nat) : Ghost := { cnt := fun _ => 0, maxSeen := n, seen := fun j => j = n }

/-- A live watermark used within the discipline (`strict`: that of `txnMark`), and the ghost bookkeeping of
    the calls it has handled. -/
structure GRel (strict : Bool) (s : WM) (g : Ghost) : Prop where
  inv : s.Inv
  live : s.failed = false
  cnt : ∀ i, s.pending.val i = g.cnt i
  nonneg : ∀ i, 0 ≤ g.cnt i
  duLe : s.doneUntil ≤ g.maxSeen
  heapLe : ∀ x ∈ s.heap, x ≤ g.maxSeen
  seen : ∀ i, g.seen i → i ∈ s.heap ∨ i ≤ s.doneUntil
  /-- begun once and in increasing order: `doneUntil` is strictly below every pending index -/
  strictGt : strict = true → ∀ x, s.pending.val x > 0 → s.doneUntil < x

theorem WM.processOne_ghost (s : WM) (g : Ghost) (strict : Bool) (hG : GRel strict s g) (i : Nat) (d : Bool)
    (hok : if d then g.cnt i > 0 else (if strict then g.maxSeen < i else g.maxSeen ≤ i)) :
    GRel strict (s.processOne i d).1 (g.proc (i, d)) := by
  have hI := hG.inv
  have hduLe := hG.duLe
  have hle : s.doneUntil ≤ i := by
    cases d with
    | true => exact hI.le_of_pending_pos (by rw [hG.cnt]; exact hok)
    | false =>
      simp only [Bool.false_eq_true, if_false] at hok
      split at hok <;> omega
  have sp := WM.processOne_popSpec s hI i d hle
  -- the counts the pop loop starts from are the ghost counts after this call
  have hp1 : ∀ x, (s.counted i d).val x = (g.proc (i, d)).cnt x := fun x => by
    rw [WM.counted_val, hG.cnt]; rfl
  have hnn : ∀ x, 0 ≤ (g.proc (i, d)).cnt x := by
    intro x
    have := hG.nonneg x
    show 0 ≤ (if i = x then (if d = true then (-1 : Int) else 1) else 0) + g.cnt x
    by_cases hx : i = x
    · subst hx
      rw [if_pos rfl]
      cases d with
      | true => rw [if_pos rfl]; simp only [if_true] at hok; omega
      | false => rw [if_neg Bool.false_ne_true]; omega
    · rw [if_neg hx]; omega
  have hmax : ∀ x ∈ s.pushed i, x ≤ max g.maxSeen i := by
    intro x hx
    rcases (hI.mem_pushed i x).mp hx with rfl | hm
    · omega
    · have := hG.heapLe _ hm; omega
  have hinv := (WM.processOne_trans s hI i d).inv
  rw [WM.processOne_eq s hI i d hG.live hle] at hinv ⊢
  refine ⟨hinv, hG.live, ?_, hnn, ?_, fun x hx => hmax x (sp.sub x hx), ?_, ?_⟩
  · intro x
    rcases sp.vals x with ev | ⟨e0, ev⟩
    · exact ev.trans (hp1 x)
    · have := hnn x
      rw [← hp1] at this ⊢
      exact ev.trans (by omega)
  · rcases sp.tilFrom with et | hm
    · show (popLoop (s.counted i d) (s.pushed i) s.doneUntil).2.2 ≤ max g.maxSeen i
      rw [et]; omega
    · exact hmax _ hm
  · rintro j (rfl | hj)
    · exact sp.popped j ((hI.mem_pushed j j).mpr (.inl rfl))
    · rcases hG.seen j hj with hm | hl
      · exact sp.popped j ((hI.mem_pushed i j).mpr (.inr hm))
      · exact .inr (Nat.le_trans hl sp.mono)
  · intro hst x hx
    have hxm := (sp.sync x).mpr (Pending.val_pos_isSome _ _ hx)
    rcases sp.strict with ⟨_, et⟩ | hlt
    · -- nothing was popped: `x` was pending before, or it is the index just begun
      have hv : (popLoop (s.counted i d) (s.pushed i) s.doneUntil).2.1.val x = (s.counted i d).val x := by
        simp only [Pending.val, sp.keep x hxm]
      rw [hv, WM.counted_val] at hx
      show (popLoop (s.counted i d) (s.pushed i) s.doneUntil).2.2 < x
      rw [et]
      by_cases hxi : i = x
      · subst hxi
        cases d with
        | true => exact hG.strictGt hst i (by simp at hx; omega)
        | false =>
          simp only [Bool.false_eq_true, if_false, hst, if_true] at hok
          omega
      · rw [if_neg hxi, Int.zero_add] at hx
        exact hG.strictGt hst x hx
    · exact hlt x hxm

theorem WM.processMany_ghost (s : WM) (g : Ghost) (strict : Bool) (hG : GRel strict s g) (d : Bool)
    (is : List Nat) (hok : procsOK strict g (is.map (fun i => (i, d)))) :
    GRel strict (s.processMany d is).1 (g.procs (is.map (fun i => (i, d)))) := by
  induction is generalizing s g with
  | nil => exact hG
  | cons i is ih =>
    simp only [List.map_cons, procsOK] at hok
    exact ih _ _ (WM.processOne_ghost s g strict hG i d hok.1) hok.2

theorem WM.step_ghost (s : WM) (g : Ghost) (strict : Bool) (hG : GRel strict s g) (m : Mark)
    (hok : procsOK strict g m.procs) : GRel strict (s.step m).1 (g.procs m.procs) := by
  rcases WM.step_eq_processMany s m hG.live with ⟨idx, w, rfl⟩ | ⟨-, l, d, is, e, ep⟩
  · -- a `wait` mark touches the waiters only
    have hinv := (WM.step_trans s hG.inv (.wait idx w)).inv
    have hnf : ¬ s.failed = true := by simp [hG.live]
    by_cases hge : s.doneUntil ≥ idx
    · simp only [WM.step, if_neg hnf, if_pos hge, Mark.procs, Ghost.procs, List.foldl_nil]
      exact hG
    · simp only [WM.step, if_neg hnf, if_neg hge, Mark.procs, Ghost.procs, List.foldl_nil] at hinv ⊢
      exact { hG with inv := hinv }
  · rw [ep] at hok
    rw [e, ep]
    exact WM.processMany_ghost _ g strict { hG with inv := WM.setLast_inv s hG.inv l } d is hok

theorem WM.run_ghost (s : WM) (g : Ghost) (strict : Bool) (hG : GRel strict s g) (ms : List Mark)
    (hok : marksOK strict g ms) : GRel strict (s.run ms) (g.run ms) := by
  induction ms generalizing s g with
  | nil => exact hG
  | cons m ms ih =>
    simp only [marksOK] at hok
    exact ih _ _ (WM.step_ghost s g strict hG m hok.1) hok.2

theorem WM.opened_inv (n : Nat) : (WM.opened n).Inv := WM.run_inv [.done n]

theorem WM.opened_run (n : Nat) (ms : List Mark) : (WM.opened n).run ms = WM.init.run (.done n :: ms) := by
  unfold WM.opened
  rw [← WM.run_append]; rfl

theorem WM.opened_state (n : Nat) :
    (WM.opened n).doneUntil = n ∧ (WM.opened n).heap = [] ∧ (WM.opened n).failed = false ∧
    (∀ i, (WM.opened n).pending i = none) ∧ (WM.opened n).waiters = [] := by
  have h : WM.opened n = (WM.init.processOne n true).1 := rfl
  have hv : ¬ (WM.init.counted n true).val n > 0 := by
    rw [WM.counted_val]; simp [Pending.val, WM.init, Pending.empty]
  have hp : popLoop (WM.init.counted n true) (WM.init.pushed n) WM.init.doneUntil =
      ([], (WM.init.counted n true).del n, n) := by
    have : WM.init.pushed n = [n] := rfl
    rw [this]; simp only [popLoop, if_neg hv]
  rw [h, WM.processOne_eq WM.init WM.init_inv n true rfl (Nat.zero_le _), hp]
  refine ⟨rfl, rfl, rfl, ?_, rfl⟩
  intro i
  simp only [WM.counted, Pending.del, Pending.set, WM.init, Pending.empty]
  split <;> rfl

theorem WM.opened_grel (n : Nat) (strict : Bool) : GRel strict (WM.opened n) (Ghost.opened n) := by
  obtain ⟨h1, h2, h3, h4, _⟩ := WM.opened_state n
  refine ⟨WM.opened_inv n, h3, ?_, by simp [Ghost.opened], by simp [Ghost.opened, h1], by simp [h2], ?_, ?_⟩
  · intro i; simp [Pending.val, h4, Ghost.opened]
  · intro i hi; simp only [Ghost.opened] at hi; right; rw [h1, hi]; exact Nat.le_refl _
  · intro _ x hx; simp [Pending.val, h4] at hx

theorem WM.opened_ghost (n : Nat) (ms : List Mark) {strict : Bool}
    (hok : marksOK strict (Ghost.opened n) ms) :
    GRel strict ((WM.opened n).run ms) ((Ghost.opened n).run ms) :=
  WM.run_ghost _ _ strict (WM.opened_grel n strict) ms hok

theorem Ghost.procs_cnt (g : Ghost) (ps : List (Nat × Bool)) (i : Nat) :
    (g.procs ps).cnt i = netCount ps i + g.cnt i := by
  induction ps generalizing g with
  | nil => simp [Ghost.procs, netCount]
  | cons p ps ih =>
    have : g.procs (p :: ps) = (g.proc p).procs ps := rfl
    rw [this, ih]; simp only [Ghost.proc, netCount]; omega

theorem Ghost.run_eq_procs (g : Ghost) (ms : List Mark) : g.run ms = g.procs (ms.flatMap Mark.procs) := by
  simp only [Ghost.run, Ghost.procs, List.foldl_flatMap]

theorem Ghost.run_cnt (g : Ghost) (ms : List Mark) (i : Nat) :
    (g.run ms).cnt i = netCount (ms.flatMap Mark.procs) i + g.cnt i := by
  rw [Ghost.run_eq_procs]; exact Ghost.procs_cnt g _ i

theorem Ghost.procs_seen (g : Ghost) (ps : List (Nat × Bool)) (i : Nat) :
    (g.procs ps).seen i ↔ (∃ p ∈ ps, p.1 = i) ∨ g.seen i := by
  induction ps generalizing g with
  | nil => simp [Ghost.procs]
  | cons p ps ih =>
    have : g.procs (p :: ps) = (g.proc p).procs ps := rfl
    rw [this, ih]; simp only [Ghost.proc, List.mem_cons]
    constructor
    · rintro (⟨q, hq, e⟩ | e | h)
      · exact .inl ⟨q, .inr hq, e⟩
      · exact .inl ⟨p, .inl rfl, e.symm⟩
      · exact .inr h
    · rintro (⟨q, rfl | hq, e⟩ | h)
      · exact .inr (.inl e.symm)
      · exact .inl ⟨q, hq, e⟩
      · exact .inr (.inr h)

theorem WM.opened_progress (n : Nat) (ms : List Mark) {strict : Bool}
    (hok : marksOK strict (Ghost.opened n) ms) (t : Nat)
    (hseen : t = n ∨ ∃ p ∈ ms.flatMap Mark.procs, p.1 = t)
    (hdone : ∀ i ≤ t, netCount (ms.flatMap Mark.procs) i = 0) :
    t ≤ ((WM.opened n).run ms).doneUntil := by
  have h := WM.opened_ghost n ms hok
  have hI := h.inv
  have hs : (Ghost.run (Ghost.opened n) ms).seen t := by
    rw [Ghost.run_eq_procs, Ghost.procs_seen]
    rcases hseen with e | e
    · right; simp [Ghost.opened, e]
    · left; exact e
  rcases h.seen t hs with hm | hl
  · -- `t` still in the heap: the head `x ≤ t` has a positive count (`headPos`), but its begins and dones cancel
    exfalso
    cases hh : ((WM.opened n).run ms).heap with
    | nil => rw [hh] at hm; simp at hm
    | cons x rest =>
      have hpos := hI.headPos x rest hh
      have hxt : x ≤ t := by
        have hs := hI.heapSorted
        have hm' : t ∈ ((WM.opened n).run ms).heap := hm
        rw [hh] at hs hm'
        rcases List.mem_cons.mp hm' with e | hm'
        · omega
        · exact Nat.le_of_lt ((List.pairwise_cons.mp hs).1 t hm')
      have : ((WM.opened n).run ms).pending.val x = 0 := by
        rw [h.cnt, Ghost.run_cnt]; simp [Ghost.opened]; exact hdone x hxt
      omega
  · exact hl

end Badger
