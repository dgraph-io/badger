import BadgerProofs.Lemmas.LogUnits
/-!
Cutting a log at an arbitrary byte: `take c (encodeAll …)` is the complete units that fit, then
complete records of at most one open transaction, then a strict prefix of the next record
(`take_units`, over `take_entries` inside the unit the cut falls into); `unitsBefore_spec` says which
units fit.
-/
namespace Badger

/-- The longest prefix of the units `us` (written from `off`) that lies entirely within the first
    `c` bytes. -/
def unitsBefore (cipher : Nat → Nat → UInt8) : Nat → Nat → List LogUnit → List LogUnit
  | _, _, [] => []
  | off, c, u :: us =>
    if encLen cipher off u.entries ≤ c then
      u :: unitsBefore cipher (off + encLen cipher off u.entries) (c - encLen cipher off u.entries) us
    else []

/-- The torn candidate record: file offset of the first record that does not lie entirely within
    the first `c` bytes, and the bytes of it that survive the cut. -/
def tornAt (cipher : Nat → Nat → UInt8) : Nat → Nat → List Entry → Nat × Bytes
  | off, _, [] => (off, [])
  | off, c, e :: es =>
    if (encodeEntry (cipher off) e).length ≤ c then
      tornAt cipher (off + (encodeEntry (cipher off) e).length) (c - (encodeEntry (cipher off) e).length) es
    else (off, (encodeEntry (cipher off) e).take c)

section
variable (cipher : Nat → Nat → UInt8)

theorem tornAt_append (a : List Entry) : ∀ (off c : Nat) (b : List Entry), encLen cipher off a ≤ c →
    tornAt cipher off c (a ++ b) =
      tornAt cipher (off + encLen cipher off a) (c - encLen cipher off a) b := by
  induction a with
  | nil => intro off c b _; rfl
  | cons e es ih =>
    intro off c b h
    rw [encLen_cons] at h ⊢
    rw [List.cons_append, tornAt, if_pos (Nat.le_trans (Nat.le_add_right _ _) h),
      ih _ _ _ (Nat.le_sub_of_add_le' h), Nat.add_assoc, Nat.sub_sub]

theorem take_entries (es : List Entry) : ∀ (off c : Nat) (more : List Entry), c < encLen cipher off es →
    ∃ p e q j, es = p ++ e :: q ∧ j < (encodeEntry (cipher (off + encLen cipher off p)) e).length ∧
      (encodeAll cipher off es).take c =
        encodeAll cipher off p ++ (encodeEntry (cipher (off + encLen cipher off p)) e).take j ∧
      tornAt cipher off c (es ++ more) =
        (off + encLen cipher off p, (encodeEntry (cipher (off + encLen cipher off p)) e).take j) := by
  induction es with
  | nil => intro off c more h; exact absurd h (Nat.not_lt_zero c)
  | cons e es ih =>
    intro off c more h
    rw [encLen_cons] at h
    by_cases hc : (encodeEntry (cipher off) e).length ≤ c
    · obtain ⟨p, e', q, j, hes, hj, htake, htorn⟩ :=
        ih (off + (encodeEntry (cipher off) e).length) (c - (encodeEntry (cipher off) e).length) more
          (by omega)
      refine ⟨e :: p, e', q, j, by rw [hes, List.cons_append], ?_, ?_, ?_⟩
      · rw [encLen_cons, ← Nat.add_assoc]; exact hj
      · rw [encodeAll_cons, List.take_append, List.take_of_length_le hc, htake, encLen_cons,
          ← Nat.add_assoc, encodeAll_cons, List.append_assoc]
      · rw [List.cons_append, tornAt, if_pos hc, htorn, encLen_cons, ← Nat.add_assoc]
    · refine ⟨[], e, es, c, rfl, Nat.lt_of_not_le hc, ?_, ?_⟩
      · rw [encodeAll_cons, List.take_append_of_le_length (Nat.le_of_not_le hc)]; rfl
      · rw [List.cons_append, tornAt, if_neg hc]; rfl

/-- The shape of a cut log: complete units, then complete records `p` of one open transaction,
    then the surviving bytes `tail` of the torn record (as located by `tornAt`), which are either
    nothing or a strict prefix of a well-formed record. -/
theorem take_units (us : List LogUnit) : ∀ (off c : Nat), (∀ u ∈ us, u.WF) →
    ∃ ts p tail, ts ≠ 0 ∧ (∀ e ∈ p, TxnEntry ts e) ∧
      (encodeAll cipher off (unitsEntries us)).take c =
        encodeAll cipher off (unitsEntries (unitsBefore cipher off c us) ++ p) ++ tail ∧
      tornAt cipher off c (unitsEntries us) =
        (off + encLen cipher off (unitsEntries (unitsBefore cipher off c us) ++ p), tail) ∧
      (tail = [] ∨ ∃ ks e j, e.WF ∧ j < (encodeEntry ks e).length ∧ tail = (encodeEntry ks e).take j) := by
  induction us with
  | nil =>
    intro off c _
    exact ⟨1, [], [], by decide, by simp, by simp [unitsEntries, unitsBefore, encodeAll],
      by simp [unitsEntries, unitsBefore, tornAt, encLen, encodeAll], Or.inl rfl⟩
  | cons u us ih =>
    intro off c wf
    have wfu := wf u List.mem_cons_self
    rw [unitsBefore, unitsEntries_cons]
    by_cases hc : encLen cipher off u.entries ≤ c
    · obtain ⟨ts, p, tail, hts, hp, htake, htorn, htail⟩ :=
        ih (off + encLen cipher off u.entries) (c - encLen cipher off u.entries)
          (fun x hx => wf x (List.mem_cons_of_mem _ hx))
      rw [if_pos hc, unitsEntries_cons]
      refine ⟨ts, p, tail, hts, hp, ?_, ?_, htail⟩
      · rw [encodeAll_append, List.take_append, List.take_of_length_le hc,
          show (encodeAll cipher off u.entries).length = encLen cipher off u.entries from rfl, htake,
          List.append_assoc u.entries, encodeAll_append cipher u.entries, List.append_assoc]
      · rw [tornAt_append cipher _ _ _ _ hc, htorn, List.append_assoc u.entries,
          encLen_append cipher off u.entries, Nat.add_assoc]
    · obtain ⟨p, e, q, j, hes, hj, htake, htorn⟩ :=
        take_entries cipher u.entries off c (unitsEntries us) (Nat.lt_of_not_le hc)
      obtain ⟨ts, hts, hp⟩ := LogUnit.prefix_txn u wfu p e q hes
      have hwfe : e.WF := LogUnit.entries_WF u wfu e (by rw [hes]; simp)
      rw [if_neg hc]
      refine ⟨ts, p, _, hts, hp, ?_, htorn, Or.inr ⟨_, e, j, hwfe, hj, rfl⟩⟩
      rw [encodeAll_append, List.take_append_of_le_length (Nat.le_of_not_le hc), htake]
      rfl

theorem unitsBefore_spec (us : List LogUnit) : ∀ (off c : Nat), ∃ rest,
    us = unitsBefore cipher off c us ++ rest ∧
    encLen cipher off (unitsEntries (unitsBefore cipher off c us)) ≤ c ∧
    ∀ u r, rest = u :: r →
      c < encLen cipher off (unitsEntries (unitsBefore cipher off c us ++ [u])) := by
  induction us with
  | nil => intro off c; exact ⟨[], rfl, Nat.zero_le _, fun u r h => nomatch h⟩
  | cons v vs ih =>
    intro off c
    rw [unitsBefore]
    by_cases hc : encLen cipher off v.entries ≤ c
    · obtain ⟨rest, h1, h2, h3⟩ := ih (off + encLen cipher off v.entries) (c - encLen cipher off v.entries)
      rw [if_pos hc]
      refine ⟨rest, by rw [List.cons_append, ← h1], ?_, fun u r h => ?_⟩
      · rw [unitsEntries_cons, encLen_append]; omega
      · have := h3 u r h
        rw [List.cons_append, unitsEntries_cons, encLen_append]; omega
    · rw [if_neg hc]
      refine ⟨v :: vs, rfl, Nat.zero_le _, fun u r h => ?_⟩
      obtain rfl := (List.cons.inj h).1
      rw [List.nil_append, unitsEntries_cons, show unitsEntries [] = [] from rfl, List.append_nil]
      exact Nat.lt_of_not_le hc

theorem unitsBefore_len (us : List LogUnit) (off c : Nat) :
    encLen cipher off (unitsEntries (unitsBefore cipher off c us)) ≤ c :=
  (unitsBefore_spec cipher us off c).elim fun _ h => h.2.1

theorem unitsBefore_prefix (us : List LogUnit) (off c : Nat) : unitsBefore cipher off c us <+: us :=
  (unitsBefore_spec cipher us off c).elim fun rest h => ⟨rest, h.1.symm⟩

end
end Badger
