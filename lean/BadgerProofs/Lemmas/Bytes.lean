import BadgerModel.Bytes
/-!
Byte strings: the fixed-width integer encodings round-trip, and `cmpBytes` is a total order.
`cmpBytes` on two non-empty strings is the byte comparison `then` the comparison of the tails
(`cmpBytes_cons`), so it is core's `List.compareLex` (`cmpBytes_eq_compareLex`) and the order laws are
those of `Std.TransCmp` and `Std.LawfulEqCmp`, restated with `≤` written `≠ .gt`. The keys with a given
prefix form an interval of the order (`prefix_convex`), and big-endian encodings of one width compare
like the numbers (`cmpBytes_beBytes`). With it, `compare` on `Nat` under a common summand, by quotient
and remainder, and under subtraction from a common bound (a key stores its version as `maxU64 - ts`).
-/
namespace Badger

@[simp] theorem beBytes_length (n k : Nat) : (beBytes n k).length = k := by
  induction k generalizing n with
  | zero => rfl
  | succ k ih => simp [beBytes, ih]

@[simp] theorem leBytes_length (n k : Nat) : (leBytes n k).length = k := by
  induction k generalizing n with
  | zero => rfl
  | succ k ih => simp [leBytes, ih]

theorem u8_ofNat_toNat (x : Nat) (h : x < 256) : (UInt8.ofNat x).toNat = x := by
  simp [UInt8.toNat_ofNat']; omega

theorem beBytes_head {n k : Nat} (h : n < 256 ^ (k + 1)) :
    (UInt8.ofNat (n / 256 ^ k % 256)).toNat = n / 256 ^ k := by
  rw [u8_ofNat_toNat _ (Nat.mod_lt _ (by decide)),
    Nat.mod_eq_of_lt (Nat.div_lt_of_lt_mul (by rwa [Nat.pow_succ] at h))]

theorem beNat_beBytes (n k : Nat) (h : n < 256 ^ k) : beNat (beBytes n k) = n := by
  induction k generalizing n with
  | zero => simp at h; simp [beBytes, beNat, h]
  | succ k ih =>
    simp only [beBytes, beNat, beBytes_length]
    rw [ih _ (Nat.mod_lt _ (Nat.pow_pos (by decide))), beBytes_head h]
    exact Nat.div_add_mod' n (256 ^ k)

theorem beNat_beBytes4 (n : Nat) (h : n < 2 ^ 32) : beNat (beBytes n 4) = n :=
  beNat_beBytes n 4 (by simpa using h)

theorem beNat_beBytes2 (n : Nat) (h : n < 2 ^ 16) : beNat (beBytes n 2) = n :=
  beNat_beBytes n 2 (by simpa using h)

theorem beNat_append (a b : Bytes) : beNat (a ++ b) = beNat a * 256 ^ b.length + beNat b := by
  induction a with
  | nil => simp [beNat]
  | cons x xs ih =>
    simp only [List.cons_append, beNat, ih, List.length_append]
    rw [Nat.pow_add, Nat.add_mul, Nat.mul_assoc, Nat.add_assoc]

theorem leNat_leBytes (n k : Nat) (h : n < 256 ^ k) : leNat (leBytes n k) = n := by
  induction k generalizing n with
  | zero => simp at h; simp [leBytes, leNat, h]
  | succ k ih =>
    have h1 : n / 256 < 256 ^ k := Nat.div_lt_of_lt_mul (by rwa [Nat.pow_succ, Nat.mul_comm] at h)
    simp only [leBytes, leNat]
    rw [ih _ h1, u8_ofNat_toNat _ (Nat.mod_lt _ (by decide))]
    omega

theorem cmpBytes_cons (x y : UInt8) (xs ys : Bytes) :
    cmpBytes (x :: xs) (y :: ys) = (compare x.toNat y.toNat).then (cmpBytes xs ys) := by
  rw [cmpBytes, Nat.compare_eq_ite_lt]
  split
  · rfl
  · split <;> rfl

/-- Two bytes compared as numbers. A comparison of its own and not `compareOn UInt8.toNat`: core's instances
    for that one go through `Nat.instTransOrd`, which is proved with `Classical.choice`; with this one the
    order laws of `cmpBytes` (`cmpBytes_transCmp` … `cmpBytes_of_isPrefixOf`) depend on `propext` only.
    (`cmpBytes_beBytes` at the end of the file does depend on `Classical.choice`.) -/
def cmpByte (x y : UInt8) : Ordering := compare x.toNat y.toNat

local instance : Std.TransCmp cmpByte where
  eq_swap := (Nat.compare_swap _ _).symm
  isLE_trans h1 h2 := Nat.isLE_compare.mpr (Nat.le_trans (Nat.isLE_compare.mp h1) (Nat.isLE_compare.mp h2))

local instance : Std.LawfulEqCmp cmpByte where
  eq_of_compare h := UInt8.toNat_inj.mp (Nat.compare_eq_eq.mp h)

theorem cmpBytes_eq_compareLex (a b : Bytes) : cmpBytes a b = List.compareLex cmpByte a b := by
  induction a generalizing b with
  | nil => cases b <;> rfl
  | cons x xs ih =>
    cases b with
    | nil => rfl
    | cons y ys => rw [cmpBytes_cons, List.compareLex_cons_cons, ih]; rfl

instance cmpBytes_transCmp : Std.TransCmp cmpBytes where
  eq_swap {a b} := by
    rw [cmpBytes_eq_compareLex, cmpBytes_eq_compareLex]; exact Std.OrientedCmp.eq_swap
  isLE_trans {a b c} := by
    rw [cmpBytes_eq_compareLex a b, cmpBytes_eq_compareLex b c, cmpBytes_eq_compareLex a c]
    exact Std.TransCmp.isLE_trans

instance cmpBytes_lawfulEqCmp : Std.LawfulEqCmp cmpBytes where
  eq_of_compare {a b} := by rw [cmpBytes_eq_compareLex]; exact Std.LawfulEqCmp.eq_of_compare

theorem cmpBytes_eq_iff (a b : Bytes) : cmpBytes a b = .eq ↔ a = b := Std.LawfulEqCmp.compare_eq_iff_eq

theorem cmpBytes_refl (a : Bytes) : cmpBytes a a = .eq := Std.ReflCmp.compare_self

theorem cmpBytes_swap (a b : Bytes) : (cmpBytes a b).swap = cmpBytes b a := Std.OrientedCmp.eq_swap.symm

theorem cmpBytes_gt_iff_lt (a b : Bytes) : cmpBytes a b = .gt ↔ cmpBytes b a = .lt := Std.OrientedCmp.gt_iff_lt

theorem cmpBytes_lt_iff_gt (a b : Bytes) : cmpBytes a b = .lt ↔ cmpBytes b a = .gt :=
  Std.OrientedCmp.gt_iff_lt.symm

theorem cmpBytes_lt_trans {a b c : Bytes} (h1 : cmpBytes a b = .lt) (h2 : cmpBytes b c = .lt) :
    cmpBytes a c = .lt := Std.TransCmp.lt_trans h1 h2

theorem cmpBytes_gt_trans {a b c : Bytes} (h1 : cmpBytes a b = .gt) (h2 : cmpBytes b c = .gt) :
    cmpBytes a c = .gt := Std.TransCmp.gt_trans h1 h2

theorem cmpBytes_lt_irrefl (a : Bytes) : cmpBytes a a ≠ .lt := by rw [cmpBytes_refl]; simp

theorem cmpBytes_lt_asymm {a b : Bytes} (h : cmpBytes a b = .lt) : cmpBytes b a ≠ .lt :=
  Std.OrientedCmp.not_lt_of_lt h

theorem cmpBytes_lt_ne {a b : Bytes} (h : cmpBytes a b = .lt) : a ≠ b :=
  fun e => cmpBytes_lt_irrefl a (e ▸ h)

theorem cmpBytes_antisymm {a b : Bytes} (h1 : cmpBytes a b ≠ .gt) (h2 : cmpBytes b a ≠ .gt) :
    a = b :=
  Std.LawfulEqCmp.eq_of_compare (Std.OrientedCmp.isLE_antisymm (Ordering.isLE_iff_ne_gt.mpr h1) (Ordering.isLE_iff_ne_gt.mpr h2))

theorem cmpBytes_le_trans {a b c : Bytes} (h1 : cmpBytes a b ≠ .gt) (h2 : cmpBytes b c ≠ .gt) :
    cmpBytes a c ≠ .gt :=
  Ordering.isLE_iff_ne_gt.mp (Std.TransCmp.isLE_trans (Ordering.isLE_iff_ne_gt.mpr h1) (Ordering.isLE_iff_ne_gt.mpr h2))

theorem cmpBytes_lt_of_le_of_lt {a b c : Bytes} (h1 : cmpBytes a b ≠ .gt) (h2 : cmpBytes b c = .lt) :
    cmpBytes a c = .lt := Std.TransCmp.lt_of_isLE_of_lt (Ordering.isLE_iff_ne_gt.mpr h1) h2

theorem cmpBytes_lt_of_lt_of_le {a b c : Bytes} (h1 : cmpBytes a b = .lt) (h2 : cmpBytes b c ≠ .gt) :
    cmpBytes a c = .lt := Std.TransCmp.lt_of_lt_of_isLE h1 (Ordering.isLE_iff_ne_gt.mpr h2)

theorem cmpBytes_ne_lt_swap {a b : Bytes} (h : cmpBytes a b ≠ .lt) : cmpBytes b a ≠ .gt := by
  intro hc; exact h ((cmpBytes_gt_iff_lt b a).mp hc)

theorem cmpBytes_take_mono (n : Nat) (a b : Bytes) (h : cmpBytes a b ≠ .gt) :
    cmpBytes (a.take n) (b.take n) ≠ .gt := by
  induction n generalizing a b with
  | zero => exact nofun
  | succ n ih =>
    cases a with
    | nil => cases b <;> exact nofun
    | cons x xs =>
      cases b with
      | nil => exact absurd rfl h
      | cons y ys =>
        rw [List.take_succ_cons, List.take_succ_cons, cmpBytes_cons]
        rw [cmpBytes_cons] at h
        cases hc : compare x.toNat y.toNat <;> rw [hc] at h
        · exact nofun
        · exact ih xs ys h
        · exact absurd rfl h

theorem isPrefixOf_self (p : Bytes) : p.isPrefixOf p = true :=
  List.isPrefixOf_iff_prefix.mpr (List.prefix_refl p)

theorem take_of_isPrefixOf {p k : Bytes} (h : p.isPrefixOf k = true) : k.take p.length = p :=
  (List.prefix_iff_eq_take.mp (List.isPrefixOf_iff_prefix.mp h)).symm

/-- keys with a given prefix form an interval of the byte order: truncation to the length of the
    prefix is monotone -/
theorem prefix_convex (p a b c : Bytes) (ha : p.isPrefixOf a = true) (hc : p.isPrefixOf c = true)
    (hab : cmpBytes a b ≠ .gt) (hbc : cmpBytes b c ≠ .gt) : p.isPrefixOf b = true := by
  have h1 := cmpBytes_take_mono p.length a b hab
  have h2 := cmpBytes_take_mono p.length b c hbc
  rw [take_of_isPrefixOf ha] at h1
  rw [take_of_isPrefixOf hc] at h2
  exact List.isPrefixOf_iff_prefix.mpr (List.prefix_iff_eq_take.mpr (cmpBytes_antisymm h1 h2))

theorem cmpBytes_nil_ne_lt (a : Bytes) : cmpBytes a [] ≠ .lt := by
  cases a <;> simp [cmpBytes]

theorem prefix_ge {p k : Bytes} (h : p.isPrefixOf k = true) : cmpBytes k p ≠ .lt := by
  induction p generalizing k with
  | nil => exact cmpBytes_nil_ne_lt k
  | cons x xs ih =>
    cases k with
    | nil => simp [List.isPrefixOf] at h
    | cons y ys =>
      simp only [List.isPrefixOf, Bool.and_eq_true, beq_iff_eq] at h
      obtain ⟨rfl, h⟩ := h
      rw [cmpBytes_cons, Nat.compare_eq_eq.mpr rfl]
      exact ih h

theorem cmpBytes_of_isPrefixOf {p k : Bytes} (h : p.isPrefixOf k = true) : cmpBytes p k ≠ .gt :=
  cmpBytes_ne_lt_swap (prefix_ge h)

theorem compare_add_left (a b c : Nat) : compare (a + b) (a + c) = compare b c := by
  simp only [Nat.compare_eq_ite_lt, Nat.add_lt_add_iff_left]

theorem compare_sub_left {a b m : Nat} (ha : a ≤ m) (hb : b ≤ m) :
    compare (m - a) (m - b) = compare b a := by
  rcases Nat.lt_trichotomy a b with h | rfl | h
  · rw [Nat.compare_eq_gt.mpr h,
      Nat.compare_eq_gt.mpr (Nat.sub_lt_sub_left (Nat.lt_of_lt_of_le h hb) h)]
  · rw [Nat.compare_eq_eq.mpr rfl, Nat.compare_eq_eq.mpr rfl]
  · rw [Nat.compare_eq_lt.mpr h,
      Nat.compare_eq_lt.mpr (Nat.sub_lt_sub_left (Nat.lt_of_lt_of_le h ha) h)]

theorem compare_div_mod (n m p : Nat) :
    compare n m = (compare (n / p) (m / p)).then (compare (n % p) (m % p)) := by
  rcases Nat.lt_trichotomy (n / p) (m / p) with h | h | h
  · rw [Nat.compare_eq_lt.mpr h, Nat.compare_eq_lt.mpr (Nat.lt_of_div_lt_div h)]; rfl
  · rw [Nat.compare_eq_eq.mpr h, Ordering.eq_then, ← compare_add_left (p * (m / p)) (n % p) (m % p)]
    conv => rhs; rw [← h, Nat.div_add_mod, h, Nat.div_add_mod]
  · rw [Nat.compare_eq_gt.mpr h, Nat.compare_eq_gt.mpr (Nat.lt_of_div_lt_div h)]; rfl

theorem cmpBytes_beBytes (n m k : Nat) (hn : n < 256 ^ k) (hm : m < 256 ^ k) :
    cmpBytes (beBytes n k) (beBytes m k) = compare n m := by
  induction k generalizing n m with
  | zero =>
    simp at hn hm; subst hn; subst hm; rfl
  | succ k ih =>
    have hp : 0 < 256 ^ k := Nat.pow_pos (by decide)
    rw [beBytes, beBytes, cmpBytes_cons, beBytes_head hn, beBytes_head hm,
      ih _ _ (Nat.mod_lt _ hp) (Nat.mod_lt _ hp), ← compare_div_mod n m]

end Badger
