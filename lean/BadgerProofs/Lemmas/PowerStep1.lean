import BadgerProofs.Lemmas.PowerInv
import BadgerProofs.Lemmas.CrashStep2
/-!
Preservation of `PCore` by the atoms of the writer, the syncs, the start of a logical step and
the atoms of a compaction: what `PMem` and `PSst` keep under their updates, then one lemma per atom
-/
namespace Badger

variable {R : ViewRel} {s : PState} {Q : QFs}

/-- `s2` agrees with `s1` on everything `PCore` mentions -/
structure PEq (s1 s2 : PState) : Prop where
  imm : s2.imm = s1.imm
  curOpen : s2.curOpen = s1.curOpen
  cur : s2.cur = s1.cur
  nextMem : s2.nextMem = s1.nextMem
  mtxns : s2.mtxns = s1.mtxns
  fpc : s2.fpc = s1.fpc
  fsst : s2.fsst = s1.fsst
  nextSst : s2.nextSst = s1.nextSst
  tset : s2.tset = s1.tset
  tsetD : s2.tsetD = s1.tsetD
  mdirty : s2.mdirty = s1.mdirty
  tcont : s2.tcont = s1.tcont
  kout : s2.kout = s1.kout
  kdir : s2.kdir = s1.kdir
  curDirty : s2.curDirty = s1.curDirty
  curDurEntry : s2.curDurEntry = s1.curDurEntry
  pendU : s2.pendU = s1.pendU
  commits : s2.commits = s1.commits
  done : s2.done = s1.done
  acked : s2.acked = s1.acked

theorem PCore_of_eq (R : ViewRel) (s1 s2 : PState) (Q : QFs) (h : PCore R s1 Q) (e : PEq s1 s2) : PCore R s2 Q := by
  obtain ⟨e1, e2, e3, e4, e5, e6, e7, e8, e9, e10, e11, e12, e13, e14, e15, e16, e17, e18, e19, e20⟩ := e
  cases s1; cases s2
  simp only at e1 e2 e3 e4 e5 e6 e7 e8 e9 e10 e11 e12 e13 e14 e15 e16 e17 e18 e19 e20
  subst e1 e2 e3 e4 e5 e6 e7 e8 e9 e10 e11 e12 e13 e14 e15 e16 e17 e18 e19 e20
  exact ⟨h.man, h.sst, h.mem, h.logic⟩

theorem PCore_wq (h : PCore R s Q) (w : List Atom) :
    PCore R { s with wq := w } Q := ⟨h.man, h.sst, h.mem, h.logic⟩

theorem PCore_qupd_frame (h : PCore R s Q) (p : Path) (v : PV)
    (h1 : ∀ n, p ≠ .mem n) (h2 : ∀ n, p ≠ .sst n) (h3 : p ≠ .manifest) : PCore R s (qupd Q p v) :=
  ⟨by rw [qupd_ne _ _ _ _ h3.symm]; exact h.man, by rw [sstQ_qupd_ne Q v h2]; exact h.sst,
    by rw [memQ_qupd_ne Q v h1]; exact h.mem, h.logic⟩

theorem PCore_qupd_vlog (R : ViewRel) (s : PState) (Q : QFs) (h : PCore R s Q) (n : Nat) (v : PV) :
    PCore R s (qupd Q (.vlog n) v) where
  man := by rw [qupd_ne _ _ _ _ (by simp)]; exact h.man
  sst := by rw [sstQ_qupd_vlog]; exact h.sst
  mem := by rw [memQ_qupd_vlog]; exact h.mem
  logic := h.logic

theorem PCore_vlog (h : PCore R s Q) (n : Nat) (v : PV) (vf vc vch : Nat) :
    PCore R { s with vfid := vf, vcount := vc, vchunks := vch } (qupd Q (.vlog n) v) :=
  have h' := PCore_qupd_vlog R s Q h n v
  ⟨h'.man, h'.sst, h'.mem, h'.logic⟩

section region
variable {tset tsetD : List (Nat × Nat)} {tcont : List (Nat × List CEnt)} {imm : List Nat}
  {mtxns : List (Nat × List Txn)} {fpc fsst nextSst : Nat} {kins : List Nat} {kout : List KOut} {kdir : Bool}
  {Qs : Nat → PV}

theorem PMem_setV_cur {cur nextMem : Nat} {curDirty : Bool} (b : Bool) {curDurEntry : Bool}
    {pendU : List (Nat × Nat)} {acked done : Nat} {Qm : Nat → PV} (f : Option Inode)
    (h : PMem imm true cur nextMem mtxns curDirty curDurEntry pendU acked done tset tsetD tcont Qm)
    (hni : cur ∉ imm) (hb : b = false → curDirty = false) :
    PMem imm true cur nextMem mtxns b curDurEntry pendU acked done tset tsetD tcont
      (fun n => if n = cur then (Qm cur).setV f else Qm n) where
  immP := by
    intro k hk
    have : k ≠ cur := fun e => hni (e ▸ hk)
    simp only [this, if_false]
    exact h.immP k hk
  curP := by
    intro _
    obtain ⟨g, jd, h1, h2, h3, h4, h5, h6, h7⟩ := h.curP rfl
    simp only [if_true]
    refine ⟨g, jd, h1, h2, h3, fun e => h4 (hb e), h5, h6, ?_⟩
    intro hl
    have hl' : (Qm cur).lk = false := hl
    have := h7 hl'
    simp only [PV.setV, hl', Bool.false_eq_true, if_false]
    exact this
  deadP := by
    intro n h1 h2
    have : n ≠ cur := fun e => h2 ⟨rfl, e⟩
    simp only [this, if_false]
    exact h.deadP n h1 h2
  pend := h.pend

/-- below `fpc = 3` `PSst` says nothing about the flusher -/
theorem PSst_fpc_low {imm' : List Nat} {fpc' fsst' nextSst' : Nat} (h : PSst tset tsetD tcont imm mtxns fpc fsst nextSst kout kdir Qs)
    (hp : fpc' ≤ 2) (hn : nextSst ≤ nextSst') :
    PSst tset tsetD tcont imm' mtxns fpc' fsst' nextSst' kout kdir Qs :=
  { h with
    dLt := fun n hn' => h.dLt n (Nat.le_trans hn hn')
    fl3 := by intro k _ a _; omega
    fl4 := by intro _ a; omega
    fl6 := by intro _ a; omega }

/-- msync of the table file `id`; `fpc'` and `g` are what the flusher resp. the compaction make of
    it: new obligations about durable content arise for `id` only -/
theorem PSst_setD
    (hI : InvSst R tset tcont imm mtxns fpc fsst nextSst kins kout (fun n => (Qs n).fv))
    (h : PSst tset tsetD tcont imm mtxns fpc fsst nextSst kout kdir Qs) (id fpc' : Nat) (g : KOut → KOut)
    (hgid : ∀ o, (g o).id = o.id) (hgents : ∀ o, (g o).ents = o.ents)
    (hg3 : ∀ o, (g o).stage = 3 → o.stage = 3 ∨ (o.id = id ∧ 2 ≤ o.stage))
    (hg1 : ∀ o, 1 ≤ o.stage → 1 ≤ (g o).stage)
    (hf3 : 3 ≤ fpc' → fpc' ≤ 4 → 2 ≤ fpc ∧ fpc ≤ 4 ∧ (fsst ≠ id → 3 ≤ fpc))
    (hf4 : fpc' = 4 → fpc = 4) (hf6 : 6 ≤ fpc' → 6 ≤ fpc) :
    PSst tset tsetD tcont imm mtxns fpc' fsst nextSst (kout.map g) kdir
      (fun n => if n = id then (Qs id).setD (Qs id).fv else Qs n) := by
  have hlk : ∀ n, (if n = id then (Qs id).setD (Qs id).fv else Qs n).lk = (Qs n).lk := by
    intro n; split
    · rename_i e; rw [e]; rfl
    · rfl
  have hfd : ∀ n es, isTable (Qs n).fv es → (n ≠ id → isTable (Qs n).fd es) →
      isTable (if n = id then (Qs id).setD (Qs id).fv else Qs n).fd es := by
    intro n es h1 h2
    by_cases hn : n = id
    · rw [if_pos hn, ← hn]; exact h1
    · rw [if_neg hn]; exact h2 hn
  exact { h with
    tables := by
      intro n hn
      obtain ⟨a, b, c⟩ := h.tables n hn
      refine ⟨(hlk n).trans a, ?_, hfd n _ b fun _ => c⟩
      by_cases e : n = id
      · rw [if_pos e, ← e]; exact b
      · rw [if_neg e]; exact b
    fl3 := by
      intro k hk h3 h4
      obtain ⟨a, b, c⟩ := hf3 h3 h4
      exact hfd fsst _ (hI.flush2 k hk a b) fun hn => h.fl3 k hk (c hn) b
    fl4 := fun hne h4 => (hlk fsst).trans (h.fl4 hne (hf4 h4))
    fl6 := fun hne h6 => h.fl6 hne (hf6 h6)
    kout3 := by
      intro o' ho' h3
      obtain ⟨o, ho, rfl⟩ := List.mem_map.mp ho'
      rw [hgid, hgents]
      refine hfd o.id _ ((hI.koutFiles o ho).2 ?_) fun hn => h.kout3 o ho ?_
      · rcases hg3 o h3 with e | ⟨_, e⟩ <;> omega
      · rcases hg3 o h3 with e | ⟨e, _⟩
        · exact e
        · exact absurd e hn
    kdirOk := by
      intro hk o' ho'
      obtain ⟨o, ho, rfl⟩ := List.mem_map.mp ho'
      obtain ⟨a, b⟩ := h.kdirOk hk o ho
      rw [hgid]
      exact ⟨hg1 o a, (hlk o.id).trans b⟩ }

theorem PSst_upd_free (id : Nat) (v : PV)
    (h : PSst tset tsetD tcont imm mtxns fpc fsst nextSst kout kdir Qs)
    (h1 : aget id tset = none) (h2 : aget id tsetD = none)
    (h3 : imm ≠ [] → 3 ≤ fpc → fpc ≤ 4 → fsst ≠ id)
    (h4 : ∀ o ∈ kout, o.id = id → o.stage ≠ 3 ∧ (kdir = true → v.lk = true)) :
    PSst tset tsetD tcont imm mtxns fpc fsst nextSst kout kdir (fun n => if n = id then v else Qs n) :=
  { h with
    tables := by
      intro n hn
      have : n ≠ id := by
        intro e; subst e
        rw [h1, h2] at hn
        simp at hn
      simp only [this, if_false]
      exact h.tables n hn
    fl3 := by
      intro k hk a b
      have hne : imm ≠ [] := by intro e; rw [e] at hk; cases hk
      simp only [h3 hne a b, if_false]
      exact h.fl3 k hk a b
    fl4 := by
      intro hne a
      simp only [h3 hne (by omega) (by omega), if_false]
      exact h.fl4 hne a
    kout3 := by
      intro o ho a
      by_cases hn : o.id = id
      · exact absurd a (h4 o ho hn).1
      · simp only [hn, if_false]; exact h.kout3 o ho a
    kdirOk := by
      intro hk o ho
      obtain ⟨a, b⟩ := h.kdirOk hk o ho
      refine ⟨a, ?_⟩
      by_cases hn : o.id = id
      · simp only [hn, if_true]; exact (h4 o ho hn).2 hk
      · simp only [hn, if_false]; exact b }

theorem PSst_kout (id st : Nat) (hst : st ≠ 3)
    (h : PSst tset tsetD tcont imm mtxns fpc fsst nextSst kout kdir Qs)
    (hk : kdir = true → 1 ≤ st) :
    PSst tset tsetD tcont imm mtxns fpc fsst nextSst (kout.map (setStage id st)) kdir Qs :=
  { h with
    kout3 := by
      intro o ho a
      obtain ⟨o2, ho2, he⟩ := List.mem_map.mp ho
      subst he
      rw [setStage_stage] at a
      by_cases hn : o2.id = id
      · rw [if_pos hn] at a; exact absurd a hst
      · rw [if_neg hn] at a
        simp only [setStage_id, setStage_ents]
        exact h.kout3 o2 ho2 a
    kdirOk := by
      intro hkd o ho
      obtain ⟨o2, ho2, he⟩ := List.mem_map.mp ho
      subst he
      obtain ⟨a, b⟩ := h.kdirOk hkd o2 ho2
      simp only [setStage_id]
      refine ⟨?_, b⟩
      rw [setStage_stage]
      by_cases hn : o2.id = id
      · rw [if_pos hn]; exact hk hkd
      · rw [if_neg hn]; exact a }

end region

theorem fv_dead (hI : Inv R s (fvOf Q)) (hq : QOk Q) (n : Nat)
    (h1 : n ∉ s.imm) (h2 : ¬ (s.curOpen = true ∧ n = s.cur)) : (Q (.mem n)).fv = none ∧ (Q (.mem n)).fd = none := by
  have hfv : (Q (.mem n)).fv = none := hI.mem_none h1 h2
  refine ⟨hfv, ?_⟩
  have := (hq (.mem n)).fvd
  rw [hfv] at this
  exact Option.isNone_iff_eq_none.mp this.symm

/-- `mhdr`, `wput`: one more record in the active WAL (not a transaction end); `s'` is any state that
    differs from `s`, as far as `PCore` reads it, in `curDirty` only -/
theorem PC_curAppend (R : ViewRel) (s s' : PState) (Q : QFs) (hI : Inv R s (fvOf Q)) (hP : PCore R s Q)
    (ho : s.curOpen = true) (f : Option Inode) (e : PEq s { s' with curDirty := s.curDirty })
    (hb : s'.curDirty = false → s.curDirty = false) :
    PCore R s' (qupd Q (.mem s.cur) ((Q (.mem s.cur)).setV f)) := by
  refine PCore_of_eq R { s with curDirty := s'.curDirty } s' _ ?_ { e with curDirty := rfl }
  refine PCore_upd_mem _ _ hP.man hP.sst ?_ hP.logic
  have hm := hP.mem
  rw [ho] at hm
  show PMem s.imm s.curOpen _ _ _ _ _ _ _ _ _ _ _ _
  rw [ho]
  exact PMem_setV_cur s'.curDirty f hm (hI.mem.curNotImm ho) hb

theorem PC_fin (hI : Inv R s (fvOf Q)) (hP : PCore R s Q)
    (t : Txn) (hinf : s.inflight = some t) (ho : s.curOpen = true) (f : Option Inode) :
    PCore R { s with mtxns := aset s.cur (s.memTxns s.cur ++ [t]) s.mtxns, pending := [],
                     inflight := none, done := s.done + 1, curDirty := true }
      (qupd Q (.mem s.cur) ((Q (.mem s.cur)).setV f)) := by
  have hni := hI.mem.curNotImm ho
  have hgetD : (aget s.cur (aset s.cur (s.memTxns s.cur ++ [t]) s.mtxns)).getD [] = s.memTxns s.cur ++ [t] := by
    simp [aget_aset]
  refine PCore_upd_mem _ _ hP.man ?_ ?_ ?_
  · have hs := hP.sst
    exact { hs with
      fl3 := by
        intro k hk h3 h4
        have hkm : k ∈ s.imm := List.mem_of_mem_head? hk
        have : k ≠ s.cur := fun e => hni (e ▸ hkm)
        rw [entsOfMem_aset_ne this]
        exact hs.fl3 k hk h3 h4 }
  · have hm := hP.mem
    rw [ho] at hm
    have hm' := PMem_setV_cur true f hm hni (by intro e; cases e)
    rw [ho]
    dsimp only
    exact {
      immP := by
        intro k hk
        have : k ≠ s.cur := fun e => hni (e ▸ hk)
        rw [entsOfMem_aset_ne this]
        exact hm'.immP k hk
      curP := by
        intro _
        obtain ⟨g, jd, h1, h2, h3, _, h5, h6, h7⟩ := hm'.curP rfl
        have h2' : jd ≤ (s.memTxns s.cur).length := h2
        rw [hgetD]
        refine ⟨g, jd, h1, (by simp; omega), ?_, (by intro e; cases e), ?_, h6, ?_⟩
        · rw [List.take_append_of_le_length h2']; exact h3
        · have h5' : s.acked + (s.memTxns s.cur).length ≤ s.done + jd := h5
          simp; omega
        · intro hl
          obtain ⟨a, b, c⟩ := h7 hl
          have c' : s.acked + (s.memTxns s.cur).length ≤ s.done := c
          exact ⟨a, b, by simp; omega⟩
      deadP := by
        intro n h1 h2
        have hne : n ≠ s.cur := fun e => h2 ⟨rfl, e⟩
        rw [entsOfMem_aset_ne hne]
        exact hm'.deadP n h1 h2
      pend := by
        intro x hx
        obtain ⟨a, b, c, d⟩ := hm'.pend x hx
        refine ⟨a, b, c, ?_⟩
        rw [entsOfMem_aset_ne (c rfl)]
        exact d }
  · have hl := hP.logic
    have hcT : s.curT = s.memTxns s.cur := PState.curT_open ho
    rw [hcT] at hl
    rw [PState.curT_open (by exact ho)]
    show PLogic R s.commits (s.done + 1) ((aget s.cur (aset s.cur (s.memTxns s.cur ++ [t]) s.mtxns)).getD [])
      s.tcont s.tset s.tsetD (aset s.cur _ s.mtxns) s.imm
    rw [hgetD]
    have hi := immsEnts_aset s.mtxns s.cur (s.memTxns s.cur ++ [t]) s.imm hni
    have hlen : (s.memTxns s.cur ++ [t]).length = (s.memTxns s.cur).length + 1 := by simp
    have hsub : s.done + 1 - (s.memTxns s.cur ++ [t]).length = s.done - (s.memTxns s.cur).length := by
      rw [hlen]; omega
    refine ⟨by rw [hlen]; have := hl.curLe; omega, ?_, by rw [hsub, hi]; exact hl.baseV, by rw [hsub, hi]; exact hl.baseD⟩
    rw [hsub]
    rw [(take_done_succ (hinf ▸ hI.logic)).1, hl.link, List.append_assoc]

theorem PC_pushImm (hI : Inv R s (fvOf Q)) (hP : PCore R s Q)
    (ho : s.curOpen = true) (hd : s.curDirty = false) (hde : s.curDurEntry = true) :
    PCore R { s with imm := s.imm ++ [s.cur], curOpen := false } Q := by
  refine ⟨hP.man, ?_, ?_, ?_⟩
  · have hs := hP.sst
    show PSst s.tset s.tsetD s.tcont (s.imm ++ [s.cur]) s.mtxns s.fpc s.fsst s.nextSst s.kout s.kdir (sstQ Q)
    by_cases hne : s.imm = []
    · exact PSst_fpc_low hs (by have := hI.sst.idle hne; omega) (Nat.le_refl _)
    · exact { hs with
        fl3 := by intro k hk; rw [head?_append_of_ne_nil _ _ hne] at hk; exact hs.fl3 k hk
        fl4 := fun _ => hs.fl4 hne
        fl6 := fun _ => hs.fl6 hne }
  · have hm := hP.mem
    dsimp only
    exact {
      immP := by
        intro k hk
        rcases List.mem_append.mp hk with h1 | h1
        · exact hm.immP k h1
        · have : k = s.cur := by simpa using h1
          subst this
          obtain ⟨g, jd, h1, h2, h3, h4, _, h6, _⟩ := hm.curP ho
          refine ⟨h6 hde, g, h1, ?_⟩
          rw [h3, h4 hd, List.take_length]
          rfl
      curP := by intro e; cases e
      deadP := by
        intro n h1 _
        have h1' : n ∉ s.imm ∧ n ≠ s.cur := by simpa using h1
        exact hm.deadP n h1'.1 (fun e => h1'.2 e.2)
      pend := by
        intro x hx
        obtain ⟨a, b, c, d⟩ := hm.pend x hx
        refine ⟨a, ?_, (by intro e; cases e), d⟩
        intro hin
        rcases List.mem_append.mp hin with h1 | h1
        · exact b h1
        · exact c ho (by simpa using h1) }
  · have hl := hP.logic
    rw [PState.curT_open ho] at hl
    show PLogic R s.commits s.done [] s.tcont s.tset s.tsetD s.mtxns (s.imm ++ [s.cur])
    -- the memtable moves from the active position to the end of the immutable ones
    have key : ∀ T, R.r (tablesEnts s.tcont T ++ immsEnts s.mtxns s.imm)
          (txnsEnts (s.commits.take (s.done - ((aget s.cur s.mtxns).getD []).length))) →
        R.r (tablesEnts s.tcont T ++ immsEnts s.mtxns (s.imm ++ [s.cur])) (txnsEnts (s.commits.take (s.done - 0))) := by
      intro T hb
      rw [immsEnts_push, ← List.append_assoc, Nat.sub_zero, hl.link, txnsEnts_append]
      exact R.app_congr _ _ _ _ hb (R.refl _)
    exact ⟨Nat.zero_le _, by simp, key _ hl.baseV, key _ hl.baseD⟩

theorem PC_newMem (hI : Inv R s (fvOf Q)) (hP : PCore R s Q)
    (ho : s.curOpen = false) :
    PCore R { s with cur := s.nextMem, curOpen := true, curHdr := false, nextMem := s.nextMem + 1,
                     curDirty := false, curDurEntry := false }
      (qupd Q (.mem s.nextMem) { fv := some { chunks := [], size := .alloc }, fd := some { chunks := [], size := .alloc },
                                 dv := (Q (.mem s.nextMem)).dv, dd := (Q (.mem s.nextMem)).dd, lk := false }) := by
  have hfresh : (aget s.nextMem s.mtxns).getD [] = [] := by
    rw [(hI.mem.memFresh s.nextMem (Nat.le_refl _)).2]; rfl
  have hm := hP.mem
  have hnotimm : s.nextMem ∉ s.imm := fun h => by have := hI.mem.immLt _ h; omega
  have hdead : (Q (.mem s.nextMem)).dv = none ∧ (Q (.mem s.nextMem)).dd = none := by
    rcases hm.deadP s.nextMem hnotimm (by rw [ho]; intro e; cases e.1) with h1 | ⟨⟨t, ht⟩, _⟩
    · exact h1
    · have := (hm.pend _ ht).1
      have : s.nextMem < s.nextMem := this
      omega
  refine PCore_upd_mem _ _ hP.man hP.sst ?_ ?_
  · show PMem s.imm true s.nextMem (s.nextMem + 1) s.mtxns false false s.pendU s.acked s.done
      s.tset s.tsetD s.tcont _
    exact {
      immP := by
        intro k hk
        have : k ≠ s.nextMem := by have := hI.mem.immLt _ hk; omega
        simp only [this, if_false]
        exact hm.immP k hk
      curP := by
        intro _
        rw [hfresh]
        refine ⟨{ chunks := [], size := .alloc }, 0, by simp, Nat.le_refl _, rfl, fun _ => rfl, ?_, (by intro e; cases e), ?_⟩
        · have := hI.logic.acked_le; simp; omega
        · intro _
          simp only [if_true]
          refine ⟨hdead.1, hdead.2, ?_⟩
          have := hI.logic.acked_le; simp; omega
      deadP := by
        intro n h1 h2
        have hne : n ≠ s.nextMem := fun e => h2 ⟨rfl, e⟩
        simp only [hne, if_false]
        exact hm.deadP n h1 (by rw [ho]; intro e; cases e.1)
      pend := by
        intro x hx
        obtain ⟨a, b, _, d⟩ := hm.pend x hx
        refine ⟨(by omega), b, ?_, d⟩
        intro _ e
        have : x.1 < s.nextMem := a
        have e' : x.1 = s.nextMem := e
        omega }
  · have hl := hP.logic
    rw [PState.curT_closed ho] at hl
    rw [PState.curT_open (by rfl), hfresh]
    exact hl

theorem PC_syncMem (hI : Inv R s (fvOf Q)) (hP : PCore R s Q) (hq : QOk Q)
    (fid : Nat) (b : Bool) (hb : (fid = s.cur ∧ s.curOpen = true) ∨ b = s.curDirty) :
    PCore R { s with curDirty := b } (qupd Q (.mem fid) ((Q (.mem fid)).setD (Q (.mem fid)).fv)) := by
  have hm := hP.mem
  refine PCore_upd_mem _ _ hP.man hP.sst ?_ hP.logic
  · show PMem s.imm s.curOpen s.cur s.nextMem s.mtxns b s.curDurEntry s.pendU s.acked s.done
      s.tset s.tsetD s.tcont _
    exact { hm with
      immP := by
        intro k hk
        by_cases hkf : k = fid
        · subst hkf
          simp only [if_true]
          obtain ⟨hl, _⟩ := hm.immP k hk
          obtain ⟨f, hf, hr⟩ := hI.mem.immFiles k hk
          have hf' : (Q (.mem k)).fv = some f := hf
          exact ⟨hl, f, hf', hr⟩
        · simp only [hkf, if_false]; exact hm.immP k hk
      curP := by
        intro ho
        obtain ⟨g, jd, h1, h2, h3, h4, h5, h6, h7⟩ := hm.curP ho
        by_cases hcf : s.cur = fid
        · subst hcf
          simp only [if_true]
          obtain ⟨f, hf, hr⟩ := hI.mem.curReplay ho
          have hf' : (Q (.mem s.cur)).fv = some f := hf
          refine ⟨f, ((aget s.cur s.mtxns).getD []).length, hf', Nat.le_refl _, ?_,
            fun _ => rfl, by omega, h6, ?_⟩
          · rw [hr, List.take_length]; rfl
          · intro hl
            have hl' : (Q (.mem s.cur)).lk = false := hl
            have := h7 hl'
            simpa [PV.setD, hl', memQ] using this
        · simp only [hcf, if_false]
          have hbb : b = s.curDirty := by
            rcases hb with ⟨e, _⟩ | e
            · exact absurd e.symm hcf
            · exact e
          rw [hbb]
          exact ⟨g, jd, h1, h2, h3, h4, h5, h6, h7⟩
      deadP := by
        intro n h1 h2
        by_cases hnf : n = fid
        · subst hnf
          simp only [if_true]
          have hfv := (fv_dead hI hq n h1 h2).1
          by_cases hl : (Q (.mem n)).lk = true
          · left
            have := (hq (.mem n)).lkv hl
            rw [hfv] at this
            simp [PV.setD, hl, hfv, this]
          · have hl' : (Q (.mem n)).lk = false := by simpa using hl
            have := hm.deadP n h1 h2
            simpa [PV.setD, hl', memQ] using this
        · simp only [hnf, if_false]; exact hm.deadP n h1 h2 }

theorem PC_syncManifest (hI : Inv R s (fvOf Q)) (hP : PCore R s Q) :
    PCore R { s with mdirty := false, tsetD := s.tset }
      (qupd Q .manifest ((Q .manifest).setD (Q .manifest).fv)) := by
  refine PCore_upd_manifest _ ?_ ?_ ?_ ?_
  · have h := hP.man
    exact ⟨h.lk, h.vol, h.vol, fun _ => rfl⟩
  · have hs := hP.sst
    show PSst s.tset s.tset s.tcont s.imm s.mtxns s.fpc s.fsst s.nextSst s.kout s.kdir (sstQ Q)
    exact { hs with
      tables := by
        intro id h
        exact hs.tables id (Or.inl (by rcases h with h | h <;> exact h))
      dLt := fun n hn => (hI.sst.sstFresh n hn).2
      fl6 := fun hne h6 => hI.sst.fsst_listed hne (by omega) }
  · have hm := hP.mem
    exact { hm with
      pend := by
        intro x hx
        obtain ⟨a, b, c, d⟩ := hm.pend x hx
        exact ⟨a, b, c, fun e he => ⟨(d e he).1, (d e he).1, (d e he).2.2⟩⟩ }
  · have hl := hP.logic
    exact ⟨hl.curLe, hl.link, hl.baseV, hl.baseV⟩

theorem PC_syncDir (hI : Inv R s (fvOf Q)) (hP : PCore R s Q) (hq : QOk Q) :
    PCore R { s with curDurEntry := if s.curOpen then true else s.curDurEntry, pendU := [],
                     kdir := s.kdir || s.kout.all (fun o => 1 ≤ o.stage) } (syncDirQ Q) := by
  refine ⟨?_, ?_, ?_, hP.logic⟩
  · have h := hP.man
    exact ⟨rfl, h.vol, h.dur, h.clean⟩
  · have hs := hP.sst
    exact { hs with
      tables := by
        intro id h
        obtain ⟨_, b, c⟩ := hs.tables id h
        exact ⟨rfl, b, c⟩
      fl4 := fun _ _ => rfl
      kdirOk := by
        intro hk o ho
        refine ⟨?_, rfl⟩
        rcases Bool.or_eq_true_iff.mp hk with h1 | h1
        · exact (hs.kdirOk h1 o ho).1
        · have := List.all_eq_true.mp h1 o ho
          simpa using this }
  · have hm := hP.mem
    dsimp only
    exact {
      immP := by
        intro k hk
        obtain ⟨_, b⟩ := hm.immP k hk
        exact ⟨rfl, b⟩
      curP := by
        intro ho
        obtain ⟨g, jd, h1, h2, h3, h4, h5, _, _⟩ := hm.curP ho
        exact ⟨g, jd, h1, h2, h3, h4, h5, fun _ => rfl, fun e => by cases e⟩
      deadP := by
        intro n h1 h2
        left
        have := fv_dead hI hq n h1 h2
        exact ⟨this.1, this.2⟩
      pend := by intro x hx; cases hx }

theorem PC_ack (hP : PCore R s Q)
    (hlt : s.acked < s.done) (ho : s.curOpen = true) (hd : s.curDirty = false) (hde : s.curDurEntry = true) :
    PCore R { s with acked := s.acked + 1 } Q := by
  refine ⟨hP.man, hP.sst, ?_, hP.logic⟩
  have hm := hP.mem
  show PMem s.imm s.curOpen s.cur s.nextMem s.mtxns s.curDirty s.curDurEntry s.pendU (s.acked + 1) s.done
    s.tset s.tsetD s.tcont (memQ Q)
  exact { hm with
    curP := by
      intro _
      obtain ⟨g, jd, h1, h2, h3, h4, h5, h6, h7⟩ := hm.curP ho
      have := h4 hd
      refine ⟨g, jd, h1, h2, h3, h4, by omega, h6, ?_⟩
      intro hl
      rw [h6 hde] at hl; cases hl }

/-- a commit is issued: `s'` differs from `s`, as far as `PCore` reads it, in `commits` only -/
theorem PC_commitStart (R : ViewRel) (s s' : PState) (Q : QFs) (hI : Inv R s (fvOf Q)) (hP : PCore R s Q) (t : Txn)
    (e : PEq s { s' with commits := s.commits }) (hc : s'.commits = s.commits ++ [t]) : PCore R s' Q := by
  refine PCore_of_eq R { s with commits := s.commits ++ [t] } s' Q ⟨hP.man, hP.sst, hP.mem, ?_⟩ { e with commits := hc }
  have hl := hP.logic
  have hd := hI.logic.done_le
  have ht : ∀ n, n ≤ s.done → (s.commits ++ [t]).take n = s.commits.take n :=
    fun n hn => List.take_append_of_le_length (by omega)
  refine ⟨hl.curLe, ?_, ?_, ?_⟩
  · rw [ht _ (Nat.le_refl _), ht _ (Nat.sub_le _ _)]; exact hl.link
  · rw [ht _ (Nat.sub_le _ _)]; exact hl.baseV
  · rw [ht _ (Nat.sub_le _ _)]; exact hl.baseD

theorem PC_syncSst (hI : Inv R s (fvOf Q)) (hP : PCore R s Q) (id : Nat) :
    PCore R { s with kout := s.kout.map (syncStage id) }
      (qupd Q (.sst id) ((Q (.sst id)).setD (Q (.sst id)).fv)) := by
  refine PCore_upd_sst _ _ hP.man ?_ hP.mem hP.logic
  refine PSst_setD hI.sst hP.sst id s.fpc (syncStage id) (syncStage_id id) (syncStage_ents id) ?_ ?_
    (fun a b => ⟨by omega, b, fun _ => a⟩) (fun e => e) (fun e => e)
  · intro o h3
    unfold syncStage at h3
    split at h3
    · rename_i hc; simp at hc; exact Or.inr ⟨hc.1, by omega⟩
    · exact Or.inl h3
  · intro o h1
    unfold syncStage
    split
    · simp
    · exact h1

/-- a compaction output `o0` advances to stage `st ≠ 3` with a write `v` to its file -/
theorem PC_kstage (hI : Inv R s (fvOf Q)) (hP : PCore R s Q) (id st : Nat)
    (o0 : KOut) (ho0 : o0 ∈ s.kout) (hoid : o0.id = id) (host : o0.stage ≠ 3) (hst : st ≠ 3)
    (hfl : s.imm ≠ [] → 1 ≤ s.fpc → s.fpc ≤ 4 → s.fsst ≠ id)
    (h1 : aget id s.tset = none) (h2 : aget id s.tsetD = none) (v : PV)
    (hk : s.kdir = true → 1 ≤ st ∧ v.lk = true) :
    PCore R { s with kout := s.kout.map (setStage id st) } (qupd Q (.sst id) v) := by
  refine PCore_upd_sst _ _ hP.man ?_ hP.mem hP.logic
  have := PSst_upd_free id v hP.sst h1 h2 (fun a b c => hfl a (by omega) c)
    (by
      intro o ho he
      rw [eq_of_nodup_map _ s.kout hI.sst.koutNodup o o0 ho ho0 (he.trans hoid.symm)]
      exact ⟨host, fun e => (hk e).2⟩)
  exact PSst_kout id st hst this fun e => (hk e).1

theorem PC_kmk (hI : Inv R s (fvOf Q)) (hP : PCore R s Q) (id : Nat)
    (o0 : KOut) (ho0 : o0 ∈ s.kout) (hoid : o0.id = id) (host : o0.stage = 0)
    (hfl : s.imm ≠ [] → 1 ≤ s.fpc → s.fpc ≤ 4 → s.fsst ≠ id)
    (h1 : aget id s.tset = none) (h2 : aget id s.tsetD = none) (v : PV) :
    PCore R { s with kout := s.kout.map (setStage id 1) } (qupd Q (.sst id) v) :=
  -- an output still at stage 0: `kdir` is off (`kdirOk`)
  PC_kstage hI hP id 1 o0 ho0 hoid (by omega) (by omega) hfl h1 h2 v fun hk => by
    have := (hP.sst.kdirOk hk o0 ho0).1; omega

theorem PC_kwrite (hI : Inv R s (fvOf Q)) (hP : PCore R s Q) (id : Nat)
    (o0 : KOut) (ho0 : o0 ∈ s.kout) (hoid : o0.id = id) (host : o0.stage = 1)
    (hfl : s.imm ≠ [] → 1 ≤ s.fpc → s.fpc ≤ 4 → s.fsst ≠ id)
    (h1 : aget id s.tset = none) (h2 : aget id s.tsetD = none) (f : Option Inode) :
    PCore R { s with kout := s.kout.map (setStage id 2) } (qupd Q (.sst id) ((Q (.sst id)).setV f)) :=
  PC_kstage hI hP id 2 o0 ho0 hoid (by omega) (by omega) hfl h1 h2 _ fun hk => by
    have := (hP.sst.kdirOk hk o0 ho0).2
    rw [hoid] at this
    exact ⟨by omega, by simpa [PV.setV, sstQ] using this⟩

theorem PC_kdel (hP : PCore R s Q) (id : Nat)
    (h1 : aget id s.tset = none) (hmd : s.mdirty = false)
    (hfl : s.imm ≠ [] → 1 ≤ s.fpc → s.fpc ≤ 4 → s.fsst ≠ id)
    (hko : ∀ o ∈ s.kout, o.id ≠ id) (v : PV) :
    PCore R { s with kdelq := s.kdelq.filter (· ≠ id) } (qupd Q (.sst id) v) := by
  refine PCore_upd_sst _ _ hP.man ?_ hP.mem hP.logic
  · have h2 : aget id s.tsetD = none := by rw [hP.man.clean hmd]; exact h1
    show PSst s.tset s.tsetD s.tcont s.imm s.mtxns s.fpc s.fsst s.nextSst s.kout s.kdir _
    exact PSst_upd_free id v hP.sst h1 h2 (fun a b c => hfl a (by omega) c)
      (fun o ho he => absurd he (hko o ho))

/-- a compaction is set up: `s'` differs from `s`, as far as `PCore` reads it, in `nextSst`, `kout`, `kdir` -/
theorem PC_compactStart (R : ViewRel) (s s' : PState) (Q : QFs) (hP : PCore R s Q)
    (e : PEq s { s' with nextSst := s.nextSst, kout := s.kout, kdir := s.kdir })
    (hn : s.nextSst ≤ s'.nextSst) (hk : s'.kdir = false) (hst : ∀ o ∈ s'.kout, o.stage = 0) : PCore R s' Q := by
  refine PCore_of_eq R { s with nextSst := s'.nextSst, kout := s'.kout, kdir := s'.kdir } s' Q
    ⟨hP.man, ?_, hP.mem, hP.logic⟩ { e with nextSst := rfl, kout := rfl, kdir := rfl }
  have hs := hP.sst
  exact { hs with
    dLt := fun n hn' => hs.dLt n (Nat.le_trans hn hn')
    kout3 := by intro o ho h3; rw [hst o ho] at h3; cases h3
    kdirOk := by intro e; rw [hk] at e; cases e }

theorem PC_kmset (hI : Inv R s (fvOf Q)) (hP : PCore R s Q) (t' : List (Nat × Nat))
    (hk : s.kins ≠ [])
    (hstage : ∀ o ∈ s.kout, o.stage = 3 ∧ aget o.id s.tset = none)
    (happ : applyMSet s.tset (kmsetChanges s) = some t')
    (hmd : s.mdirty = false) (hkdir : s.kdir = true) (hpend : ∀ x ∈ s.pendU, x.2 ∉ s.kins) :
    PCore R { s with tset := t', tcont := s.kout.map (fun o => (o.id, o.ents)) ++ s.tcont,
                     kdelq := s.kins, kins := [], kout := [], mdirty := true }
      (qupd Q .manifest ((Q .manifest).setV ((Q .manifest).fv.map (appendChunk (.mset (kmsetChanges s)))))) := by
  obtain ⟨hmem', hcontOut, hcontOld, hT⟩ := kmset_facts hI t' hk hstage happ
  generalize s.kout.map (fun o => (o.id, o.ents)) ++ s.tcont = tc at hcontOut hcontOld hT ⊢
  have hD : s.tsetD = s.tset := hP.man.clean hmd
  refine PCore_upd_manifest _ ?_ ?_ ?_ ?_
  · -- the page-cache content of the MANIFEST is the kill view's
    exact ⟨hP.man.lk, ManifestOk_append (fvOf Q) s.tset t' _ hP.man.vol happ, hP.man.dur, by intro e; cases e⟩
  · have hs := hP.sst
    have hold : ∀ id, (aget id s.tset).isSome = true →
        (sstQ Q id).lk = true ∧ isTable (sstQ Q id).fv (entsOfTable tc id) ∧
          isTable (sstQ Q id).fd (entsOfTable tc id) := by
      intro id hid
      rw [hcontOld id hid]
      exact hs.tables id (Or.inl hid)
    exact { hs with
      tables := by
        intro id hid
        rcases hid with hid | hid
        · obtain ⟨lvl, hm⟩ := mem_of_aget_isSome hid
          rcases (hmem' (id, lvl)).mp hm with ⟨o, ho, hxe⟩ | ⟨h1, _⟩
          · have hio : id = o.id := congrArg Prod.fst hxe
            subst hio
            rw [hcontOut o ho]
            refine ⟨(hs.kdirOk hkdir o ho).2, ?_, hs.kout3 o ho (hstage o ho).1⟩
            exact (hI.sst.koutFiles o ho).2 (by rw [(hstage o ho).1]; omega)
          · exact hold id (aget_isSome_of_mem _ _ h1)
        · rw [hD] at hid; exact hold id hid
      kout3 := by intro o ho; cases ho
      kdirOk := by intro _ o ho; cases ho }
  · have hm := hP.mem
    dsimp only
    exact { hm with
      pend := by
        intro x hx
        obtain ⟨a, b, c, d⟩ := hm.pend x hx
        refine ⟨a, b, c, fun e he => ?_⟩
        obtain ⟨d1, d2, d3⟩ := d e he
        refine ⟨?_, d2, by rw [hcontOld x.2 d1]; exact d3⟩
        obtain ⟨lvl, hm⟩ := mem_of_aget_isSome d1
        exact aget_isSome_of_mem (x.2, lvl) t' ((hmem' _).mpr (Or.inr ⟨hm, hpend x hx⟩)) }
  · have hl := hP.logic
    refine ⟨hl.curLe, hl.link, ?_, ?_⟩
    · exact R.trans _ _ _ (R.app_congr _ _ _ _ hT (R.refl _)) hl.baseV
    · have : tablesEnts tc s.tsetD = tablesEnts s.tcont s.tsetD := by
        unfold tablesEnts
        congr 1
        apply List.map_congr_left
        intro x hx
        rw [hD] at hx
        exact hcontOld x.1 (aget_isSome_of_mem _ _ hx)
      rw [this]; exact hl.baseD

end Badger
