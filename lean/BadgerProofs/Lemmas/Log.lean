import BadgerModel.Log
import BadgerProofs.Lemmas.Crc
import BadgerProofs.Lemmas.Header
import BadgerProofs.Lemmas.Lists
/-!
Lemmas on the log-record model. `Entry.WF` is what badger can write. `safeRead.Entry` is described by
what it does once the header has been decoded (`safeRead_short`: too few bytes behind it are a short
read; `safeRead_long`: with enough bytes the verdict is the checksum comparison); that it accepts an
encoded record (`safeRead_encode`) and rejects one whose body was altered (`safeRead_altered`) follows.
A header cut short and continued by zero bytes is analysed field by field (`FieldZ`). `iterGo_ok` is
the loop body of `logFile.iterate` after a successful read of a record with a non-empty key; `iterGo_txn`,
`iterGo_fin`, `iterGo_single` are its three continuing branches on an encoded record, `iterGo_torn` the
quiet stop on a short read.
-/
namespace Badger

theorem xorFrom_length (ks : Nat → UInt8) (b : Bytes) : ∀ i, (xorFrom ks i b).length = b.length := by
  induction b with
  | nil => intro i; rfl
  | cons x xs ih => intro i; rw [xorFrom, List.length_cons, List.length_cons, ih]

theorem u8_xor_cancel (a k : UInt8) : a ^^^ k ^^^ k = a := by
  rw [UInt8.xor_assoc, UInt8.xor_self, UInt8.xor_zero]

theorem xorFrom_invol (ks : Nat → UInt8) (b : Bytes) : ∀ i, xorFrom ks i (xorFrom ks i b) = b := by
  induction b with
  | nil => intro i; rfl
  | cons x xs ih => intro i; rw [xorFrom, xorFrom, ih, u8_xor_cancel]

theorem xorFrom_noKs (b : Bytes) : ∀ i, xorFrom noKs i b = b := by
  induction b with
  | nil => intro i; rfl
  | cons x xs ih => intro i; simp [xorFrom, ih, noKs]

theorem xorFrom_append (ks : Nat → UInt8) (a b : Bytes) : ∀ i,
    xorFrom ks i (a ++ b) = xorFrom ks i a ++ xorFrom ks (i + a.length) b := by
  induction a with
  | nil => intro i; rfl
  | cons x xs ih =>
    intro i
    rw [List.cons_append, xorFrom, xorFrom, ih, List.cons_append, List.length_cons,
      Nat.add_right_comm i 1, Nat.add_assoc]

theorem xorFrom_kv (ks : Nat → UInt8) (a z : Bytes) :
    xorFrom ks 0 (xorFrom ks 0 a ++ z) = a ++ xorFrom ks a.length z := by
  rw [xorFrom_append, xorFrom_invol, xorFrom_length, Nat.zero_add]

def Entry.WF (e : Entry) : Prop :=
  e.key.length ≤ 65536 ∧ e.key.length + e.value.length < 2 ^ 32 ∧ e.expiresAt < 2 ^ 64

def hdrLen (e : Entry) : Nat := (headerEncode (entryHeader e)).length

theorem entryHeader_klen {e : Entry} (h : e.key.length + e.value.length < 2 ^ 32) :
    (entryHeader e).klen = e.key.length :=
  Nat.mod_eq_of_lt (Nat.lt_of_le_of_lt (Nat.le_add_right _ _) h)

theorem entryHeader_vlen {e : Entry} (h : e.key.length + e.value.length < 2 ^ 32) :
    (entryHeader e).vlen = e.value.length :=
  Nat.mod_eq_of_lt (Nat.lt_of_le_of_lt (Nat.le_add_left _ _) h)

theorem entryHeader_WF (e : Entry) (h : e.expiresAt < 2 ^ 64) : (entryHeader e).WF :=
  ⟨Nat.mod_lt _ (by decide), Nat.mod_lt _ (by decide), h⟩

/-- The header of an entry badger can write has lengths `safeRead.Entry` accepts. -/
theorem entryHeader_accepted {e : Entry} (wf : e.WF) :
    (entryHeader e).klen ≤ 65536 ∧ (entryHeader e).klen + (entryHeader e).vlen < 2 ^ 32 := by
  rw [entryHeader_klen wf.2.1, entryHeader_vlen wf.2.1]
  exact ⟨wf.1, wf.2.1⟩

theorem encodeEntry_eq (ks : Nat → UInt8) (e : Entry) :
    encodeEntry ks e = headerEncode (entryHeader e) ++
      (xorFrom ks 0 (e.key ++ e.value) ++ beBytes (crc32c (encodeBody ks e)) 4) :=
  List.append_assoc _ _ _

theorem encodeBody_length (ks : Nat → UInt8) (e : Entry) :
    (encodeBody ks e).length = hdrLen e + e.key.length + e.value.length := by
  rw [encodeBody, List.length_append, xorFrom_length, List.length_append, hdrLen, Nat.add_assoc]

theorem encodeEntry_length (ks : Nat → UInt8) (e : Entry) :
    (encodeEntry ks e).length = hdrLen e + e.key.length + e.value.length + 4 := by
  rw [encodeEntry, List.length_append, encodeBody_length, beBytes_length]

theorem encodeEntry_length_pos (ks : Nat → UInt8) (e : Entry) : 0 < (encodeEntry ks e).length := by
  rw [encodeEntry_length]; omega

theorem readFull_of_le {n : Nat} {r : Bytes} (h : n ≤ r.length) :
    readFull n r = .ok (r.take n, r.drop n) := by
  unfold readFull
  split
  · subst n; rfl
  · rw [if_neg (by omega), if_neg (by omega)]

theorem readFull_short (n : Nat) (r : Bytes) (h : r.length < n) : Torn (readFull n r) := by
  unfold readFull
  rw [if_neg (by omega)]
  split
  · exact torn_truncate
  · exact torn_unexpectedEof

theorem beNat_crc (d : Bytes) : beNat (beBytes (crc32c d) 4) = crc32c d :=
  beNat_beBytes _ 4 (crc32c_lt d)

theorem safeRead_of_header_torn (ks : Nat → UInt8) {b : Bytes} (h : Torn (headerDecodeFrom b)) :
    Torn (safeReadEntry ks b) := by
  obtain ⟨e, te, he⟩ := h
  rw [safeReadEntry, he]; exact ⟨e, te, rfl⟩

theorem safeRead_short (ks : Nat → UInt8) {b r1 : Bytes} {h : Header}
    (hd : headerDecodeFrom b = .ok (h, r1)) (hk : h.klen ≤ 65536) (hlt : h.klen + h.vlen < 2 ^ 32)
    (hr : r1.length < h.klen + h.vlen + 4) : Torn (safeReadEntry ks b) := by
  rw [safeReadEntry, hd]
  dsimp only
  rw [if_neg (Nat.not_lt.mpr hk), Nat.mod_eq_of_lt hlt]
  by_cases h1 : r1.length < h.klen + h.vlen
  · obtain ⟨e, te, he⟩ := readFull_short _ _ h1
    rw [he]; exact ⟨e, te, rfl⟩
  · rw [readFull_of_le (Nat.le_of_not_lt h1)]
    dsimp only
    rw [if_neg (Nat.not_lt.mpr (Nat.le_add_right _ _))]
    obtain ⟨e, te, he⟩ := readFull_short 4 (r1.drop (h.klen + h.vlen))
      (by rw [List.length_drop]; omega)
    rw [he]; exact ⟨e, te, rfl⟩

theorem safeRead_long (ks : Nat → UInt8) {b r1 : Bytes} {h : Header}
    (hd : headerDecodeFrom b = .ok (h, r1)) (hk : h.klen ≤ 65536) (hlt : h.klen + h.vlen < 2 ^ 32)
    (hr : h.klen + h.vlen + 4 ≤ r1.length) :
    safeReadEntry ks b =
      if beNat ((r1.drop (h.klen + h.vlen)).take 4) ≠
          crc32c (b.take (b.length - r1.length + (h.klen + h.vlen))) then .error .truncate
      else .ok ({ key := (xorFrom ks 0 (r1.take (h.klen + h.vlen))).take h.klen,
                  value := (xorFrom ks 0 (r1.take (h.klen + h.vlen))).drop h.klen,
                  expiresAt := h.expiresAt, metaB := h.metaB, userMeta := h.userMeta },
                b.length - r1.length) := by
  rw [safeReadEntry, hd]
  dsimp only
  rw [if_neg (Nat.not_lt.mpr hk), Nat.mod_eq_of_lt hlt,
    readFull_of_le (Nat.le_trans (Nat.le_add_right _ 4) hr)]
  dsimp only
  rw [if_neg (Nat.not_lt.mpr (Nat.le_add_right _ _)),
    readFull_of_le (by rw [List.length_drop]; exact Nat.le_sub_of_add_le' hr)]

theorem safeRead_frame (ks : Nat → UInt8) (e : Entry) (wf : e.WF) (x c rest : Bytes)
    (hx : x.length = e.key.length + e.value.length) (hc : c.length = 4) :
    safeReadEntry ks (headerEncode (entryHeader e) ++ (x ++ (c ++ rest))) =
      if beNat c ≠ crc32c (headerEncode (entryHeader e) ++ x) then .error .truncate
      else .ok ({ e with key := (xorFrom ks 0 x).take e.key.length,
                         value := (xorFrom ks 0 x).drop e.key.length }, hdrLen e) := by
  have hkl := entryHeader_klen wf.2.1
  have hvl := entryHeader_vlen wf.2.1
  rw [safeRead_long ks (headerDecodeFrom_headerEncode _ _ (entryHeader_WF e wf.2.2))
      (entryHeader_accepted wf).1 (entryHeader_accepted wf).2
      (by rw [List.length_append, List.length_append, hx, hc, hkl, hvl]
          exact Nat.add_le_add_left (Nat.le_add_right _ _) _),
    hkl, hvl, ← hx, List.drop_left, List.take_left' hc, List.take_left, List.length_append,
    Nat.add_sub_cancel, ← List.append_assoc (headerEncode _) x, List.take_left' List.length_append]
  rfl

theorem safeRead_encode (ks : Nat → UInt8) (e : Entry) (rest : Bytes) (wf : e.WF) :
    safeReadEntry ks (encodeEntry ks e ++ rest) = .ok (e, hdrLen e) := by
  have hx : (xorFrom ks 0 (e.key ++ e.value)).length = e.key.length + e.value.length := by
    rw [xorFrom_length, List.length_append]
  rw [encodeEntry_eq, List.append_assoc, List.append_assoc,
    safeRead_frame ks e wf _ _ rest hx (beBytes_length _ 4), beNat_crc, if_neg (fun h => h rfl),
    xorFrom_invol, List.take_left, List.drop_left]

/-- The body (header and stored key‖value) replaced by other bytes of the same length that still
    begin with the header, the stored checksum kept. -/
theorem safeRead_altered (ks ks' : Nat → UInt8) (e : Entry) (wf : e.WF) (body' rest : Bytes)
    (hlen : body'.length = (encodeBody ks e).length)
    (hhdr : body'.take (hdrLen e) = headerEncode (entryHeader e))
    (hcrc : crc32c body' ≠ crc32c (encodeBody ks e)) :
    safeReadEntry ks' (body' ++ (beBytes (crc32c (encodeBody ks e)) 4 ++ rest)) =
      .error .truncate := by
  obtain ⟨x', rfl⟩ : ∃ x', body' = headerEncode (entryHeader e) ++ x' :=
    ⟨body'.drop (hdrLen e), by rw [← hhdr, List.take_append_drop]⟩
  have hx : x'.length = e.key.length + e.value.length := by
    rw [encodeBody_length, List.length_append, hdrLen, Nat.add_assoc] at hlen
    exact Nat.add_left_cancel hlen
  rw [List.append_assoc, safeRead_frame ks' e wf _ _ rest hx (beBytes_length _ 4), beNat_crc,
    if_pos (Ne.symm hcrc)]

/-- For a header cut at `j` bytes and continued by `z` zero bytes (`z = 0`: the file ends there). Each of
    the three varint fields then is intact, or cut (a short read if nothing follows, otherwise a value
    not above the original one, the rest being zeros), or read from zeros (value 0): `FieldZ bound s next`
    says that the field read from `s` is a short read, or a value within `bound` with `next` of the rest. -/
def FieldZ (bound : Nat) (s : Bytes) (next : Bytes → Prop) : Prop :=
  Torn (readUvarint s) ∨ ∃ v r, readUvarint s = .ok (v, r) ∧ v ≤ bound ∧ next r

theorem fieldZ_put {n bound : Nat} {s : Bytes} {next : Bytes → Prop} (hn : n < 2 ^ 64)
    (hb : n ≤ bound) (h : next s) : FieldZ bound (putUvarint n ++ s) next :=
  .inr ⟨n, s, readUvarint_put n s hn, hb, h⟩

theorem fieldZ_zeros (bound z : Nat) {next : Bytes → Prop} (h : ∀ z', next (List.replicate z' 0)) :
    FieldZ bound (List.replicate z 0) next := by
  cases z with
  | zero => exact .inl torn_eof
  | succ z => exact .inr ⟨0, _, rfl, Nat.zero_le _, h z⟩

theorem fieldZ_take_zeros {n j z : Nat} {next : Bytes → Prop} (hj : j < (putUvarint n).length)
    (h : 0 < z → ∀ z', next (List.replicate z' 0)) :
    FieldZ n ((putUvarint n).take j ++ List.replicate z 0) next := by
  cases z with
  | zero => rw [List.replicate, List.append_nil]; exact .inl (readUvarint_take n j hj)
  | succ z =>
    obtain ⟨v, hv, hr⟩ := readUvarint_take_zero n j (List.replicate z 0) hj
    exact .inr ⟨v, _, hr, hv, h (Nat.succ_pos z) z⟩

/-- A field cut at `j` bytes of `putUvarint n ++ more`: inside the field it is `fieldZ_take_zeros`,
    behind it the field is intact and `next` is asked of what is left of `more`. -/
theorem fieldZ_take_put {n j z : Nat} {more : Bytes} {next : Bytes → Prop} (hn : n < 2 ^ 64)
    (hz : 0 < z → ∀ z', next (List.replicate z' 0))
    (hm : (putUvarint n).length ≤ j →
      next (more.take (j - (putUvarint n).length) ++ List.replicate z 0)) :
    FieldZ n ((putUvarint n ++ more).take j ++ List.replicate z 0) next := by
  rcases take_append_cases (putUvarint n) more j with ⟨h1, e1⟩ | ⟨h1, e1⟩
  · rw [e1]
    exact fieldZ_take_zeros h1 hz
  · rw [e1, List.append_assoc]
    exact fieldZ_put hn (Nat.le_refl _) (hm h1)

/-- `DecodeFrom` after `meta` and `userMeta`, given what the three fields read as: a short read, or
    (only if `q`, which the last field vouches for) a header with lengths within the bounds. -/
theorem headerDecodeFrom_fields (m um : UInt8) (w : Bytes) (bk bv be : Nat) (q : Prop)
    (h : FieldZ bk w fun r2 => FieldZ bv r2 fun r3 => FieldZ be r3 fun _ => q) :
    Torn (headerDecodeFrom (m :: um :: w)) ∨
      (q ∧ ∃ h' r1, headerDecodeFrom (m :: um :: w) = .ok (h', r1) ∧ h'.klen ≤ bk ∧ h'.vlen ≤ bv) := by
  simp only [headerDecodeFrom, readByte]
  rcases h with ⟨e, te, he⟩ | ⟨k, r2, hr, hk, h⟩
  · rw [he]; exact .inl ⟨e, te, rfl⟩
  rw [hr]
  dsimp only
  rcases h with ⟨e, te, he⟩ | ⟨v, r3, hr, hv, h⟩
  · rw [he]; exact .inl ⟨e, te, rfl⟩
  rw [hr]
  dsimp only
  rcases h with ⟨e, te, he⟩ | ⟨x, r4, hr, _, hq⟩
  · rw [he]; exact .inl ⟨e, te, rfl⟩
  rw [hr]
  exact .inr ⟨hq, _, _, rfl, Nat.le_trans (Nat.mod_le _ _) hk, Nat.le_trans (Nat.mod_le _ _) hv⟩

/-- A strict prefix of an encoded header followed by zero bytes: `DecodeFrom` fails with a short
    read or — only if zeros follow — yields lengths bounded by the original ones (so no overflow
    error, and later no over-long key and no `uint32` wrap). -/
theorem headerDecodeFrom_take_zeros (h : Header) (wf : h.WF) (j z : Nat)
    (hj : j < (headerEncode h).length) :
    Torn (headerDecodeFrom ((headerEncode h).take j ++ List.replicate z 0)) ∨
      (0 < z ∧ ∃ h' r1, headerDecodeFrom ((headerEncode h).take j ++ List.replicate z 0) =
        .ok (h', r1) ∧ h'.klen ≤ h.klen ∧ h'.vlen ≤ h.vlen) := by
  rw [headerEncode_length] at hj
  rw [headerEncode, List.append_assoc]
  match j, hj with
  | 0, _ =>
    match z with
    | 0 => exact .inl torn_eof
    | 1 => exact .inl torn_eof
    | z + 2 =>
      exact headerDecodeFrom_fields 0 0 (List.replicate z 0) _ _ 0 _
        (fieldZ_zeros _ _ fun _ => fieldZ_zeros _ _ fun _ => fieldZ_zeros _ _ fun _ =>
          Nat.succ_pos _)
  | 1, _ =>
    match z with
    | 0 => exact .inl torn_eof
    | z + 1 =>
      exact headerDecodeFrom_fields h.metaB 0 (List.replicate z 0) _ _ 0 _
        (fieldZ_zeros _ _ fun _ => fieldZ_zeros _ _ fun _ => fieldZ_zeros _ _ fun _ =>
          Nat.succ_pos _)
  | j + 2, hj =>
    rw [List.take_succ_cons, List.take_succ_cons, List.cons_append, List.cons_append]
    apply headerDecodeFrom_fields h.metaB h.userMeta _ _ _ h.expiresAt
    refine fieldZ_take_put (Nat.lt_trans wf.1 (by decide))
      (fun hz _ => fieldZ_zeros _ _ fun _ => fieldZ_zeros _ _ fun _ => hz) fun h1 => ?_
    refine fieldZ_take_put (Nat.lt_trans wf.2.1 (by decide)) (fun hz _ => fieldZ_zeros _ _ fun _ => hz)
      fun h2 => ?_
    exact fieldZ_take_zeros (by omega) fun hz _ => hz

theorem headerDecodeFrom_take (h : Header) (wf : h.WF) (j : Nat) (hj : j < (headerEncode h).length) :
    Torn (headerDecodeFrom ((headerEncode h).take j)) := by
  have := headerDecodeFrom_take_zeros h wf j 0 hj
  rw [List.replicate, List.append_nil] at this
  exact this.resolve_right fun h => Nat.lt_irrefl 0 h.1

section iter
variable (fid : Nat) (cipher : Nat → Nat → UInt8)

theorem iterGo_ok (f off lc ve : Nat) (pend : Delivered) (b : Bytes) (e : Entry) (hlen n : Nat)
    (hr : safeReadEntry (cipher off) b = .ok (e, hlen)) (hk : e.key ≠ [])
    (hn : n = hlen + e.key.length + e.value.length + 4) :
    iterGo fid cipher (f + 1) off lc ve pend b =
      if e.metaB &&& bitTxn ≠ 0 then
        if (if lc = 0 then parseTs e.key else lc) ≠ parseTs e.key then ⟨none, [], ve⟩
        else iterGo fid cipher f (off + n) (if lc = 0 then parseTs e.key else lc) ve
          (pend ++ [(e, ⟨fid, n, off⟩)]) (b.drop n)
      else if e.metaB &&& bitFinTxn ≠ 0 then
        match parseUintDec e.value with
        | none => ⟨none, [], ve⟩
        | some txnTs =>
          if lc ≠ txnTs then ⟨none, [], ve⟩
          else (iterGo fid cipher f (off + n) 0 (off + n) [] (b.drop n)).prepend pend
      else
        if lc ≠ 0 then ⟨none, [], ve⟩
        else (iterGo fid cipher f (off + n) lc (off + n) pend (b.drop n)).prepend [(e, ⟨fid, n, off⟩)] := by
  subst hn
  rw [iterGo, hr]
  exact if_neg hk

theorem iterGo_txn (f off lc ve : Nat) (pend : Delivered) (e : Entry) (rest : Bytes)
    (wf : e.WF) (hk : e.key ≠ []) (hb : e.metaB &&& bitTxn ≠ 0) (hlc : lc = 0 ∨ lc = parseTs e.key) :
    iterGo fid cipher (f + 1) off lc ve pend (encodeEntry (cipher off) e ++ rest) =
      iterGo fid cipher f (off + (encodeEntry (cipher off) e).length) (parseTs e.key) ve
        (pend ++ [(e, ⟨fid, (encodeEntry (cipher off) e).length, off⟩)]) rest := by
  have hlc' : (if lc = 0 then parseTs e.key else lc) = parseTs e.key := by
    rcases hlc with h | h
    · rw [if_pos h]
    · rw [h, ite_self]
  rw [iterGo_ok fid cipher f off lc ve pend _ e _ _ (safeRead_encode _ e rest wf) hk
      (encodeEntry_length (cipher off) e), List.drop_left, if_pos hb, hlc', if_neg (fun h => h rfl)]

theorem iterGo_fin (f off lc ve : Nat) (pend : Delivered) (e : Entry) (rest : Bytes)
    (wf : e.WF) (hk : e.key ≠ []) (hb : e.metaB &&& bitTxn = 0) (hf : e.metaB &&& bitFinTxn ≠ 0)
    (hv : parseUintDec e.value = some lc) :
    iterGo fid cipher (f + 1) off lc ve pend (encodeEntry (cipher off) e ++ rest) =
      (iterGo fid cipher f (off + (encodeEntry (cipher off) e).length) 0
        (off + (encodeEntry (cipher off) e).length) [] rest).prepend pend := by
  rw [iterGo_ok fid cipher f off lc ve pend _ e _ _ (safeRead_encode _ e rest wf) hk
      (encodeEntry_length (cipher off) e), List.drop_left, if_neg (fun h => h hb), if_pos hf, hv]
  exact if_neg (fun h => h rfl)

theorem iterGo_single (f off ve : Nat) (pend : Delivered) (e : Entry) (rest : Bytes)
    (wf : e.WF) (hk : e.key ≠ []) (hb : e.metaB &&& bitTxn = 0) (hf : e.metaB &&& bitFinTxn = 0) :
    iterGo fid cipher (f + 1) off 0 ve pend (encodeEntry (cipher off) e ++ rest) =
      (iterGo fid cipher f (off + (encodeEntry (cipher off) e).length) 0
        (off + (encodeEntry (cipher off) e).length) pend rest).prepend
        [(e, ⟨fid, (encodeEntry (cipher off) e).length, off⟩)] := by
  rw [iterGo_ok fid cipher f off 0 ve pend _ e _ _ (safeRead_encode _ e rest wf) hk
      (encodeEntry_length (cipher off) e), List.drop_left, if_neg (fun h => h hb), if_neg (fun h => h hf),
    if_neg (fun h => h rfl)]

theorem iterGo_torn (f off lc ve : Nat) (pend : Delivered) (b : Bytes)
    (h : Torn (safeReadEntry (cipher off) b)) :
    iterGo fid cipher (f + 1) off lc ve pend b = ⟨none, [], ve⟩ := by
  obtain ⟨e, te, he⟩ := h
  rw [iterGo, he]
  obtain rfl | rfl | rfl := te <;> rfl

end iter

end Badger
