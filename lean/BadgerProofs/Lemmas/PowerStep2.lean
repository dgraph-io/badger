import BadgerProofs.Lemmas.PowerStep1
import BadgerProofs.Lemmas.CrashMain
/-!
# Preservation of `PCore` by the flusher, and of `PInv` by every scheduler step (`PInv_step`)
-/
namespace Badger

variable {R : ViewRel} {s : PState} {Q : QFs}

theorem PC_flush0 (hI : Inv R s (fvOf Q)) (hP : PCore R s Q)
    (hp : s.fpc = 0) (v : PV) :
    PCore R { s with fpc := 1, fsst := s.nextSst, nextSst := s.nextSst + 1 } (qupd Q (.sst s.nextSst) v) := by
  refine PCore_upd_sst _ _ hP.man ?_ hP.mem hP.logic
  · have hs := hP.sst
    have := PSst_upd_free s.nextSst v hs (hI.sst.sstFresh _ (Nat.le_refl _)).2
      (hs.dLt _ (Nat.le_refl _)) (by intro _ a _; omega)
      (by intro o ho he; have := hI.sst.koutLt o ho; omega)
    exact PSst_fpc_low this (Nat.le_succ 1) (Nat.le_succ _)

theorem PC_flush1 (hP : PCore R s Q)
    (hp : s.fpc = 1) (h1 : aget s.fsst s.tset = none) (h2 : aget s.fsst s.tsetD = none)
    (hko : ∀ o ∈ s.kout, o.id ≠ s.fsst) (v : PV) :
    PCore R { s with fpc := 2 } (qupd Q (.sst s.fsst) v) := by
  refine PCore_upd_sst _ _ hP.man ?_ hP.mem hP.logic
  · have hs := hP.sst
    have := PSst_upd_free s.fsst v hs h1 h2 (by intro _ a _; omega)
      (by intro o ho he; exact absurd he (hko o ho))
    exact PSst_fpc_low this (Nat.le_refl 2) (Nat.le_refl _)

theorem PC_flush2 (hI : Inv R s (fvOf Q)) (hP : PCore R s Q)
    (hp : s.fpc = 2) :
    PCore R { s with fpc := 3 } (qupd Q (.sst s.fsst) ((Q (.sst s.fsst)).setD (Q (.sst s.fsst)).fv)) := by
  refine PCore_upd_sst _ _ hP.man ?_ hP.mem hP.logic
  have := PSst_setD hI.sst hP.sst s.fsst 3 (fun o => o) (fun _ => rfl) (fun _ => rfl) (fun _ h => Or.inl h)
    (fun _ h => h) (fun _ _ => ⟨by omega, by omega, fun h => absurd rfl h⟩) (by omega) (by omega)
  rwa [List.map_id'] at this

/-- the flusher's counter moves and nothing else: `PSst` asks for the claims of the new stage -/
theorem PCore_fpc (h : PCore R s Q) (p' : Nat) (h3 : 3 ≤ p' → p' ≤ 4 → 3 ≤ s.fpc ∧ s.fpc ≤ 4)
    (h4 : s.imm ≠ [] → p' = 4 → (Q (.sst s.fsst)).lk = true)
    (h6 : s.imm ≠ [] → 6 ≤ p' → (aget s.fsst s.tsetD).isSome) : PCore R { s with fpc := p' } Q :=
  ⟨h.man, { h.sst with fl3 := fun k hk a b => h.sst.fl3 k hk (h3 a b).1 (h3 a b).2, fl4 := h4, fl6 := h6 },
    h.mem, h.logic⟩

theorem PC_flush3 (hI : Inv R s (fvOf Q)) (hP : PCore R s Q) (hq : QOk Q)
    (hp : s.fpc = 3) :
    PCore R { (Atom.rawEff s .syncDir) with fpc := 4 } (syncDirQ Q) :=
  have h34 : 3 ≤ s.fpc ∧ s.fpc ≤ 4 := by omega
  PCore_fpc (PC_syncDir hI hP hq) 4 (fun _ _ => h34) (fun _ _ => rfl) (by intro _ a; omega)

theorem PC_flush4 (hI : Inv R s (fvOf Q)) (hP : PCore R s Q)
    (k : Nat) (rest : List Nat) (hi : s.imm = k :: rest) (hp : s.fpc = 4)
    (h1 : aget s.fsst s.tset = none) (hmd : s.mdirty = false) :
    PCore R { s with fpc := 5, tset := aset s.fsst 0 s.tset, tcont := (s.fsst, s.memEnts k) :: s.tcont, mdirty := true }
      (qupd Q .manifest ((Q .manifest).setV ((Q .manifest).fv.map (appendChunk (.mset [.create s.fsst 0]))))) := by
  have hD : s.tsetD = s.tset := hP.man.clean hmd
  have hne : s.imm ≠ [] := by rw [hi]; simp
  have hhead : s.imm.head? = some k := by rw [hi]; rfl
  have hcontNew := entsOfTable_cons_self s.tcont s.fsst (s.memEnts k)
  have hcontOld : ∀ id, id ≠ s.fsst → entsOfTable ((s.fsst, s.memEnts k) :: s.tcont) id = entsOfTable s.tcont id :=
    fun _ => entsOfTable_cons_ne _ _
  have hflush := tablesEnts_flush s.tcont s.fsst (s.memEnts k) s.tset h1
  have hother := tablesEnts_cons_other s.tcont s.fsst (s.memEnts k) s.tsetD (by rw [hD]; exact h1)
  generalize (s.fsst, s.memEnts k) :: s.tcont = tc at hcontNew hcontOld hflush hother ⊢
  refine PCore_upd_manifest _ ?_ ?_ ?_ ?_
  · exact ⟨hP.man.lk, ManifestOk_append (fvOf Q) s.tset _ [.create s.fsst 0] hP.man.vol
      (by simp [applyMSet, applyMChange, h1]), hP.man.dur, by intro e; cases e⟩
  · have hs := hP.sst
    show PSst (aset s.fsst 0 s.tset) s.tsetD tc s.imm s.mtxns 5 s.fsst s.nextSst s.kout s.kdir (sstQ Q)
    exact { hs with
      tables := by
        intro id hid
        by_cases hf : id = s.fsst
        · subst hf
          rw [hcontNew]
          exact ⟨hs.fl4 hne hp, hI.sst.flush2 k hhead (by omega) (by omega), hs.fl3 k hhead (by omega) (by omega)⟩
        · rw [hcontOld id hf]
          apply hs.tables id
          rcases hid with hid | hid
          · left
            have : ¬ s.fsst = id := fun e => hf e.symm
            simpa [aget_aset, this] using hid
          · right; exact hid
      fl3 := by intro _ _ _ a; omega
      fl4 := by intro _ a; omega
      fl6 := by intro _ a; omega }
  · have hm := hP.mem
    exact { hm with
      pend := by
        intro x hx
        obtain ⟨a, b, c, d⟩ := hm.pend x hx
        refine ⟨a, b, c, ?_⟩
        intro e he
        obtain ⟨d1, d2, d3⟩ := d e he
        have hxf : x.2 ≠ s.fsst := by
          intro e'; rw [e', h1] at d1; cases d1
        have : ¬ s.fsst = x.2 := fun e => hxf e.symm
        exact ⟨by simpa [aget_aset, this] using d1, d2, by rw [hcontOld _ hxf]; exact d3⟩ }
  · have hl := hP.logic
    refine ⟨hl.curLe, hl.link, ?_, ?_⟩
    · rw [hflush]
      exact R.trans _ _ _ (base_flush R _ _ _ (hi ▸ List.mem_cons_self)) hl.baseV
    · rw [hother]
      exact hl.baseD

theorem PC_flush5 (hI : Inv R s (fvOf Q)) (hP : PCore R s Q) (hp : s.fpc = 5) :
    PCore R { s with fpc := 6, mdirty := false, tsetD := s.tset }
      (qupd Q .manifest ((Q .manifest).setD (Q .manifest).fv)) :=
  PCore_fpc (PC_syncManifest hI hP) 6 (by intro _ a; omega) (by intro _ a; omega)
    fun hne _ => hI.sst.fsst_listed hne (by omega)

theorem PC_flushDel (hI : Inv R s (fvOf Q)) (hP : PCore R s Q) (hq : QOk Q)
    (k : Nat) (rest : List Nat) (hi : s.imm = k :: rest)
    (hsub : ∀ e ∈ s.memEnts k, (aget s.fsst s.tset).isSome ∧ (aget s.fsst s.tsetD).isSome ∧
      e ∈ entsOfTable s.tcont s.fsst) :
    PCore R { s with imm := rest, fpc := 0, pendU := (k, s.fsst) :: s.pendU }
      (qupd Q (.mem k) (delPV (Q (.mem k)))) := by
  have hkin : k ∈ s.imm := by rw [hi]; simp
  have hnd : k ∉ rest := by
    have := hI.mem.immNodup; rw [hi] at this
    exact (List.nodup_cons.mp this).1
  have hrest : ∀ n, n ∈ rest → n ∈ s.imm := fun n hn => hi ▸ List.mem_cons_of_mem _ hn
  have hnotin : ∀ n, n ∉ rest → n ≠ k → n ∉ s.imm := fun n h1 h2 h3 => (List.mem_cons.mp (hi ▸ h3)).elim h2 h1
  refine PCore_upd_mem _ _ hP.man ?_ ?_ ?_
  · exact PSst_fpc_low hP.sst (Nat.zero_le 2) (Nat.le_refl _)
  · have hm := hP.mem
    dsimp only
    exact {
      immP := by
        intro n hn
        have : n ≠ k := fun e => hnd (e ▸ hn)
        simp only [this, if_false]
        exact hm.immP n (hrest n hn)
      curP := by
        intro ho
        have : s.cur ≠ k := fun e => hI.mem.curNotImm ho (e ▸ hkin)
        simp only [this, if_false]
        exact hm.curP ho
      deadP := by
        intro n h1 h2
        by_cases hn : n = k
        · subst hn
          simp only [if_true]
          right
          refine ⟨⟨s.fsst, List.mem_cons_self⟩, ?_⟩
          obtain ⟨hl, f', hf', hr⟩ := hm.immP n hkin
          have hl' : (Q (.mem n)).lk = true := hl
          have hdd : (Q (.mem n)).dd = some f' := by rw [(hq (.mem n)).lkd hl']; exact hf'
          intro f hf e he
          rcases hf with hf | hf
          · simp only [delPV, hl', if_true] at hf
            obtain ⟨g, _, rfl⟩ := Option.map_eq_some_iff.mp hf
            simp [truncChunks, replayLog] at he
          · simp only [delPV] at hf
            rw [hdd] at hf
            injection hf with hf
            subst hf
            rw [hr] at he; exact he
        · simp only [hn, if_false]
          rcases hm.deadP n (hnotin n h1 hn) h2 with h | ⟨⟨t, ht⟩, h⟩
          · exact Or.inl h
          · exact Or.inr ⟨⟨t, List.mem_cons_of_mem _ ht⟩, h⟩
      pend := by
        intro x hx
        rcases List.mem_cons.mp hx with hx | hx
        · subst hx
          exact ⟨hI.mem.immLt k hkin, hnd, fun ho e => hI.mem.curNotImm ho (e ▸ hkin), hsub⟩
        · obtain ⟨a, b, c, d⟩ := hm.pend x hx
          exact ⟨a, fun h => b (hrest _ h), c, d⟩ }
  · have hl := hP.logic
    rw [hi] at hl
    refine ⟨hl.curLe, hl.link, ?_, ?_⟩
    · exact R.trans _ _ _ (base_flushDel R rest fun e he => mem_tablesEnts _ _ _ e (hsub e he).1 (hsub e he).2.2) hl.baseV
    · exact R.trans _ _ _ (base_flushDel R rest fun e he => mem_tablesEnts _ _ _ e (hsub e he).2.1 (hsub e he).2.2) hl.baseD

theorem PC_atom (hI : Inv R s (fvOf Q)) (hP : PInv R s Q) (a : Atom) :
    PCore R (a.eff s) (qrun Q (a.ops s)) := by
  have hC := hP.core
  have hq := hP.qok
  refine a.guarded (motive := fun ops s' => PCore R s' (qrun Q ops)) hC fun hg => ?_
  cases a with
  | sync p =>
    dsimp only [Atom.rawOps, Atom.rawEff, qrun_sync1]
    cases p with
    | mem fid =>
      show PCore R (if fid = s.cur ∧ s.curOpen = true then _ else s) _
      split
      · rename_i hc; exact PC_syncMem hI hC hq fid false (Or.inl hc)
      · exact PC_syncMem hI hC hq fid s.curDirty (Or.inr rfl)
    | manifest => exact PC_syncManifest hI hC
    | sst id => exact PC_syncSst hI hC id
    | _ => exact PCore_qupd_frame hC _ _ (by simp) (by simp) (by simp)
  | syncDir => exact PC_syncDir hI hC hq
  | zero p => exact hC
  | vput k v => exact PCore_vlog hC _ _ _ _ _
  | vtrunc => exact PCore_vlog hC _ _ s.vfid s.vcount s.vchunks
  | vrot =>
    simp only [Atom.rawOps, Atom.rawEff, qrun_mkFile]
    exact PCore_vlog hC _ _ _ _ _
  | vhdr => exact PCore_vlog hC _ _ s.vfid s.vcount _
  | pushImm =>
    obtain ⟨ho, _, hd⟩ := Atom.guard_pushImm hg
    exact PC_pushImm hI hC ho (hd hP.sw).1 ((hd hP.sw).2 hP.fix)
  | newMem =>
    simp only [Atom.rawOps, Atom.rawEff, qrun_mkFile]
    exact PC_newMem hI hC (Atom.guard_newMem hg).1
  | mhdr => exact PC_curAppend R s _ Q hI hC (Atom.guard_mhdr hg).1 _ (by constructor <;> rfl) (fun e => e)
  | wput e => exact PC_curAppend R s _ Q hI hC (Atom.guard_wput hg).1 _ (by constructor <;> rfl) (by intro e; cases e)
  | fin =>
    obtain ⟨t, hinf, ho, _⟩ := Atom.guard_fin hg
    simp only [Atom.rawOps, Atom.rawEff, qrun_append1, hinf]
    exact PC_fin hI hC t hinf ho _
  | ack =>
    obtain ⟨hlt, hd⟩ := Atom.guard_ack hg
    obtain ⟨ho, hcd, hde⟩ := hd hP.sw
    exact PC_ack hC hlt ho hcd (hde hP.fix)
  | kmk id =>
    obtain ⟨⟨o, ho, hoid, host⟩, hfl, h1, h2⟩ := guard_kout hg
    simp only [Atom.rawOps, Atom.rawEff, qrun_mkFile]
    exact PC_kmk hI hC id o ho hoid host hfl h1 h2 _
  | kwrite id =>
    obtain ⟨⟨o, ho, hoid, host⟩, hfl, h1, h2⟩ := guard_kout hg
    have hfind : s.kout.find? (fun x => x.id == id) = some o := by
      rw [← hoid]; exact find?_key_of_mem KOut.id (List.pairwise_map.mp hI.sst.koutNodup) ho
    simp only [Atom.rawOps, Atom.rawEff, hfind, qrun_append1]
    exact PC_kwrite hI hC id o ho hoid host hfl h1 h2 _
  | kmset =>
    obtain ⟨hk, hst, hmd, hkd, hpe, ⟨t', happ⟩, _⟩ := Atom.guard_kmset hg
    simp only [Atom.rawOps, Atom.rawEff, qrun_append1, happ, Option.getD_some]
    exact PC_kmset hI hC t' hk hst happ hmd hkd hpe
  | kdel id =>
    obtain ⟨h1, hfl, hko, hmd⟩ := Atom.guard_kdel hg
    simp only [Atom.rawOps, Atom.rawEff, qrun_delFile]
    exact PC_kdel hC id h1 hmd hfl hko _

theorem PC_flushAtom (hI : Inv R s (fvOf Q)) (hP : PInv R s Q) {s' : PState} {ops : List FsOp}
    (hf : flushAtom s = some (ops, s')) : PCore R s' (qrun Q ops) := by
  have hC := hP.core
  have hq := hP.qok
  refine flushAtom_cases (motive := fun ops s' => PCore R s' (qrun Q ops)) s ?_ ?_ ?_ ?_ ?_ ?_ ?_ ops s' hf
  · intro k rest hi hd
    rw [qrun_delFile]
    refine PC_flushDel hI hC hq k rest hi fun e he => ?_
    rcases hd with hd | hd
    · rw [hd] at he; cases he
    · have hne : s.imm ≠ [] := by rw [hi]; exact List.cons_ne_nil _ _
      obtain ⟨h5a, h5b⟩ := hI.sst.flush5 k (by rw [hi]; rfl) (by omega)
      exact ⟨h5a, hC.sst.fl6 hne hd, by rw [h5b]; exact he⟩
  · intro _ hp
    rw [qrun_mkFile]
    exact PC_flush0 hI hC hp _
  · intro k rest _ hp h1 hko h2
    exact PC_flush1 hC hp h1 h2 hko _
  · intro _ hp
    simp only [hP.fix, if_true]
    exact PC_flush2 hI hC hp
  · intro _ hp
    exact PC_flush3 hI hC hq hp
  · intro k rest hi hp h1 hmd
    exact PC_flush4 hI hC k rest hi hp h1 hmd
  · intro _ hp
    exact PC_flush5 hI hC hp

theorem PC_step (hI : Inv R s (fvOf Q)) (hP : PInv R s Q) (x : Sched) :
    PCore R (s.step x).2 (qrun Q (s.step x).1) := by
  fun_cases PState.step s x
  case case1 => exact PC_commitStart R s _ Q hI hP.core _ (by constructor <;> rfl) rfl  -- commit, enabled
  case case3 => exact PCore_wq hP.core _  -- flushReq, enabled
  case case5 =>  -- compact, enabled
    refine PC_compactStart R s _ Q hP.core (by constructor <;> rfl) (Nat.le_add_right _ _) rfl fun o ho => ?_
    obtain ⟨x, _, he⟩ := List.mem_map.mp ho
    subst he; rfl
  case case8 a rest hw => exact PCore_wq (PC_atom hI hP a) rest  -- a writer atom
  case case9 ops s' hf => exact PC_flushAtom hI hP hf  -- a flusher atom
  all_goals exact hP.core

theorem PInv_step (R : ViewRel) (s : PState) (Q : QFs) (hI : Inv R s (fvOf Q)) (hP : PInv R s Q) (x : Sched) :
    PInv R (s.step x).2 (qrun Q (s.step x).1) ∧ noRen (s.step x).1 = true :=
  have ⟨hc, hn⟩ := s.step_cfg_noRen x
  ⟨⟨hc ▸ hP.fix, hc ▸ hP.sw, QOk_qrun Q hP.qok _ (noRen_spec _ hn), PC_step hI hP x⟩, hn⟩

end Badger
