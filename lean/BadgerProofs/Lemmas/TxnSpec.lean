import BadgerModel.Mvcc
import BadgerModel.Spec.Mvcc
/-!
# What the transaction theorems are stated in: the operation alphabet and the scan specification

Definitions only; their lemmas are in `Lemmas/Txn.lean`.

`Op`, `Db.step`, `Db.run`: the operations of the `Db` model (`Mvcc.lean`) as one step function over an
alphabet, and runs of it (C03, C36, C37 quantify over operation sequences in this form). The harness
driver `Driver.mvccStepW` issues the same operations from text lines, but through the namespace variants
`modifyNs`/`txnGetNs`/`iteratePickedNs` and with `Db.dropAll` (Drop.lean) where `.dropAll` here resets to
`Lsm.init`; no theorem relates the two step functions.

The specification of the user-level scan (C05), over the sorted merged stream: `specScanFwd`, `specScanRev`,
`specAllVersions`, built from the version window `inWindow`, the newest version inside it `newestVisible` and
what a scan yields of an entry, `yieldable`; `seekKeyOf` is the key `Seek`/`Rewind` positions at. `NoHidden`
and `SortedDesc` are the two hypotheses on the stream that the equalities loop = specification carry.
-/
namespace Badger

inductive Op
  | begin (id : Nat) (update : Bool) (mts : Nat)
  | set (id : Nat) (e : Ent)
  | get (id : Nat) (k : Bytes)
  | commit (id : Nat) (mts : Nat)
  | discard (id : Nat)
  | iter (id : Nat) (o : IterOpts) (seek : Option Bytes)
  | flush (id : Nat)
  | setNow (t : Nat)
  | setDiscard (ts : Nat)
  | compact (cd : CompactDef)
  | dropPrefix (n : Nat)   -- `DropPrefix` of `n` prefixes: one read-only `View` each
  | dropAll

/-- the reads an iteration records (`Seek(key)` and every `Item()`), as in `Driver.mvccStepW` -/
def iterReads (seek : Option Bytes) (items : List Ent) : List Bytes :=
  (match seek with | some k => if k.isEmpty then [] else [k] | none => []) ++ items.map (·.key)

def Db.step (d : Db) : Op → Db
  | .begin id u m => (d.begin id u m).1
  | .set id e => (d.modify id e).1
  | .get id k => (d.txnGet id k).1
  | .commit id m => (d.commit id m).1
  | .discard id => d.discardTxn id
  | .iter id o seek =>
    match d.iterate id o seek, d.findTxn id with
    | some items, some t =>
      if t.update then d.setTxn { t with reads := iterReads seek items ++ t.reads } else d
    | _, _ => d
  | .flush id => { d with lsm := d.lsm.flush id }
  | .setNow t => { d with now := t }
  | .setDiscard ts => ({ d with discardTs := ts } : Db).cleanup
  | .compact cd =>
    match d.lsm.compact cd d.discardAtOrBelow d.opts.numKeep d.now with
    | some l => { d with lsm := l }
    | none => d
  | .dropPrefix n =>
    (List.replicate n ()).foldl (fun (d : Db) _ =>
      if d.opts.managed then d else
      let rts := d.nextTs - 1
      { d with readMark := (d.readMark.begin rts).done rts }) d
  | .dropAll =>
    let o := if d.opts.inMemory then { d.opts with threshold := 2147483647 } else d.opts
    { d with lsm := Lsm.init d.opts.maxLevels, opts := o }

def Db.run (d : Db) (ops : List Op) : Db := ops.foldl Db.step d

/-- the key `Seek`/`Rewind` positions at: the argument, or the prefix option -/
def seekKeyOf (o : IterOpts) (seek : Option Bytes) : Bytes :=
  match seek with
  | some k => if k.isEmpty then o.prefix_ else k
  | none => o.prefix_

/-- the version window of a scan: `ver ≤ readTs`, and `since < ver` when `since > 0` -/
def inWindow (readTs since : Nat) (e : Ent) : Bool :=
  decide (e.ver ≤ readTs) && (since == 0 || decide (since < e.ver))

/-- the newest version of `k` inside the window, over the whole merged stream -/
def newestVisible (merged : List Ent) (readTs since : Nat) (k : Bytes) : Option Ent :=
  newestLE (merged.filter (inWindow readTs since)) k readTs

/-- what a scan yields of an entry: it must be the newest in-window version of its key, and live -/
def yieldable (merged : List Ent) (readTs since now : Nat) (e : Ent) : Bool :=
  decide (newestVisible merged readTs since e.key = some e) && !deletedOrExpired e.emeta e.exp now

/-- forward scan: from the first key `≥ seekKey`, while the keys have the prefix: each key's
    newest in-window version, unless dead — in stream (ascending key) order. -/
def specScanFwd (merged : List Ent) (readTs since now : Nat) (pfx seekKey : Bytes) : List Ent :=
  ((merged.dropWhile (fun e => cmpBytes e.key seekKey == .lt)).takeWhile
    (fun e => pfx.isPrefixOf e.key)).filter (yieldable merged readTs since now)

/-- reverse scan: descending from the last key `≤ seekKey` (an empty seek key = from the end). -/
def specScanRev (merged : List Ent) (readTs since now : Nat) (seekKey : Bytes) : List Ent :=
  (if seekKey.isEmpty then merged.reverse
   else merged.reverse.dropWhile (fun e => cmpBytes e.key seekKey == .gt)).filter
    (yieldable merged readTs since now)

/-- `AllVersions`: every entry of the stream inside the window, in stream order -/
def specAllVersions (stream : List Ent) (readTs since : Nat) : List Ent :=
  stream.filter (inWindow readTs since)

/-- no entry of the list is hidden as an internal key -/
def NoHidden (o : IterOpts) (l : List Ent) : Prop :=
  o.internalAccess = true ∨ ∀ e ∈ l, badgerPrefix.isPrefixOf e.ikey = false

/-- descending order of the reversed stream -/
def SortedDesc (l : List Ent) : Prop := l.Pairwise (fun a b => entCmp b a = .lt)

end Badger
