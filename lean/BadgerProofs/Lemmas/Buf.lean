import BadgerModel.Batch
import BadgerProofs.Lemmas.Lists
/-!
# One `Txn.modify` on the write buffer (`Buf.add`)

What the step does to `pendingWrites` (still one entry per key; `pendingWrites[k]` afterwards) and to
`duplicateWrites` (as a list and by membership). `Db.modify` updates `TxnM.pending` / `TxnM.dups` with the
expression of `Buf.add`, so these steps serve the WriteBatch theorems (`Props/C27*.lean`) and the transaction
table invariant (`DbL.TxnOk`, Lemmas/DbInv.lean, kept along `DbReach` in Props/C01Db.lean) alike;
`C06_pending_keys_distinct` (Props/C06.lean) uses `add_keysDistinct` too.
-/
namespace Badger

/-- `pendingWrites` is a map: at most one entry per key -/
def Buf.KeysDistinct (b : Buf) : Prop := b.pending.Pairwise (fun x y => x.key ≠ y.key)

theorem Buf.add_keysDistinct {b : Buf} (h : b.KeysDistinct) (e : Ent) : (b.add e).KeysDistinct := by
  unfold Buf.KeysDistinct Buf.add
  simp only
  rw [List.pairwise_append]
  refine ⟨h.sublist List.filter_sublist, List.pairwise_singleton _ _, fun x hx y hy => ?_⟩
  rw [List.mem_singleton.mp hy]
  exact bne_iff_ne.mp (List.mem_filter.mp hx).2

/-- `pendingWrites[e.key] = e` -/
theorem Buf.add_pending_find (b : Buf) (e : Ent) (k : Bytes) :
    (b.add e).pending.find? (·.key == k) =
      if e.key == k then some e else b.pending.find? (·.key == k) := by
  show (b.pending.filter (fun x => x.key != e.key) ++ [e]).find? (fun x => x.key == k) = _
  rw [List.find?_append, List.find?_singleton]
  by_cases hk : e.key = k
  · subst hk
    rw [find?_filter_key_self Ent.key, if_pos (beq_self_eq_true _), if_pos (beq_self_eq_true _),
      Option.none_or]
  · rw [find?_filter_key_ne Ent.key _ (Ne.symm hk), beq_eq_false_iff_ne.mpr hk,
      if_neg Bool.false_ne_true, if_neg Bool.false_ne_true, Option.or_none]

/-- `duplicateWrites` gains the replaced entry of the key when its version differs -/
theorem Buf.add_dups (b : Buf) (e : Ent) :
    (b.add e).dups = b.dups ++ ((b.pending.find? (·.key == e.key)).filter (·.ver != e.ver)).toList := by
  unfold Buf.add
  cases b.pending.find? (·.key == e.key) with
  | none => simp
  | some o => cases h : o.ver != e.ver <;> simp [Option.filter, h]

theorem Buf.add_dups_mem (b : Buf) (e d : Ent) :
    d ∈ (b.add e).dups ↔ d ∈ b.dups ∨ (b.pending.find? (·.key == e.key) = some d ∧ d.ver ≠ e.ver) := by
  rw [Buf.add_dups, List.mem_append, Option.mem_toList, Option.filter_eq_some_iff, bne_iff_ne]

/-- without explicit versions `duplicateWrites` stays empty: the replaced entry has version 0 like the new one -/
theorem Buf.add_plain {b : Buf} {e : Ent} (hb : ∀ p ∈ b.pending, p.ver = 0) (hd : b.dups = []) (he : e.ver = 0) :
    (∀ p ∈ (b.add e).pending, p.ver = 0) ∧ (b.add e).dups = [] := by
  refine ⟨fun p hp => ?_, ?_⟩
  · rcases List.mem_append.mp hp with hp | hp
    · exact hb p (List.mem_filter.mp hp).1
    · exact List.mem_singleton.mp hp ▸ he
  · rw [Buf.add_dups, hd, Option.filter_eq_none_iff.mpr]
    · rfl
    · intro o ho
      rw [hb o (List.mem_of_find?_eq_some ho), he]
      decide

end Badger
