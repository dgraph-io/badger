import BadgerProofs.Lemmas.CrashStep2
import BadgerProofs.Lemmas.PowerFs
/-!
From the invariant to the crash theorems: the freshly opened database satisfies `Inv`, every
history preserves it, and an image satisfying it is recovered to the logical state.

The file system is followed through its power-loss view `Fs.quad` (`MState.step_quad`), of which the
kill view is the component `fv`; `exec_quad` is the one induction over histories, for `Inv` and for
whatever else a step preserves next to it (the power-loss invariant, in `PowerMain`).
-/
namespace Badger

/-- the file system the first `Open` leaves behind (the MANIFEST is synced under its first name
    and renamed; the key registry is renamed without a sync, the conservative side of the code, which
    writes it through an `O_DSYNC` descriptor (`y.OpenTruncFile(tmpPath, true)`); the two log files are created,
    extended and written but never synced) -/
def fs0 : Fs :=
  { next := 4,
    data := [(3, { chunks := [.hdr], size := .alloc }), (2, { chunks := [.hdr], size := .alloc }),
             (1, { chunks := [.kreg], size := .tight }), (0, { chunks := [.mhdr], size := .tight })],
    dir := [(.vlog 1, 3), (.mem 1, 2), (.keyRegistry, 1), (.manifest, 0)],
    ddata := [(3, { chunks := [], size := .alloc }), (2, { chunks := [], size := .alloc }),
              (0, { chunks := [.mhdr], size := .tight })],
    ddir := [(.vlog 1, 3), (.mem 1, 2), (.keyRegistry, 1), (.manifest, 0)] }

theorem init_fs : Fs.run {} firstOpenOps = fs0 := rfl

theorem fs0_WF2 : fs0.WF2 := by
  have inj : ∀ p q i, aget p fs0.dir = some i → aget q fs0.dir = some i → p = q := fun p q i hp hq =>
    congrArg Prod.fst
      (eq_of_nodup_map (·.2) fs0.dir (by decide) (p, i) (q, i) (aget_mem _ _ _ hp) (aget_mem _ _ _ hq) rfl)
  have lt : ∀ p i, aget p fs0.dir = some i → i < fs0.next := by
    intro p i hp
    have h : fs0.dir.all (fun x => decide (x.2 < fs0.next)) = true := by decide
    simpa using List.all_eq_true.mp h (p, i) (aget_mem _ _ _ hp)
  -- `fs0.ddir` and `fs0.dir` are the same list
  refine ⟨inj, lt, lt, inj, fun i hi => (aget_none_iff _ _).mpr fun x hx => ?_⟩
  have h : fs0.ddata.all (fun x => decide (x.1 < fs0.next)) = true := by decide
  have h1 : x.1 < fs0.next := by simpa using List.all_eq_true.mp h x hx
  have h2 : fs0.next ≤ i := hi
  omega

/-- the power-loss view of `fs0`; its component `fv` is the kill view -/
def Q0 : QFs := fun q =>
  match q with
  | .manifest => { fv := some { chunks := [.mhdr], size := .tight }, fd := some { chunks := [.mhdr], size := .tight },
                   dv := some { chunks := [.mhdr], size := .tight }, dd := some { chunks := [.mhdr], size := .tight }, lk := true }
  | .keyRegistry => { fv := some { chunks := [.kreg], size := .tight }, fd := some {},
                      dv := some { chunks := [.kreg], size := .tight }, dd := some {}, lk := true }
  | .mem n | .vlog n =>
    if n = 1 then { fv := some { chunks := [.hdr], size := .alloc }, fd := some { chunks := [], size := .alloc },
                    dv := some { chunks := [.hdr], size := .alloc }, dd := some { chunks := [], size := .alloc }, lk := true }
    else {}
  | _ => {}

theorem fs0_quad : fs0.quad = Q0 := by
  funext q
  cases q with
  | mem n | vlog n =>
    by_cases h : n = 1
    · subst h; rfl
    · simp [Fs.quad, fs0, Q0, aget, h, Ne.symm h]
  | _ => rfl

theorem Inv_init (R : ViewRel) (c : Cfg) : Inv R { cfg := c } (fvOf Q0) where
  logic := ⟨by simp [PState.lsmEnts, txnsEnts, PState.memEnts, PState.memTxns, aget]; exact R.refl _,
            Nat.le_refl _, Nat.le_refl _, rfl⟩
  manifest := ⟨[], .tight, rfl, rfl⟩
  mem := {
    memNZ := by
      intro n f hf
      simp only [memView, fvOf, Q0] at hf
      by_cases h : n = 1
      · simp [h] at hf; subst hf; simp
      · simp [h] at hf
    memKnown := by
      intro n hn
      simp only [memView, fvOf, Q0] at hn
      by_cases h : n = 1
      · exact Or.inr ⟨rfl, h⟩
      · simp [h] at hn
    immFiles := by intro k hk; simp at hk
    curFile := by
      intro _
      exact ⟨{ chunks := [.hdr], size := .alloc }, rfl, rfl⟩
    curTxns := by intro t ht; simp [aget] at ht
    noHdr := by intro h; cases h
    memFresh := by
      intro n hn
      have : n ≠ 1 := by have : (2 : Nat) ≤ n := hn; omega
      simp [memView, fvOf, Q0, this, aget]
    curLt := by show (1 : Nat) < 2; omega
    immLt := by intro k hk; simp at hk
    curNotImm := by intro _ hk; simp at hk
    immNodup := List.nodup_nil }
  sst := {
    tables := by intro x hx; simp at hx
    sstFresh := by intro n _; simp [sstView, fvOf, Q0, aget]
    idle := by intro _; rfl
    fsstLt := by intro h; exact absurd rfl h
    flush1 := by intro h; exact absurd rfl h
    flush2 := by intro k hk; simp at hk
    flush5 := by intro k hk; simp at hk
    koutLt := by intro o ho; simp at ho
    koutNodup := List.nodup_nil
    koutFiles := by intro o ho; simp at ho
    kview := by intro h; exact absurd rfl h
    kinsIn := by intro id hid; simp at hid }
  vlogNZ := by
    intro n f hf
    simp only [fvOf, Q0] at hf
    by_cases h : n = 1
    · simp [h] at hf; subst hf; simp
    · simp [h] at hf

theorem Atom.cfg_noRen (s : PState) (a : Atom) : (a.eff s).cfg = s.cfg ∧ noRen (a.ops s) = true :=
  a.guarded (motive := fun ops s' => s'.cfg = s.cfg ∧ noRen ops = true) ⟨rfl, rfl⟩ fun _ =>
    ⟨by fun_cases Atom.rawEff s a <;> rfl, by fun_cases Atom.rawOps s a <;> rfl⟩

/-- no step touches the configuration, and the protocol never renames (the first `Open` does:
    MANIFEST-REWRITE, REWRITE-KEYREGISTRY) -/
theorem PState.step_cfg_noRen (s : PState) (x : Sched) : (s.step x).2.cfg = s.cfg ∧ noRen (s.step x).1 = true := by
  fun_cases PState.step s x
  case case8 a rest hw => exact Atom.cfg_noRen s a  -- a writer atom
  case case9 ops s' hf =>  -- a flusher atom
    exact flushAtom_cases (motive := fun ops s' => s'.cfg = s.cfg ∧ noRen ops = true) s (fun _ _ _ _ => ⟨rfl, rfl⟩)
      (fun _ _ => ⟨rfl, rfl⟩) (fun _ _ _ _ _ _ _ => ⟨rfl, rfl⟩) (fun _ _ => ⟨rfl, rfl⟩) (fun _ _ => ⟨rfl, rfl⟩)
      (fun _ _ _ _ _ _ => ⟨rfl, rfl⟩) (fun _ _ => ⟨rfl, rfl⟩) ops s' hf
  all_goals exact ⟨rfl, rfl⟩

theorem MState.step_quad (m : MState) (x : Sched) (hwf : m.fs.WF2) :
    (m.step x).fs.WF2 ∧ (m.step x).fs.quad = qrun m.fs.quad (m.p.step x).1 :=
  Fs.quad_run m.fs hwf _ (noRen_spec _ (m.p.step_cfg_noRen x).2)

/-- `Inv` holds along every history, and so does any `X` that a step preserves next to it -/
theorem exec_quad (R : ViewRel) (X : PState → QFs → Prop)
    (hX : ∀ s Q, Inv R s (fvOf Q) → X s Q → ∀ x, X (s.step x).2 (qrun Q (s.step x).1))
    (m : MState) (h : List Sched) (hwf : m.fs.WF2)
    (hI : Inv R m.p (fvOf m.fs.quad)) (hok : SchedHistOk R m.p h) :
    (m.exec h).fs.WF2 ∧ Inv R (m.exec h).p (fvOf (m.exec h).fs.quad) ∧
      (X m.p m.fs.quad → X (m.exec h).p (m.exec h).fs.quad) := by
  induction h generalizing m with
  | nil => exact ⟨hwf, hI, id⟩
  | cons x h ih =>
    obtain ⟨hwf', hq⟩ := m.step_quad x hwf
    have hi := Inv_step R m.p (fvOf m.fs.quad) hI x ⟨hok.1, trivial⟩
    rw [← fvOf_qrun, ← hq] at hi
    obtain ⟨a, b, c⟩ := ih (m.step x) hwf' hi hok.2
    exact ⟨a, b, fun hx => c (hq ▸ hX m.p m.fs.quad hI hx x)⟩

theorem reach_inv (R : ViewRel) (c : Cfg) (h : List Sched) (hok : SchedHistOk R (MState.init c).p h) :
    Inv R ((MState.init c).exec h).p ((MState.init c).exec h).fs.file := by
  have hfs : (MState.init c).fs = fs0 := init_fs
  rw [← Fs.quad_fv]
  refine (exec_quad R (fun _ _ => True) (fun _ _ _ _ _ => trivial) _ h (hfs ▸ fs0_WF2) ?_ hok).2.1
  rw [hfs, fs0_quad]
  exact Inv_init R c

/-- "some file under the name `p` replays to `e`", once the file under `p` is known -/
theorem exists_file_iff {P : KFs} {p : Path} {f : Inode} (h : P p = some f) (e : CEnt) :
    (∃ g, P p = some g ∧ e ∈ (replayLog g.chunks).ents) ↔ e ∈ (replayLog f.chunks).ents :=
  ⟨fun ⟨g, hg, he⟩ => by cases h.symm.trans hg; exact he, fun he => ⟨f, h, he⟩⟩

/-- what the `.mem` files of a directory `P` add to `T`, when every file that is neither immutable
    nor active holds entries of `T` only -/
theorem mem_files_ents (P : KFs) (mtxns : List (Nat × List Txn)) (imm : List Nat) (curOpen : Bool) (cur : Nat)
    (curEnts T : List CEnt)
    (hImm : ∀ k ∈ imm, ∃ f, P (.mem k) = some f ∧ (replayLog f.chunks).ents = entsOfMem mtxns k)
    (hCur : curOpen = true → ∀ e, (∃ f, P (.mem cur) = some f ∧ e ∈ (replayLog f.chunks).ents) ↔ e ∈ curEnts)
    (hClosed : curOpen = false → curEnts = [])
    (hDead : ∀ n f, n ∉ imm → ¬ (curOpen = true ∧ n = cur) → P (.mem n) = some f →
      ∀ e ∈ (replayLog f.chunks).ents, e ∈ T) (e : CEnt) :
    ((∃ n f, P (.mem n) = some f ∧ e ∈ (replayLog f.chunks).ents) ∨ e ∈ T) ↔
      e ∈ T ++ immsEnts mtxns imm ++ curEnts := by
  simp only [List.mem_append, immsEnts, mem_flatten_map]
  constructor
  · rintro (⟨n, f, hf, he⟩ | h)
    · by_cases hn : n ∈ imm
      · obtain ⟨f', hf', hr'⟩ := hImm n hn
        cases hf.symm.trans hf'
        exact Or.inl (Or.inr ⟨n, hn, hr' ▸ he⟩)
      · by_cases hc : curOpen = true ∧ n = cur
        · obtain ⟨ho, rfl⟩ := hc
          exact Or.inr ((hCur ho e).mp ⟨f, hf, he⟩)
        · exact Or.inl (Or.inl (hDead n f hn hc hf e he))
    · exact Or.inl (Or.inl h)
  · rintro ((h | ⟨k, hk, he⟩) | h)
    · exact Or.inr h
    · obtain ⟨f, hf, hr'⟩ := hImm k hk
      exact Or.inl ⟨k, f, hf, hr' ▸ he⟩
    · cases ho : curOpen with
      | false => rw [hClosed ho] at h; cases h
      | true =>
        obtain ⟨f, hf, he⟩ := (hCur ho e).mpr h
        exact Or.inl ⟨cur, f, hf, he⟩

/-- `Open` of the directory a kill leaves in a state satisfying `Inv` finds what the logical state holds.
    Read-only it needs a closed database (`curOpen = false`, `imm = []`: no `.mem` file exists), and
    then, if every table file is listed in the MANIFEST, does nothing but sync the directory -/
theorem recover_of_inv {R : ViewRel} {s : PState} {fs : Fs} (ro : Bool) (h : Inv R s fs.file)
    (hro : ro = true → s.curOpen = false ∧ s.imm = []) :
    ∃ r, recover ro (crashKill fs) = .ok r ∧ (∀ e, e ∈ r.entries ↔ e ∈ s.lsmEnts) ∧
      (ro = true → (∀ n, (fs.file (.sst n)).isSome → (aget n s.tset).isSome) → r.ops = [.syncDir]) := by
  have hfile : Image.file (crashKill fs) = fs.file := funext (crashKill_file fs)
  have hm := h.mem
  have hrw : ∀ n f, fs.file (.mem n) = some f → ro = false := by
    intro n f hf
    refine Bool.eq_false_iff.mpr fun hr => ?_
    obtain ⟨hc, hi⟩ := hro hr
    rw [h.mem_none (by rw [hi]; simp) (by rw [hc]; simp)] at hf
    cases hf
  obtain ⟨r, hr, hi, hops⟩ := recover_ok ro (crashKill fs) s.tset s.tableEnts (hfile ▸ h.manifest)
    (hfile ▸ h.sst.tables) (hfile ▸ fun n f hf => ⟨hrw n f hf, fun hz => absurd hz (hm.memNZ n f hf)⟩)
    (hfile ▸ fun n f hf hz => absurd hz (h.vlogNZ n f hf))
  refine ⟨r, hr, fun e => ?_, fun hr hno => ?_⟩
  · rw [hi, hfile, PState.lsmEnts_eq]
    refine mem_files_ents fs.file s.mtxns s.imm s.curOpen s.cur _ _ hm.immFiles ?_
      (fun ho => by rw [PState.curT_closed ho]; rfl) ?_ e
    · intro ho e
      obtain ⟨f, hf, hr⟩ := hm.curReplay ho
      rw [PState.curT_open ho, exists_file_iff hf, hr]
      rfl
    · intro n f h1 h2 hf
      rw [h.mem_none h1 h2] at hf
      cases hf
  · rw [hops hr, hfile, List.filter_eq_nil_iff.mpr, List.map_nil, List.nil_append]
    intro x hx
    have := (mem_listFiles fs.file .sst _ x).mp hx
    have h2 := hno x.1 (by rw [this.2]; rfl)
    cases hg : aget x.1 s.tset with
    | none => rw [hg] at h2; cases h2
    | some _ => simp

end Badger
