import BadgerModel.StreamWriter
import BadgerProofs.Lemmas.StreamOrd
import BadgerProofs.Lemmas.LsmCompact
/-!
# Lemmas on the StreamWriter model (stream_writer.go) used by C26

`sortStreams` of key-separated streams, the tables cut from a sorted run, the levels as a bag of
entries, what `Flush` installs (`swFlush_some`), the invariant `Inv` of the writer list (the writers are
the buckets of the data KVs by stream id) and the summary `Written` of a sequence of `Write` calls.
Namespace `Badger.SWL`.
-/
namespace Badger
namespace SWL
open SO

/-- stream `s` lies entirely below stream `t` in the user-key order. It unfolds to `LL.Sep LL.keyLt (asTbl s) (asTbl t)`,
    and `sortStreams_flatten_sorted` hands it to the table lemmas as that. -/
def sl (s t : List Ent) : Prop := ∀ x ∈ s, ∀ y ∈ t, klt x.key y.key

/-- a stream as a one-stream table: `sortStreams` is `sortBySmallest` on such tables -/
def asTbl (l : List Ent) : Tbl := { ents := l }

theorem map_ents_asTbl (xs : List (List Ent)) : (xs.map asTbl).map (·.ents) = xs := by
  rw [List.map_map]; exact List.map_id' xs

theorem insertStream_eq (s : List Ent) (xs : List (List Ent)) :
    insertStream s xs = (insertBySmallest (asTbl s) (xs.map asTbl)).map (·.ents) := by
  induction xs with
  | nil => rfl
  | cons x xs ih =>
    rw [insertStream, List.map_cons, insertBySmallest, ih]
    show _ = List.map _ (match s.head?, x.head? with | some a, some b => _ | _, _ => _)
    cases s.head? <;> cases x.head? <;> try rfl
    dsimp only
    split
    · rfl
    · rw [List.map_cons, List.map_cons, map_ents_asTbl]; rfl

theorem sortStreams_eq (ss : List (List Ent)) :
    sortStreams ss = (sortBySmallest (ss.map asTbl)).map (·.ents) := by
  induction ss with
  | nil => rfl
  | cons s ss ih =>
    show insertStream s (sortStreams ss) = (insertBySmallest (asTbl s) (sortBySmallest (ss.map asTbl))).map (·.ents)
    rw [ih, insertStream_eq, List.map_map]
    congr 2
    -- the sorted tables are still one-stream tables
    refine (List.map_congr_left fun t ht => ?_).trans (List.map_id' _)
    obtain ⟨l, _, rfl⟩ := List.mem_map.mp (LL.mem_sortBySmallest.mp ht)
    rfl

theorem sortStreams_perm (ss : List (List Ent)) : (sortStreams ss).Perm ss := by
  rw [sortStreams_eq]
  exact ((LL.sortBySmallest_perm _).map _).trans (by rw [map_ents_asTbl])

theorem sortStreams_flatten_sorted {ss : List (List Ent)} (hne : ∀ x ∈ ss, x ≠ [])
    (hs : ∀ x ∈ ss, SortedEnts x) (hc : ss.Pairwise (fun s t => sl s t ∨ sl t s)) :
    SortedEnts (sortStreams ss).flatten := by
  rw [sortStreams_eq, LL.flatten_sorted_iff]
  constructor
  · intro t ht
    obtain ⟨l, hl, rfl⟩ := List.mem_map.mp (LL.mem_sortBySmallest.mp ht)
    exact hs l hl
  · refine (LL.sortBySmallest_pairwise .inl ?_ (List.pairwise_map.mpr hc)).imp
      fun h x hx y hy => elt_of_klt (h x hx y hy)
    intro t ht
    obtain ⟨l, hl, rfl⟩ := List.mem_map.mp ht
    exact hne l hl

theorem mem_filter_nonempty {L : List (List Ent)} : ∀ x ∈ L.filter (!·.isEmpty), x ≠ [] := by
  intro x hx
  have := (List.mem_filter.mp hx).2
  cases x <;> simp at this ⊢

def tblEnts (ts : List Tbl) : List Ent := (ts.map (·.ents)).flatten

@[simp] theorem tblEnts_nil : tblEnts [] = [] := rfl
@[simp] theorem tblEnts_cons (t : Tbl) (ts : List Tbl) : tblEnts (t :: ts) = t.ents ++ tblEnts ts := rfl
theorem tblEnts_append (a b : List Tbl) : tblEnts (a ++ b) = tblEnts a ++ tblEnts b := by
  simp [tblEnts]

/-- `keyCutsOk` looks at the entries only, so it speaks for the tables under any file ids -/
theorem cutsAtKeyChange_of_keyCutsOk {ts us : List Tbl} (he : us.map (·.ents) = ts.map (·.ents))
    (hk : keyCutsOk ts = true) : CutsAtKeyChange us := by
  induction ts generalizing us with
  | nil => rw [List.map_eq_nil_iff.mp he]; trivial
  | cons a rest ih =>
    obtain ⟨u, us, rfl, hu, he⟩ := List.map_eq_cons_iff.mp he
    cases rest with
    | nil => rw [List.map_eq_nil_iff.mp he]; trivial
    | cons b rest =>
      obtain ⟨v, us, rfl, hv, he'⟩ := List.map_eq_cons_iff.mp he
      simp only [keyCutsOk, Bool.and_eq_true] at hk
      refine ⟨fun x y hx hy => ?_, ih (by rw [List.map_cons, hv, he', List.map_cons]) hk.2⟩
      have := hk.1
      rw [show a.ents = u.ents from hu.symm, show b.ents = v.ents from hv.symm,
        show u.ents.getLast? = some x from hx, show v.ents.head? = some y from hy] at this
      simpa using this

theorem sortBySmallest_id {ts : List Tbl} (hne : ∀ t ∈ ts, t.ents ≠ [])
    (hp : ts.Pairwise (LL.Sep elt)) : sortBySmallest ts = ts := by
  -- both lists are in order and hold the same tables
  have hperm := LL.sortBySmallest_perm ts
  refine List.Perm.eq_of_pairwise (fun a b ha hb hab hba => ?_)
    (LL.sortBySmallest_pairwise id hne (hp.imp .inl)) hp hperm
  obtain ⟨x, hx⟩ := List.exists_mem_of_ne_nil _ (hne a (hperm.mem_iff.mp ha))
  obtain ⟨y, hy⟩ := List.exists_mem_of_ne_nil _ (hne b hb)
  exact absurd (hba y hy x hx) (elt_asymm (hab x hx y hy))

theorem levelValid_of_sorted {ts : List Tbl} (hne : ∀ t ∈ ts, t.ents ≠ [])
    (hp : ts.Pairwise (LL.Sep elt)) : levelValid ts = true := by
  fun_induction levelValid ts with
  | case1 | case2 => rfl -- at most one table
  | case3 a b rest ih => -- `Biggest(a) < Smallest(b)`, then the tables from `b` on
    obtain ⟨hp1, hp2⟩ := List.pairwise_cons.mp hp
    have hx := List.getLast?_eq_some_getLast (hne a (by simp))
    have hy := List.head?_eq_some_head (hne b (by simp))
    have hxy := (entCmp_lt_iff_elt _ _).mpr
      (hp1 b (by simp) _ (List.mem_of_getLast? hx) _ (List.mem_of_head? hy))
    simp [Tbl.biggest, Tbl.smallest, hx, hy, hxy, ih (fun u hu => hne u (List.mem_cons_of_mem _ hu)) hp2]

def lvlEnts (levels : List (List Tbl)) : List Ent := (levels.map tblEnts).flatten

theorem allEntries_perm (s : Lsm) :
    s.allEntries.Perm ((s.mem :: s.imm.reverse).flatten ++ lvlEnts s.levels) := by
  unfold Lsm.allEntries Lsm.sources
  rw [List.flatten_append]
  apply List.Perm.append_left
  cases h : s.levels with
  | nil => exact List.Perm.refl _
  | cons l0 rest =>
    show ((l0.reverse.map (·.ents)) ++ rest.map (fun tbls => (tbls.map (·.ents)).flatten)).flatten.Perm
      (tblEnts l0 ++ (rest.map tblEnts).flatten)
    rw [List.flatten_append]
    apply List.Perm.append
    · exact ((List.reverse_perm l0).map _).flatten
    · exact List.Perm.refl _

theorem lvlEnts_map_sort (levels : List (List Tbl)) :
    (lvlEnts (levels.map sortBySmallest)).Perm (lvlEnts levels) := by
  induction levels with
  | nil => exact List.Perm.refl _
  | cons l ls ih =>
    show (tblEnts (sortBySmallest l) ++ lvlEnts (ls.map sortBySmallest)).Perm (tblEnts l ++ lvlEnts ls)
    exact List.Perm.append ((LL.sortBySmallest_perm l).map _).flatten ih

theorem lvlEnts_set (levels : List (List Tbl)) (i : Nat) (tables : List Tbl) (hi : i < levels.length) :
    (lvlEnts (levels.set i (levels.getD i [] ++ tables))).Perm (tblEnts tables ++ lvlEnts levels) := by
  have hg : (levels.map tblEnts)[i]? = some (tblEnts levels[i]) := by
    rw [List.getElem?_map, List.getElem?_eq_getElem hi]; rfl
  unfold lvlEnts
  rw [List.map_set, flatten_set (by simpa using hi), flatten_split hg, getD_eq_getElem _ _ hi, tblEnts_append,
    List.append_assoc]
  exact ((List.perm_append_comm_assoc _ _ _).append_left _).trans (List.perm_append_comm_assoc _ _ _)

/-- the levels `swFlush` installs. Its test for "no table" changes nothing: without tables the target level is
    set to what it holds. -/
def flushLevels (d : Db) (st : SwState) (tables : List Tbl) : List (List Tbl) :=
  (d.lsm.levels.set (st.prevLevel - 1) (d.lsm.levels.getD (st.prevLevel - 1) [] ++ tables)).map sortBySmallest

theorem set_getD_self {α : Type} (l : List α) (i : Nat) (a : α) : l.set i (l.getD i a) = l := by
  by_cases h : i < l.length
  · rw [getD_eq_getElem _ _ h, List.set_getElem_self]
  · exact List.set_eq_of_length_le (Nat.le_of_not_lt h)

theorem ite_isEmpty_set_getD {α : Type} (L : List (List α)) (i : Nat) (t : List α) :
    (if t.isEmpty then L else L.set i (L.getD i [] ++ t)) = L.set i (L.getD i [] ++ t) := by
  split
  · rename_i he
    rw [List.isEmpty_iff.mp he, List.append_nil, set_getD_self]
  · rfl

def flushTs (d : Db) (st : SwState) : Nat :=
  if d.opts.managed then d.nextTs
  else (if d.nextTs - 1 ≥ st.maxVersion then d.nextTs - 1 else st.maxVersion) + 1

theorem swFlush_some {d : Db} {st : SwState} {sizes ids : List Nat} {d' : Db} {valid : Bool}
    (h : d.swFlush st sizes ids = some (d', valid)) :
    ∃ tables0, splitSizes sizes st.newEnts = some tables0 ∧ keyCutsOk tables0 = true ∧
      d'.lsm = { d.lsm with levels := flushLevels d st (withIds tables0 ids) } ∧
      d'.nextTs = flushTs d st := by
  unfold Db.swFlush cutTables at h
  split at h
  · cases h -- `cutTables` fails
  · rename_i tables0 hc
    split at hc
    · cases hc -- the sizes do not add up to the entries
    · rename_i ts hs
      split at hc
      · rename_i hk -- the cuts respect the `sameKey` rule: the tables are installed
        cases hc
        refine ⟨tables0, hs, hk, ?_⟩
        simp only [Option.some.injEq, Prod.mk.injEq, ite_isEmpty_set_getD] at h
        obtain ⟨h1, _⟩ := h
        subst h1
        unfold flushLevels flushTs
        cases hm : d.opts.managed <;> simp
      · cases hc -- a cut inside the versions of one key

theorem swFlush_congr (d : Db) (st1 st2 : SwState) (sizes ids : List Nat)
    (h1 : st1.newEnts = st2.newEnts) (h2 : st1.prevLevel = st2.prevLevel)
    (h3 : st1.maxVersion = st2.maxVersion) : d.swFlush st1 sizes ids = d.swFlush st2 sizes ids := by
  unfold Db.swFlush
  rw [h1, h2, h3]

theorem any_sid (ws : List SWriter) (s : Nat) : (ws.any (·.sid == s) = true) ↔ s ∈ ws.map (·.sid) := by
  simp only [List.any_eq_true, List.mem_map, beq_iff_eq]

theorem swAdd_sids (ws : List SWriter) (s : Nat) (e : Ent) :
    (swAdd ws s e).map (·.sid) =
      if s ∈ ws.map (·.sid) then ws.map (·.sid) else ws.map (·.sid) ++ [s] := by
  unfold swAdd
  by_cases h : s ∈ ws.map (·.sid)
  · rw [if_pos ((any_sid ws s).mpr h), if_pos h, List.map_map]
    refine List.map_congr_left fun w _ => ?_
    simp only [Function.comp]
    split <;> rfl
  · rw [if_neg (mt (any_sid ws s).mp h), if_neg h]
    simp

theorem swAdd_ents (ws : List SWriter) (s : Nat) (e : Ent)
    (P : Nat → List Ent) (hP : ∀ w ∈ ws, w.ents = P w.sid) (hmiss : ∀ sid, sid ∉ ws.map (·.sid) → P sid = []) :
    ∀ w ∈ swAdd ws s e, w.ents = if w.sid = s then P s ++ [e] else P w.sid := by
  intro w' hw'
  unfold swAdd at hw'
  split at hw'
  · obtain ⟨w, hw, rfl⟩ := List.mem_map.mp hw'
    by_cases hs : w.sid = s
    · rw [if_pos (by simpa using hs), if_pos hs, ← hs, ← hP w hw]
    · rw [if_neg (by simpa using hs), if_neg hs, hP w hw]
  · rename_i hany
    have hnot : s ∉ ws.map (·.sid) := mt (any_sid ws s).mpr hany
    rcases List.mem_append.mp hw' with hw | hw
    · rw [if_neg fun e1 => hnot (List.mem_map.mpr ⟨w', hw, e1⟩), hP w' hw]
    · rw [List.mem_singleton.mp hw, if_pos rfl, hmiss s hnot]
      rfl

/-- invariant of the writer list once the data KVs `data` (done markers left out) have been added, in
    `handleRequests` form `f`: the writers are the buckets of `data` by stream id — distinct ids, the
    writer of `sid` holds the entries of `sid` in arrival order, every stream with data has a writer. -/
structure Inv (f : Ent → Ent) (ws : List SWriter) (data : List SKV) : Prop where
  nodup : (ws.map (·.sid)).Nodup
  ents : ∀ w ∈ ws, w.ents = ((data.filter (·.sid == w.sid)).map (·.e)).map f
  covered : ∀ kv ∈ data, kv.sid ∈ ws.map (·.sid)

theorem Inv.perm {f : Ent → Ent} {ws : List SWriter} {data : List SKV} (h : Inv f ws data) :
    ((ws.map (·.ents)).flatten).Perm ((data.map (·.e)).map f) := by
  have : ws.map (·.ents) =
      (((ws.map (·.sid)).map (fun s => data.filter (·.sid == s))).map (List.map (·.e))).map (List.map f) := by
    rw [List.map_map, List.map_map, List.map_map]
    exact List.map_congr_left h.ents
  rw [this, ← List.map_flatten, ← List.map_flatten]
  exact ((buckets_perm (·.sid) _ h.nodup data h.covered).map _).map _

theorem Inv.nil (f : Ent → Ent) : Inv f [] [] :=
  ⟨by simp, by simp, by simp⟩

theorem Inv.add {f : Ent → Ent} {ws : List SWriter} {data : List SKV} (h : Inv f ws data) (kv : SKV) :
    Inv f (swAdd ws kv.sid (f kv.e)) (data ++ [kv]) := by
  refine ⟨?_, ?_, ?_⟩
  · rw [swAdd_sids]
    split
    · exact h.nodup
    · rename_i hs
      refine List.nodup_append.mpr ⟨h.nodup, by simp, ?_⟩
      intro a ha b hb
      simp at hb; subst hb
      intro e1; subst e1; exact hs ha
  · intro w hw
    have hmiss : ∀ sid, sid ∉ ws.map (·.sid) → data.filter (·.sid == sid) = [] := fun sid hsid =>
      List.filter_eq_nil_iff.mpr fun x hx hc => hsid (eq_of_beq hc ▸ h.covered x hx)
    rw [swAdd_ents ws kv.sid (f kv.e) (fun sid => ((data.filter (·.sid == sid)).map (·.e)).map f) h.ents
      (fun sid hsid => by rw [hmiss sid hsid]; rfl) w hw, List.filter_append]
    by_cases hs : w.sid = kv.sid
    · simp [hs]
    · simp [hs, Ne.symm hs]
  · intro x hx
    rw [swAdd_sids]
    rcases List.mem_append.mp hx with hx | hx
    · have := h.covered x hx
      split
      · exact this
      · exact List.mem_append_left _ this
    · cases List.mem_singleton.mp hx
      split
      · assumption
      · simp

theorem Inv.adds {f : Ent → Ent} (more : List SKV) {ws : List SWriter} {data : List SKV} (h : Inv f ws data) :
    Inv f (more.foldl (fun ws kv => swAdd ws kv.sid (f kv.e)) ws) (data ++ more) := by
  induction more generalizing ws data with
  | nil => rwa [List.append_nil]
  | cons kv rest ih =>
    rw [List.foldl_cons, List.append_cons]
    exact ih (h.add kv)

theorem Inv.close {f : Ent → Ent} {ws : List SWriter} {data : List SKV} (h : Inv f ws data) (cl : List Nat) :
    Inv f (ws.map (fun w => if cl.contains w.sid then { w with closed := true } else w)) data := by
  -- closing touches neither stream ids nor contents
  have h1 : (ws.map (fun w => if cl.contains w.sid then { w with closed := true } else w)).map (·.sid) =
      ws.map (·.sid) := by
    rw [List.map_map]
    refine List.map_congr_left fun w _ => ?_
    simp only [Function.comp]
    split <;> rfl
  refine ⟨by rw [h1]; exact h.nodup, ?_, by rw [h1]; exact h.covered⟩
  intro w hw
  obtain ⟨w0, hw0, rfl⟩ := List.mem_map.mp hw
  split <;> exact h.ents w0 hw0

/-- what successful `Write` calls carrying the data KVs `data` (done markers left out) do to the state -/
structure Written (d : Db) (st st' : SwState) (data : List SKV) : Prop where
  prevLevel : st'.prevLevel = if data = [] then st.prevLevel
    else if st.prevLevel == 0 then d.lsm.levels.length else st.prevLevel
  maxVersion : st'.maxVersion = data.foldl (fun m kv => if m < kv.e.ver then kv.e.ver else m) st.maxVersion
  inv : ∀ {data0 : List SKV}, Inv d.swForm st.writers data0 → Inv d.swForm st'.writers (data0 ++ data)

theorem Written.refl (d : Db) (st : SwState) : Written d st st [] :=
  ⟨rfl, rfl, fun h => by rwa [List.append_nil]⟩

theorem Written.trans {d : Db} {a b c : SwState} {x y : List SKV} (h1 : Written d a b x) (h2 : Written d b c y) :
    Written d a c (x ++ y) := by
  refine ⟨?_, by rw [h2.maxVersion, h1.maxVersion, List.foldl_append],
    fun h => by rw [← List.append_assoc]; exact h2.inv (h1.inv h)⟩
  rw [h2.prevLevel, h1.prevLevel]
  -- the step `p ↦ if p == 0 then L else p`, taken at the first buffer with data, is idempotent
  cases x <;> cases y <;> simp
  split <;> simp_all

theorem swWrite_written {d : Db} {st st' : SwState} {buf : List SKV} (h : d.swWrite st buf = (st', .ok)) :
    Written d st st' (buf.filter (!·.done)) := by
  revert h
  fun_cases Db.swWrite d st buf with
  | case1 hb => -- an empty buffer
    rintro ⟨⟩
    rw [List.isEmpty_iff.mp hb]
    exact .refl d st
  | case2 hb hs => exact fun h => nomatch h -- a KV after the done marker of its stream
  | case3 hb closedNow hs data maxV prevLevel hany => exact fun h => nomatch h -- a KV for a closed writer
  | case4 hb closedNow hs data maxV prevLevel hany ws ws' => -- the KVs are added, the streams closed
    rintro ⟨⟩
    refine ⟨?_, rfl, fun hI => (hI.adds _).close closedNow⟩
    show (if st.prevLevel == 0 && !(buf.filter (!·.done)).isEmpty then _ else _) = _
    cases buf.filter (!·.done) <;> simp

theorem swWriteAll_written {d : Db} {st0 st : SwState} {bufs : List (List SKV)}
    (hw : d.swWriteAll st0 bufs = (st, .ok)) : Written d st0 st (bufs.flatten.filter (!·.done)) := by
  revert hw
  fun_induction Db.swWriteAll d st0 bufs with
  | case1 => -- no buffer left
    rintro ⟨⟩
    exact .refl d _
  | case2 st0 b bs st' h1 ih => -- a buffer is written, then the others
    intro hw
    rw [List.flatten_cons, List.filter_append]
    exact (swWrite_written h1).trans (ih hw)
  | case3 st0 b bs hno => exact fun hw => (hno st hw).elim -- a buffer panics

theorem flushLevels_getD (d : Db) (st : SwState) (tables : List Tbl)
    (hi : st.prevLevel - 1 < d.lsm.levels.length)
    (hempty : d.lsm.levels.getD (st.prevLevel - 1) [] = []) :
    (flushLevels d st tables).getD (st.prevLevel - 1) [] = sortBySmallest tables := by
  unfold flushLevels
  rw [List.getD_eq_getElem?_getD, List.getElem?_map, List.getElem?_set_self hi, hempty]
  rfl

theorem flushLevels_perm (d : Db) (st : SwState) (tables : List Tbl)
    (hi : st.prevLevel - 1 < d.lsm.levels.length) :
    (lvlEnts (flushLevels d st tables)).Perm (tblEnts tables ++ lvlEnts d.lsm.levels) :=
  (lvlEnts_map_sort _).trans (lvlEnts_set _ _ _ hi)

theorem swForm_key (d : Db) (e : Ent) : (d.swForm e).key = e.key := by
  unfold Db.swForm; split <;> rfl

theorem swForm_ver (d : Db) (e : Ent) : (d.swForm e).ver = e.ver := by
  unfold Db.swForm; split <;> rfl

theorem sl_map {f : Ent → Ent} (hk : ∀ e, (f e).key = e.key) {s t : List Ent} (h : sl s t) :
    sl (s.map f) (t.map f) := by
  intro x hx y hy
  obtain ⟨x0, hx0, rfl⟩ := List.mem_map.mp hx
  obtain ⟨y0, hy0, rfl⟩ := List.mem_map.mp hy
  rw [hk, hk]; exact h x0 hx0 y0 hy0

theorem newEnts_perm {f : Ent → Ent} {st : SwState} {data : List SKV}
    (h : Inv f st.writers data) : st.newEnts.Perm ((data.map (·.e)).map f) := by
  unfold SwState.newEnts
  refine ((sortStreams_perm _).flatten).trans ?_
  rw [List.flatten_filter_not_isEmpty]
  exact h.perm

theorem newEnts_sorted {f : Ent → Ent} {st : SwState} {data : List SKV}
    (h : Inv f st.writers data) (hk : ∀ e, (f e).key = e.key) (hv : ∀ e, (f e).ver = e.ver)
    (hs : ∀ sid, SortedEnts ((data.filter (·.sid == sid)).map (·.e)))
    (hd : ∀ s1 s2, s1 ≠ s2 → sl ((data.filter (·.sid == s1)).map (·.e)) ((data.filter (·.sid == s2)).map (·.e)) ∨
      sl ((data.filter (·.sid == s2)).map (·.e)) ((data.filter (·.sid == s1)).map (·.e))) :
    SortedEnts st.newEnts := by
  unfold SwState.newEnts
  apply sortStreams_flatten_sorted mem_filter_nonempty
  · intro x hx
    obtain ⟨w, hw, rfl⟩ := List.mem_map.mp (List.mem_filter.mp hx).1
    rw [h.ents w hw]
    exact sorted_map hk hv (hs w.sid)
  · apply List.Pairwise.filter
    rw [List.pairwise_map]
    have hn : st.writers.Pairwise (fun a b => a.sid ≠ b.sid) := List.pairwise_map.mp h.nodup
    refine hn.imp_of_mem ?_
    intro a b ha hb hab
    rw [h.ents a ha, h.ents b hb]
    rcases hd a.sid b.sid hab with h1 | h1
    · exact .inl (sl_map hk h1)
    · exact .inr (sl_map hk h1)

end SWL
end Badger
