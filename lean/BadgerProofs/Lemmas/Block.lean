import BadgerModel.Block
import BadgerProofs.Lemmas.Varint
import BadgerProofs.Lemmas.Lists
/-!
The table block format (C18): the uvarint / ValueStruct round trip; `blockData es` / `blockOffs es`, the
entries region of the block built from `es` as one chunk per entry (header, key without its overlap with
the base key, value) and where each chunk starts; the invariant `BlockInv` under which `setIdx` decodes
entry `i` whatever was probed before (`setIdx_ok`).
-/
namespace Badger.Tbl
open Badger

theorem u8_toNat_ofNat_lt (n : Nat) (h : n < 256) : (UInt8.ofNat n).toNat = n :=
  u8_ofNat_toNat n h

/-! `BadgerModel/Block.lean` has its own copy of the varint functions (the decoder with a bit shift
`2 ^ s` where `BadgerModel/Varint.lean` has `128 ^ i`); they are the same functions. -/

theorem putUvarintF_eq (f n : Nat) : putUvarintF f n = Badger.putUvarintF f n := by
  induction f generalizing n with
  | zero => rfl
  | succ f ih => rw [putUvarintF, Badger.putUvarintF, ih]

theorem uvarintF_eq (b : Bytes) : ∀ i x, uvarintF i (7 * i) x b = Badger.uvarintAux i x b := by
  induction b with
  | nil => intro i x; rfl
  | cons c cs ih =>
    intro i x
    rw [uvarintF, Badger.uvarintAux, show 7 * i + 7 = 7 * (i + 1) from (Nat.mul_succ 7 i).symm, ih,
      Nat.pow_mul]

theorem uvarint_putUvarint (n : Nat) (rest : Bytes) (h : n < 2 ^ 64) :
    uvarint (putUvarint n ++ rest) = (n, ((putUvarint n).length : Int)) := by
  have := uvarintF_eq (putUvarint n ++ rest) 0 0
  rw [uvarint, this, putUvarint, putUvarintF_eq]
  exact Badger.uvarint_put n rest h

theorem decodeVS_encVS (v : VS) (h : v.expiresAt < 2 ^ 64) : decodeVS (encVS v) = some v := by
  unfold decodeVS encVS
  simp only [uvarint_putUvarint _ _ h]
  have : ¬ ((putUvarint v.expiresAt).length : Int) < 0 := by omega
  simp

theorem slice_eq_some {b : Bytes} {lo hi : Nat} (h1 : lo ≤ hi) (h2 : hi ≤ b.length) :
    slice b lo hi = some ((b.take hi).drop lo) := by
  simp [slice, h1, h2]

theorem slice_mid (p c r : Bytes) (lo hi : Nat) (hlo : lo = p.length) (hhi : hi = p.length + c.length) :
    slice (p ++ (c ++ r)) lo hi = some c := by
  subst hlo hhi
  rw [slice_eq_some (by omega) (by simp), ← List.append_assoc,
    List.take_left' (List.length_append ..), List.drop_left]

theorem slice_prefix (c r : Bytes) (n : Nat) (h : n = c.length) : slice (c ++ r) 0 n = some c :=
  slice_mid [] c r 0 n rfl (by simpa using h)

theorem slice_suffix (p c : Bytes) (lo hi : Nat) (hlo : lo = p.length) (hhi : hi = (p ++ c).length) :
    slice (p ++ c) lo hi = some c := by
  have := slice_mid p c [] lo hi hlo (by simpa using hhi)
  simpa using this

theorem slice_take (b : Bytes) (n : Nat) (h : n ≤ b.length) : slice b 0 n = some (b.take n) := by
  rw [slice_eq_some (by omega) h]; simp

theorem leNat_leBytes2 (n : Nat) (h : n < 65536) : leNat (leBytes n 2) = n :=
  leNat_leBytes n 2 (by simpa using h)

theorem hdr_length (a b : Nat) : (hdr a b).length = 4 := by simp [hdr]

theorem hdr_take2 (a b : Nat) (h : a < 65536) : leNat ((hdr a b).take 2) = a := by
  simp [hdr, leNat_leBytes2 a h]

theorem hdr_drop2 (a b : Nat) (h : b < 65536) : leNat ((hdr a b).drop 2) = b := by
  simp [hdr, leNat_leBytes2 b h]

theorem commonPrefixLen_spec (a b : Bytes) :
    commonPrefixLen a b ≤ a.length ∧ commonPrefixLen a b ≤ b.length ∧
      a.take (commonPrefixLen a b) = b.take (commonPrefixLen a b) := by
  fun_induction commonPrefixLen a b with
  | case1 x xs ys ih =>  -- equal heads
    obtain ⟨h1, h2, h3⟩ := ih
    simp [h3]; omega
  | case2 | case3 => simp  -- different heads, or one side empty

theorem keyDiff_spec (key base : Bytes) :
    key = base.take (key.length - (keyDiff key base).length) ++ keyDiff key base ∧
      key.length - (keyDiff key base).length ≤ base.length ∧ (keyDiff key base).length ≤ key.length := by
  obtain ⟨hle, hre, htake⟩ := commonPrefixLen_spec key base
  have hlen : key.length - (keyDiff key base).length = commonPrefixLen key base := by
    simp [keyDiff]; omega
  rw [hlen]
  exact ⟨by rw [← htake, keyDiff, List.take_append_drop], hre, by simp [keyDiff]⟩

theorem u32sLE_length (xs : List Nat) : (u32sLE xs).length = 4 * xs.length := by
  induction xs with
  | nil => rfl
  | cons x xs ih => simp [u32sLE, ih]; omega

theorem u32sLE_append (xs ys : List Nat) : u32sLE (xs ++ ys) = u32sLE xs ++ u32sLE ys := by
  induction xs with
  | nil => rfl
  | cons x xs ih => simp [u32sLE, ih]

theorem leBytes4_eq (x : Nat) : ∃ a b c d, leBytes x 4 = [a, b, c, d] := by
  simp [leBytes]

theorem bytesToU32s_u32sLE (xs : List Nat) (h : ∀ x ∈ xs, x < 4294967296) :
    bytesToU32s (u32sLE xs) = xs := by
  induction xs with
  | nil => rfl
  | cons x xs ih =>
    obtain ⟨a, b, c, d, hx⟩ := leBytes4_eq x
    have hx4 : leNat (leBytes x 4) = x := leNat_leBytes x 4 (by simpa using h x (by simp))
    simp only [u32sLE, hx, List.cons_append, List.nil_append, bytesToU32s]
    rw [← hx, hx4, ih (fun y hy => h y (by simp [hy]))]

/-- Bytes of one entry as `addHelper` writes them (`base = []`: first entry of the block). -/
def entryChunk (base : Bytes) (e : Entry) : Bytes :=
  hdr (e.key.length - (if base.length = 0 then e.key else keyDiff e.key base).length)
      (if base.length = 0 then e.key else keyDiff e.key base).length ++
    (if base.length = 0 then e.key else keyDiff e.key base) ++ encVS e.vs

def chunks : List Entry → List Bytes
  | [] => []
  | e :: es => entryChunk [] e :: es.map (entryChunk e.key)

def offsFrom : Nat → List Bytes → List Nat
  | _, [] => []
  | s, c :: cs => s :: offsFrom (s + c.length) cs

def baseOf : List Entry → Bytes
  | [] => []
  | e :: _ => e.key

def blockData (es : List Entry) : Bytes := (chunks es).flatten
def blockOffs (es : List Entry) : List Nat := offsFrom 0 (chunks es)

@[simp] theorem chunks_length (es : List Entry) : (chunks es).length = es.length := by
  cases es <;> simp [chunks]

@[simp] theorem offsFrom_length (s : Nat) (cs : List Bytes) : (offsFrom s cs).length = cs.length := by
  induction cs generalizing s with
  | nil => rfl
  | cons c cs ih => simp [offsFrom, ih]

@[simp] theorem blockOffs_length (es : List Entry) : (blockOffs es).length = es.length := by
  simp [blockOffs]

theorem offsFrom_append (s : Nat) (cs : List Bytes) (c : Bytes) :
    offsFrom s (cs ++ [c]) = offsFrom s cs ++ [s + cs.flatten.length] := by
  induction cs generalizing s with
  | nil => simp [offsFrom]
  | cons x xs ih => simp [offsFrom, ih, Nat.add_assoc]

theorem offsFrom_le (s : Nat) (cs : List Bytes) : ∀ x ∈ offsFrom s cs, x ≤ s + cs.flatten.length := by
  induction cs generalizing s with
  | nil => simp [offsFrom]
  | cons c cs ih =>
    intro x hx
    simp only [offsFrom, List.mem_cons] at hx
    rcases hx with rfl | hx
    · omega
    · have := ih _ x hx
      simp only [List.flatten_cons, List.length_append]; omega

theorem chunks_append (e0 : Entry) (r : List Entry) (e : Entry) :
    chunks (e0 :: (r ++ [e])) = chunks (e0 :: r) ++ [entryChunk e0.key e] := by
  simp [chunks]

theorem offsFrom_getD (cs : List Bytes) : ∀ (s i : Nat), i < cs.length →
    (offsFrom s cs).getD i 0 = s + (cs.take i).flatten.length := by
  induction cs with
  | nil => intro s i h; simp at h
  | cons c cs ih =>
    intro s i h
    cases i with
    | zero => simp [offsFrom]
    | succ i =>
      rw [offsFrom, List.getD_cons_succ, ih (s + c.length) i (by simpa using h), List.take_succ_cons,
        List.flatten_cons, List.length_append, Nat.add_assoc]

theorem slice_piece {cs : List Bytes} {i : Nat} {c : Bytes} (h : cs[i]? = some c) :
    slice cs.flatten (cs.take i).flatten.length (cs.take (i + 1)).flatten.length = some c := by
  rw [flatten_split h]
  exact slice_mid _ _ _ _ _ rfl (take_succ_flatten_length cs i c h)

theorem chunk_facts (es : List Entry) (hb : baseOf es ≠ []) (i : Nat) (e : Entry)
    (he : es[i]? = some e) :
    ∃ ov d, (chunks es)[i]? = some (hdr ov d.length ++ (d ++ encVS e.vs)) ∧
      e.key = (baseOf es).take ov ++ d ∧ ov ≤ (baseOf es).length ∧
      ov + d.length = e.key.length := by
  cases es with
  | nil => simp at he
  | cons e0 r =>
    cases i with
    | zero =>
      simp only [List.getElem?_cons_zero, Option.some.injEq] at he
      subst he
      refine ⟨0, e0.key, ?_, ?_, ?_, ?_⟩ <;> simp [chunks, entryChunk, baseOf]
    | succ j =>
      simp only [List.getElem?_cons_succ] at he
      have hb' : ¬ (e0.key.length = 0) := by
        intro h; apply hb; simpa [baseOf] using List.eq_nil_of_length_eq_zero h
      obtain ⟨hkey, hov, hd⟩ := keyDiff_spec e.key e0.key
      exact ⟨_, keyDiff e.key e0.key, by simp [chunks, entryChunk, he, hb'], hkey, hov, by omega⟩

structure BlockWF (es : List Entry) : Prop where
  base_ne : baseOf es ≠ []
  key_le : ∀ e ∈ es, e.key.length ≤ 65531
  size : (blockData es).length < 4294967296

/-- What holds of a block iterator positioned anywhere on the block built from `es`:
    the first `prevOverlap` bytes of the key buffer are those of the base key. -/
structure BlockInv (es : List Entry) (it : BlockIter) : Prop where
  data : it.data = blockData es
  offs : it.entryOffsets = blockOffs es
  base : it.baseKey = [] ∨ it.baseKey = baseOf es
  pre : it.key.take it.prevOverlap = (baseOf es).take it.prevOverlap
  le_key : it.prevOverlap ≤ it.key.length
  /-- empty, or the key of an entry (the last one probed); `seekForPrev` compares the buffer after a seek past
      the last entry -/
  key_of : it.key = [] ∨ ∃ e ∈ es, it.key = e.key

theorem BlockInv.offs_length {es : List Entry} {it : BlockIter} (inv : BlockInv es it) :
    it.entryOffsets.length = es.length := by
  rw [inv.offs, blockOffs_length]

theorem BlockInv.with_idx_err {es : List Entry} {it : BlockIter} (inv : BlockInv es it) (i : Int)
    (e : Option Err) : BlockInv es { it with idx := i, err := e } :=
  ⟨inv.data, inv.offs, inv.base, inv.pre, inv.le_key, inv.key_of⟩

theorem BlockWF.ne_nil {es : List Entry} (wf : BlockWF es) : es ≠ [] := by
  intro h; subst h; exact wf.base_ne rfl

theorem blockData_length_pos {g : List Entry} (wf : BlockWF g) : (blockData g).length ≠ 0 := by
  obtain ⟨e0, r, rfl⟩ := List.exists_cons_of_ne_nil wf.ne_nil
  simp [blockData, chunks, entryChunk, hdr_length]

theorem decodeBase_ok {es : List Entry} {it : BlockIter} (wf : BlockWF es)
    (hdata : it.data = blockData es) (hbase : it.baseKey = [] ∨ it.baseKey = baseOf es) :
    it.decodeBase = some (baseOf es) := by
  unfold BlockIter.decodeBase
  by_cases h0 : it.baseKey.length = 0
  · simp only [h0, if_true]
    obtain ⟨e0, r, rfl⟩ := List.exists_cons_of_ne_nil wf.ne_nil
    have hk : e0.key.length ≤ 65531 := wf.key_le e0 (by simp)
    have hd : it.data = hdr 0 e0.key.length ++ (e0.key ++ (encVS e0.vs ++ (r.map (entryChunk e0.key)).flatten)) := by
      rw [hdata]; simp [blockData, chunks, entryChunk]
    rw [hd, slice_prefix _ _ 4 (by simp [hdr_length])]
    simp only [Option.bind_some]
    rw [hdr_drop2 _ _ (by omega)]
    have : u16 (4 + e0.key.length) = 4 + e0.key.length := by unfold u16; omega
    rw [this]
    exact slice_mid _ _ _ _ _ (by simp [hdr_length]) (by simp [hdr_length])
  · simp only [h0, if_false]
    rcases hbase with h | h
    · rw [h] at h0; simp at h0
    · rw [h]

theorem entryData_ok {es : List Entry} {it : BlockIter} (hdata : it.data = blockData es)
    (hoffs : it.entryOffsets = blockOffs es) (i : Nat) (c : Bytes)
    (hc : (chunks es)[i]? = some c) : it.entryData i = some c := by
  have hi := lt_of_getElem?_some hc
  have hend : (if i + 1 = (blockOffs es).length then (blockData es).length else (blockOffs es).getD (i + 1) 0) =
      ((chunks es).take (i + 1)).flatten.length := by
    rw [blockOffs, offsFrom_length]
    split
    · rename_i h; rw [h, List.take_length]; rfl
    · rw [offsFrom_getD _ 0 (i + 1) (by omega), Nat.zero_add]
  unfold BlockIter.entryData
  rw [hdata, hoffs, hend, blockOffs, offsFrom_getD _ 0 i hi, Nat.zero_add]
  exact slice_piece hc

theorem take_eq_take_take {α : Type} (l : List α) {n m : Nat} (h : n ≤ m) :
    l.take n = (l.take m).take n := by
  rw [List.take_take, Nat.min_eq_left h]

theorem reuseKey_ok (key base : Bytes) (prev ov : Nat) (d : Bytes)
    (hpre : key.take prev = base.take prev) (hpk : prev ≤ key.length)
    (hov : ov ≤ base.length) :
    reuseKey key base prev ov d = some (base.take ov ++ d) := by
  unfold reuseKey
  by_cases h : ov > prev
  · simp only [h, if_true]
    rw [slice_take key prev hpk, Option.bind_some, slice_eq_some (by omega) hov, Option.bind_some,
      Option.bind_some]
    have hk1 : key.take prev ++ (base.take ov).drop prev = base.take ov := by
      rw [hpre, take_eq_take_take base (Nat.le_of_lt h), List.take_append_drop]
    rw [hk1, slice_take _ ov (by simp; omega)]
    simp [List.take_take]
  · simp only [h, if_false, Option.bind_some]
    have hle : ov ≤ prev := by omega
    rw [slice_take key ov (by omega), take_eq_take_take key hle, hpre, ← take_eq_take_take base hle,
      Option.bind_some]

theorem setIdx_ok {es : List Entry} {it : BlockIter} (wf : BlockWF es) (inv : BlockInv es it)
    (i : Nat) (e : Entry) (he : es[i]? = some e) :
    ∃ it', it.setIdx (i : Int) = some it' ∧ BlockInv es it' ∧ it'.key = e.key ∧
      it'.val = encVS e.vs ∧ it'.idx = i ∧ it'.err = none := by
  have hi := lt_of_getElem?_some he
  have hmem : e ∈ es := List.mem_of_getElem? he
  have hkl := wf.key_le e hmem
  obtain ⟨ov, d, hchunk, hkey, hovb, hlen⟩ := chunk_facts es wf.base_ne i e he
  have hov : ov < 65536 := by omega
  have hdl : d.length < 65536 := by omega
  unfold BlockIter.setIdx
  have hrange : ¬ ((i : Int) ≥ ((it.entryOffsets.length : Nat) : Int) ∨ (i : Int) < 0) := by
    rw [inv.offs_length]; omega
  simp only [hrange, if_false, Int.toNat_natCast]
  have hdb : ({ it with idx := (i : Int), err := none } : BlockIter).decodeBase = some (baseOf es) :=
    decodeBase_ok (it := { it with idx := (i : Int), err := none }) wf inv.data inv.base
  rw [hdb, Option.bind_some]
  have hed : ({ it with idx := (i : Int), err := none, baseKey := baseOf es } : BlockIter).entryData i
      = some (hdr ov d.length ++ (d ++ encVS e.vs)) :=
    entryData_ok (it := { it with idx := (i : Int), err := none, baseKey := baseOf es })
      inv.data inv.offs i _ hchunk
  rw [hed, Option.bind_some, slice_prefix _ _ 4 (by simp [hdr_length]), Option.bind_some,
    hdr_take2 _ _ hov, hdr_drop2 _ _ hdl]
  have hvo : u16 (4 + d.length) = 4 + d.length := by unfold u16; omega
  rw [hvo, slice_mid (hdr ov d.length) d (encVS e.vs) 4 (4 + d.length) (by simp [hdr_length])
    (by simp [hdr_length]), Option.bind_some]
  rw [reuseKey_ok it.key (baseOf es) it.prevOverlap ov d inv.pre inv.le_key hovb,
    Option.bind_some]
  have hval : slice (hdr ov d.length ++ (d ++ encVS e.vs)) (4 + d.length)
      (hdr ov d.length ++ (d ++ encVS e.vs)).length = some (encVS e.vs) := by
    have := slice_suffix (hdr ov d.length ++ d) (encVS e.vs) (4 + d.length)
      ((hdr ov d.length ++ d) ++ encVS e.vs).length (by simp [hdr_length]) rfl
    simpa [List.append_assoc] using this
  rw [hval, Option.bind_some]
  refine ⟨_, rfl, ⟨inv.data, inv.offs, Or.inr rfl, ?_, ?_, Or.inr ⟨e, hmem, hkey.symm⟩⟩, hkey.symm, rfl, rfl, rfl⟩
  · simp [hovb]
  · simp; omega

theorem setIdx_oob {es : List Entry} {it : BlockIter} (inv : BlockInv es it) (i : Int)
    (h : i ≥ es.length ∨ i < 0) :
    it.setIdx i = some { it with idx := i, err := some .eof } ∧
      BlockInv es { it with idx := i, err := some .eof } := by
  constructor
  · unfold BlockIter.setIdx
    have : (i ≥ ((it.entryOffsets.length : Nat) : Int) ∨ i < 0) := by
      rw [inv.offs_length]; exact h
    simp [this]
  · exact inv.with_idx_err i _

theorem probeAll_inv {es : List Entry} (wf : BlockWF es) : ∀ (ps : List Int) (it : BlockIter),
    BlockInv es it → ∃ it', it.probeAll ps = some it' ∧ BlockInv es it' := by
  intro ps
  induction ps with
  | nil => intro it inv; exact ⟨it, rfl, inv⟩
  | cons p ps ih =>
    intro it inv
    simp only [BlockIter.probeAll]
    by_cases hp : p ≥ es.length ∨ p < 0
    · have := setIdx_oob inv p hp
      rw [this.1]
      exact ih _ this.2
    · have hp0 : 0 ≤ p := by omega
      have hpn : p.toNat < es.length := by omega
      obtain ⟨e, he⟩ := getElem?_some_of_lt es p.toNat hpn
      obtain ⟨it', hset, hinv', _⟩ := setIdx_ok wf inv p.toNat e he
      have : ((p.toNat : Nat) : Int) = p := Int.toNat_of_nonneg hp0
      rw [this] at hset
      rw [hset]
      exact ih _ hinv'

theorem probeAll_append (it : BlockIter) (ps qs : List Int) :
    it.probeAll (ps ++ qs) = (it.probeAll ps).bind fun it' => it'.probeAll qs := by
  fun_induction BlockIter.probeAll it ps <;> simp [BlockIter.probeAll, *]

end Badger.Tbl
