import BadgerModel.Spec.Crash
import BadgerProofs.Lemmas.CrashRecover
/-!
# The kill invariant

`Inv` ties the logical state of the protocol machine to the kill view of the file system, by region
of the directory (`InvLogic`: what is stored reads like the completed commits; `ManifestOk`; `InvMem`: the
`.mem` files; `InvSst`: the `.sst` files, the flusher's table and a compaction's outputs among them); the frame
lemmas `Inv_upd_*` say what is carried over when one region changes. Before it: `upd` and the `krun_*` equations,
which turn the operations of one atom into one pointwise update, and the three parts of what is stored
(`tablesEnts`, `immsEnts`, `PState.curT`; `PState.lsmEnts_eq`) with what a flush, a commit and a rotation
do to them.
-/
namespace Badger

def upd (F : KFs) (p : Path) (v : Option Inode) : KFs := fun q => if q = p then v else F q

@[simp] theorem upd_same (F : KFs) (p : Path) (v : Option Inode) : upd F p v p = v := by simp [upd]
theorem upd_ne (F : KFs) (p q : Path) (v : Option Inode) (h : q ≠ p) : upd F p v q = F q := by
  simp [upd, h]

theorem krun_mkFile (F : KFs) (p : Path) :
    krun F (mkFile p) = upd F p (some { chunks := [], size := .alloc }) := by
  funext q
  dsimp only [mkFile, krun_cons, krun_nil, kstep, upd]
  by_cases h : q = p <;> simp [h]

theorem krun_delFile (F : KFs) (p : Path) : krun F (delFile p) = upd F p none := by
  funext q
  dsimp only [delFile, krun_cons, krun_nil, kstep, upd]
  by_cases h : q = p <;> simp [h]

theorem krun_append1 (F : KFs) (p : Path) (c : Chunk) :
    krun F [.append p c] = upd F p ((F p).map (appendChunk c)) := by
  funext q; simp [kstep, upd]

theorem krun_truncate1 (F : KFs) (p : Path) (n : Nat) :
    krun F [.truncate p n] = upd F p ((F p).map (truncChunks n)) := by
  funext q; simp [kstep, upd]

@[simp] theorem krun_sync1 (F : KFs) (p : Path) : krun F [.sync p] = F := rfl
@[simp] theorem krun_zero1 (F : KFs) (p : Path) : krun F [.zero p] = F := rfl
@[simp] theorem krun_syncDir1 (F : KFs) : krun F [.syncDir] = F := rfl

/-- the timestamp written into the WAL records of the transaction in flight -/
def PState.pts (s : PState) : Nat := (s.inflight.map (·.ts)).getD 0

def memView (F : KFs) : Nat → Option Inode := fun n => F (.mem n)
def sstView (F : KFs) : Nat → Option Inode := fun n => F (.sst n)

def entsOfMem (mtxns : List (Nat × List Txn)) (fid : Nat) : List CEnt := txnsEnts ((aget fid mtxns).getD [])
def entsOfTable (tcont : List (Nat × List CEnt)) (id : Nat) : List CEnt := (aget id tcont).getD []

theorem tableEnts_eq (s : PState) (id : Nat) : s.tableEnts id = entsOfTable s.tcont id := rfl

def tablesEnts (tcont : List (Nat × List CEnt)) (t : List (Nat × Nat)) : List CEnt :=
  (t.map (fun x => entsOfTable tcont x.1)).flatten
def immsEnts (mtxns : List (Nat × List Txn)) (imm : List Nat) : List CEnt :=
  (imm.map (entsOfMem mtxns)).flatten

theorem txnsEnts_append (a b : List Txn) : txnsEnts (a ++ b) = txnsEnts a ++ txnsEnts b := by
  simp [txnsEnts]

theorem immsEnts_cons (mtxns : List (Nat × List Txn)) (k : Nat) (imm : List Nat) :
    immsEnts mtxns (k :: imm) = entsOfMem mtxns k ++ immsEnts mtxns imm := rfl

/-- the complete transactions in the active memtable's WAL -/
def PState.curT (s : PState) : List Txn := if s.curOpen then (aget s.cur s.mtxns).getD [] else []

theorem PState.curT_open {s : PState} (h : s.curOpen = true) : s.curT = (aget s.cur s.mtxns).getD [] := by
  simp [PState.curT, h]
theorem PState.curT_closed {s : PState} (h : s.curOpen = false) : s.curT = [] := by
  simp [PState.curT, h]

theorem PState.lsmEnts_eq (s : PState) :
    s.lsmEnts = tablesEnts s.tcont s.tset ++ immsEnts s.mtxns s.imm ++ txnsEnts s.curT := by
  unfold PState.lsmEnts PState.curT
  cases s.curOpen <;> rfl

theorem entsOfMem_aset_ne {mtxns : List (Nat × List Txn)} {cur k : Nat} {ts : List Txn} (h : k ≠ cur) :
    entsOfMem (aset cur ts mtxns) k = entsOfMem mtxns k := by
  have : ¬ cur = k := fun e => h e.symm
  simp [entsOfMem, aget_aset, this]

theorem immsEnts_aset (mtxns : List (Nat × List Txn)) (cur : Nat) (ts : List Txn) (imm : List Nat)
    (h : cur ∉ imm) : immsEnts (aset cur ts mtxns) imm = immsEnts mtxns imm := by
  unfold immsEnts
  congr 1
  apply List.map_congr_left
  intro k hk
  exact entsOfMem_aset_ne (fun e => h (e ▸ hk))

/-- a rotation: the transactions of the active memtable become the last immutable memtable -/
theorem immsEnts_push (mtxns : List (Nat × List Txn)) (imm : List Nat) (cur : Nat) :
    immsEnts mtxns (imm ++ [cur]) = immsEnts mtxns imm ++ txnsEnts ((aget cur mtxns).getD []) := by
  simp [immsEnts, entsOfMem]

theorem entsOfTable_cons_self (tcont : List (Nat × List CEnt)) (id : Nat) (es : List CEnt) :
    entsOfTable ((id, es) :: tcont) id = es := by
  simp [entsOfTable, aget]

theorem entsOfTable_cons_ne (tcont : List (Nat × List CEnt)) (es : List CEnt) {id id' : Nat} (h : id' ≠ id) :
    entsOfTable ((id, es) :: tcont) id' = entsOfTable tcont id' := by
  simp [entsOfTable, aget, Ne.symm h]

theorem tablesEnts_cons_other (tcont : List (Nat × List CEnt)) (id : Nat) (es : List CEnt) (t : List (Nat × Nat))
    (h : aget id t = none) : tablesEnts ((id, es) :: tcont) t = tablesEnts tcont t := by
  unfold tablesEnts
  congr 1
  apply List.map_congr_left
  exact fun x hx => entsOfTable_cons_ne _ _ ((aget_none_iff id t).mp h x hx)

theorem tablesEnts_flush (tcont : List (Nat × List CEnt)) (id : Nat) (es : List CEnt) (t : List (Nat × Nat))
    (h : aget id t = none) : tablesEnts ((id, es) :: tcont) (aset id 0 t) = es ++ tablesEnts tcont t := by
  rw [aset_of_none _ _ _ h, ← tablesEnts_cons_other tcont id es t h]
  exact congrArg (· ++ _) (entsOfTable_cons_self tcont id es)

theorem mem_tablesEnts (tcont : List (Nat × List CEnt)) (T : List (Nat × Nat)) (t : Nat) (e : CEnt)
    (h1 : (aget t T).isSome = true) (h2 : e ∈ entsOfTable tcont t) : e ∈ tablesEnts tcont T := by
  obtain ⟨lvl, hm⟩ := mem_of_aget_isSome h1
  unfold tablesEnts
  rw [mem_flatten_map]
  exact ⟨(t, lvl), hm, h2⟩

/-- a flush records its table: the memtable it was written from is still among the immutable ones -/
theorem base_flush (R : ViewRel) (tcont : List (Nat × List CEnt)) (t : List (Nat × Nat)) (mtxns : List (Nat × List Txn))
    {imm : List Nat} {k : Nat} (hk : k ∈ imm) :
    R.r (entsOfMem mtxns k ++ tablesEnts tcont t ++ immsEnts mtxns imm) (tablesEnts tcont t ++ immsEnts mtxns imm) := by
  refine R.of_mem_iff _ _ fun e => ?_
  simp only [List.mem_append, or_assoc]
  exact or_iff_right_of_imp fun h => Or.inr ((mem_flatten_map _ _ _).mpr ⟨k, hk, h⟩)

/-- a flush ends: the memtable leaves the immutable ones, and what it holds is in the tables -/
theorem base_flushDel (R : ViewRel) {tcont : List (Nat × List CEnt)} {t : List (Nat × Nat)} {mtxns : List (Nat × List Txn)}
    {k : Nat} (rest : List Nat) (hcov : ∀ e ∈ entsOfMem mtxns k, e ∈ tablesEnts tcont t) :
    R.r (tablesEnts tcont t ++ immsEnts mtxns rest) (tablesEnts tcont t ++ immsEnts mtxns (k :: rest)) := by
  refine R.of_mem_iff _ _ fun e => ?_
  simp only [immsEnts_cons, List.mem_append]
  rw [or_left_comm]
  exact (or_iff_right_of_imp fun h => Or.inl (hcov e h)).symm

structure InvLogic (R : ViewRel) (lsm : List CEnt) (commits : List Txn) (done acked : Nat)
    (inflight : Option Txn) : Prop where
  view : R.r lsm (txnsEnts (commits.take done))
  acked_le : acked ≤ done
  done_le : done ≤ commits.length
  infl : match inflight with
    | none => done = commits.length
    | some t => commits = commits.take done ++ [t]

theorem InvLogic.of_lsm {R : ViewRel} {lsm lsm' : List CEnt} {commits : List Txn} {done acked : Nat}
    {inflight : Option Txn} (h : InvLogic R lsm commits done acked inflight) (hr : R.r lsm' lsm) :
    InvLogic R lsm' commits done acked inflight :=
  ⟨R.trans _ _ _ hr h.view, h.acked_le, h.done_le, h.infl⟩

theorem take_done_succ {R : ViewRel} {lsm : List CEnt} {commits : List Txn} {done acked : Nat} {t : Txn}
    (h : InvLogic R lsm commits done acked (some t)) :
    commits.take (done + 1) = commits.take done ++ [t] ∧ commits.length = done + 1 := by
  have hc : commits = commits.take done ++ [t] := h.infl
  have hlen : commits.length = done + 1 := by
    have h2 := congrArg List.length hc
    simp only [List.length_append, List.length_cons, List.length_nil, List.length_take,
      Nat.min_eq_left h.done_le] at h2
    omega
  refine ⟨?_, hlen⟩
  rw [← hlen, List.take_length]
  exact hc

structure InvMem (imm : List Nat) (curOpen curHdr : Bool) (cur nextMem : Nat)
    (mtxns : List (Nat × List Txn)) (pts : Nat) (pending : List CEnt) (Fm : Nat → Option Inode) : Prop where
  memNZ : ∀ n f, Fm n = some f → f.size ≠ .zero
  memKnown : ∀ n, (Fm n).isSome → n ∈ imm ∨ (curOpen = true ∧ n = cur)
  immFiles : ∀ k ∈ imm, ∃ f, Fm k = some f ∧ (replayLog f.chunks).ents = entsOfMem mtxns k
  curFile : curOpen = true → ∃ f, Fm cur = some f ∧
    f.chunks = walChunks curHdr ((aget cur mtxns).getD []) pts pending
  curTxns : TxnsOk ((aget cur mtxns).getD [])
  noHdr : curHdr = false → (aget cur mtxns).getD [] = [] ∧ pending = []
  memFresh : ∀ n, nextMem ≤ n → Fm n = none ∧ aget n mtxns = none
  curLt : cur < nextMem
  immLt : ∀ k ∈ imm, k < nextMem
  curNotImm : curOpen = true → cur ∉ imm
  immNodup : imm.Nodup

def KOut.fileOk (Fs : Nat → Option Inode) (o : KOut) : Prop :=
  (o.stage = 1 → ∃ f, Fs o.id = some f ∧ f.chunks = []) ∧
  (2 ≤ o.stage → ∃ f, Fs o.id = some f ∧ f.chunks = [.table o.ents])

structure InvSst (R : ViewRel) (tset : List (Nat × Nat)) (tcont : List (Nat × List CEnt))
    (imm : List Nat) (mtxns : List (Nat × List Txn)) (fpc fsst nextSst : Nat)
    (kins : List Nat) (kout : List KOut) (Fs : Nat → Option Inode) : Prop where
  tables : ∀ x ∈ tset, ∃ f, Fs x.1 = some f ∧ f.chunks = [.table (entsOfTable tcont x.1)]
  sstFresh : ∀ n, nextSst ≤ n → Fs n = none ∧ aget n tset = none
  idle : imm = [] → fpc = 0
  fsstLt : imm ≠ [] → 1 ≤ fpc → fsst < nextSst
  flush1 : imm ≠ [] → fpc = 1 → ∃ f, Fs fsst = some f ∧ f.chunks = []
  flush2 : ∀ k, imm.head? = some k → 2 ≤ fpc → fpc ≤ 4 →
    ∃ f, Fs fsst = some f ∧ f.chunks = [.table (entsOfMem mtxns k)]
  flush5 : ∀ k, imm.head? = some k → 5 ≤ fpc →
    (aget fsst tset).isSome ∧ entsOfTable tcont fsst = entsOfMem mtxns k
  koutLt : ∀ o ∈ kout, o.id < nextSst
  koutNodup : (kout.map (·.id)).Nodup
  koutFiles : ∀ o ∈ kout, o.fileOk Fs
  kview : kins ≠ [] → R.r (kout.map (·.ents)).flatten (kins.map (entsOfTable tcont)).flatten
  kinsIn : ∀ id ∈ kins, (aget id tset).isSome

structure Inv (R : ViewRel) (s : PState) (F : KFs) : Prop where
  logic : InvLogic R s.lsmEnts s.commits s.done s.acked s.inflight
  manifest : ManifestOk F s.tset
  mem : InvMem s.imm s.curOpen s.curHdr s.cur s.nextMem s.mtxns s.pts s.pending (memView F)
  sst : InvSst R s.tset s.tcont s.imm s.mtxns s.fpc s.fsst s.nextSst s.kins s.kout (sstView F)
  vlogNZ : ∀ n f, F (.vlog n) = some f → f.size ≠ .zero

/-- the active WAL replays to its complete transactions: the records of the one in flight are dropped -/
theorem InvMem.curReplay {imm : List Nat} {curOpen curHdr : Bool} {cur nextMem : Nat}
    {mtxns : List (Nat × List Txn)} {pts : Nat} {pending : List CEnt} {Fm : Nat → Option Inode}
    (h : InvMem imm curOpen curHdr cur nextMem mtxns pts pending Fm) (ho : curOpen = true) :
    ∃ f, Fm cur = some f ∧ (replayLog f.chunks).ents = entsOfMem mtxns cur := by
  obtain ⟨f, hf, hc⟩ := h.curFile ho
  exact ⟨f, hf, by rw [hc, replayLog_walChunks _ _ h.curTxns _ _ (fun e => (h.noHdr e).1)]; rfl⟩

theorem Inv.mem_none {R : ViewRel} {s : PState} {F : KFs} (h : Inv R s F) {n : Nat} (h1 : n ∉ s.imm)
    (h2 : ¬ (s.curOpen = true ∧ n = s.cur)) : F (.mem n) = none := by
  cases hF : F (.mem n) with
  | none => rfl
  | some f => exact ((h.mem.memKnown n (by simp [memView, hF])).elim h1 h2).elim

theorem memView_upd_ne (F : KFs) {p : Path} (v : Option Inode) (h : ∀ n, p ≠ .mem n) :
    memView (upd F p v) = memView F := by
  funext n; exact upd_ne F p _ v (h n).symm
theorem sstView_upd_ne (F : KFs) {p : Path} (v : Option Inode) (h : ∀ n, p ≠ .sst n) :
    sstView (upd F p v) = sstView F := by
  funext n; exact upd_ne F p _ v (h n).symm
theorem memView_upd_mem (F : KFs) (i : Nat) (v : Option Inode) :
    memView (upd F (.mem i) v) = fun n => if n = i then v else memView F n := by
  funext n; simp [memView, upd]
theorem sstView_upd_sst (F : KFs) (i : Nat) (v : Option Inode) :
    sstView (upd F (.sst i) v) = fun n => if n = i then v else sstView F n := by
  funext n; simp [sstView, upd]

theorem ManifestOk_upd (F : KFs) (p : Path) (v : Option Inode) (t : List (Nat × Nat)) (hp : p ≠ .manifest)
    (h : ManifestOk F t) : ManifestOk (upd F p v) t := by
  obtain ⟨sets, sz, hf, hr⟩ := h
  exact ⟨sets, sz, by rw [upd_ne _ _ _ _ (Ne.symm hp)]; exact hf, hr⟩

section frame
variable {R : ViewRel} {s s' : PState} {F : KFs}

theorem Inv_upd_sst (h : Inv R s F) (id : Nat) (v : Option Inode)
    (hl : InvLogic R s'.lsmEnts s'.commits s'.done s'.acked s'.inflight) (hts : s'.tset = s.tset)
    (hm : InvMem s'.imm s'.curOpen s'.curHdr s'.cur s'.nextMem s'.mtxns s'.pts s'.pending (memView F))
    (hs : InvSst R s'.tset s'.tcont s'.imm s'.mtxns s'.fpc s'.fsst s'.nextSst s'.kins s'.kout
      (fun n => if n = id then v else sstView F n)) : Inv R s' (upd F (.sst id) v) where
  logic := hl
  manifest := hts ▸ ManifestOk_upd F _ v _ (by simp) h.manifest
  mem := by rw [memView_upd_ne _ _ (by simp)]; exact hm
  sst := by rw [sstView_upd_sst]; exact hs
  vlogNZ := fun n f hf => h.vlogNZ n f (by rwa [upd_ne _ _ _ _ (by simp)] at hf)

theorem Inv_upd_mem (h : Inv R s F) (i : Nat) (v : Option Inode)
    (hl : InvLogic R s'.lsmEnts s'.commits s'.done s'.acked s'.inflight) (hts : s'.tset = s.tset)
    (hm : InvMem s'.imm s'.curOpen s'.curHdr s'.cur s'.nextMem s'.mtxns s'.pts s'.pending
      (fun n => if n = i then v else memView F n))
    (hs : InvSst R s'.tset s'.tcont s'.imm s'.mtxns s'.fpc s'.fsst s'.nextSst s'.kins s'.kout (sstView F)) :
    Inv R s' (upd F (.mem i) v) where
  logic := hl
  manifest := hts ▸ ManifestOk_upd F _ v _ (by simp) h.manifest
  mem := by rw [memView_upd_mem]; exact hm
  sst := by rw [sstView_upd_ne _ _ (by simp)]; exact hs
  vlogNZ := fun n f hf => h.vlogNZ n f (by rwa [upd_ne _ _ _ _ (by simp)] at hf)

theorem Inv_append_manifest (h : Inv R s F) (cs : List MChange) (happ : applyMSet s.tset cs = some s'.tset)
    (hl : InvLogic R s'.lsmEnts s'.commits s'.done s'.acked s'.inflight)
    (hm : InvMem s'.imm s'.curOpen s'.curHdr s'.cur s'.nextMem s'.mtxns s'.pts s'.pending (memView F))
    (hs : InvSst R s'.tset s'.tcont s'.imm s'.mtxns s'.fpc s'.fsst s'.nextSst s'.kins s'.kout (sstView F)) :
    Inv R s' (upd F .manifest ((F .manifest).map (appendChunk (.mset cs)))) where
  logic := hl
  manifest := by rw [← krun_append1]; exact ManifestOk_append F s.tset _ cs h.manifest happ
  mem := by rw [memView_upd_ne _ _ (by simp)]; exact hm
  sst := by rw [sstView_upd_ne _ _ (by simp)]; exact hs
  vlogNZ := fun n f hf => h.vlogNZ n f (by rwa [upd_ne _ _ _ _ (by simp)] at hf)

theorem Inv_upd_vlog (h : Inv R s F) (n : Nat) (v : Option Inode)
    (hv : ∀ f, v = some f → f.size ≠ .zero) (vf vc vch : Nat) :
    Inv R { s with vfid := vf, vcount := vc, vchunks := vch } (upd F (.vlog n) v) where
  logic := h.logic
  manifest := ManifestOk_upd F _ v _ (by simp) h.manifest
  mem := by rw [memView_upd_ne _ _ (by simp)]; exact h.mem
  sst := by rw [sstView_upd_ne _ _ (by simp)]; exact h.sst
  vlogNZ := by
    intro m f hf
    by_cases hm : m = n
    · subst hm; simp at hf; exact hv f hf
    · rw [upd_ne _ _ _ _ (by simp [hm])] at hf; exact h.vlogNZ m f hf

end frame

end Badger
