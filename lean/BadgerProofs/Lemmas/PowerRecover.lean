import BadgerProofs.Lemmas.CrashRecover
/-!
`Open` (after the repair of F22) never fails on a log file: zero-length `.mem` / `.vlog`
files are empty logs (hypothesis `hz`: a zero-length `.mem` file has no chunks; nothing is asked
of `.vlog` files: read-write, `openVlogs` does not fail). What remains are the MANIFEST and the
tables it lists (`recoverF_total` is the read-write half of `recoverF_ok` of CrashRecover).
-/
namespace Badger

theorem replayLog_nil : (replayLog []).ents = [] := rfl

theorem recoverF_total (F : KFs) (B : Nat) (tset : List (Nat × Nat)) (cont : Nat → List CEnt)
    (hm : ManifestOk F tset)
    (ht : ∀ x ∈ tset, ∃ f, F (.sst x.1) = some f ∧ f.chunks = [.table (cont x.1)])
    (hz : ∀ n f, F (.mem n) = some f → f.size = .zero → f.chunks = []) :
    ∃ r, recoverF false F B = .ok r ∧
      r.tables = tset.map (fun x => { id := x.1, level := x.2, ents := cont x.1 }) ∧
      (∀ e, e ∈ (r.imms.map (·.2)).flatten ↔
        ∃ n f, n < B ∧ F (.mem n) = some f ∧ e ∈ (replayLog f.chunks).ents) :=
  have ⟨r, h1, h2, h3, _⟩ := recoverF_ok false F B tset cont hm ht (fun n f hf => ⟨rfl, hz n f hf⟩) fun _ _ _ _ => rfl
  ⟨r, h1, h2, h3⟩

end Badger
