import BadgerModel.Spec.Mvcc
import BadgerProofs.Lemmas.Order
import BadgerProofs.Lemmas.Lists
/-!
# Sorted entry lists: `SortedEnts`, `memPut`, `merge2`/`mergeAll`, `newestLE`

`newestLE` is a fold of the associative, left-biased "max by version" operation `pick`; on a
sorted list it is the first entry with `key = k ∧ ver ≤ ts`. In `memPut` and the merges the
left/earliest copy of a `(key, ver)` wins, so a filter that cannot tell such copies apart (`SlotPred`)
commutes with the merges. `memPut e m` is `merge2 [e] m` for every `m` (`memPut_eq_merge2`), so its lemmas are the
merge's; a batch of `memPut`s is handled through what each single put preserves (`foldl_memPut_ind`).
Under `LL.`: lists on which an internal key determines the entry (`KVFun`; a read of such a list depends on its
members only, `newestLE_congr_kv`, `newestLE_union_kv`) and `read_fallthrough`. At the end: `seekGE`/`srcGet`
(Seek + SameKey on one source) step by step.
-/
namespace Badger

instance (es : List Ent) : Decidable (SortedEnts es) := by unfold SortedEnts; infer_instance

theorem sortedEnts_nil : SortedEnts [] := List.Pairwise.nil

theorem sortedEnts_singleton (a : Ent) : SortedEnts [a] := List.pairwise_singleton _ _

theorem sortedEnts_cons {a : Ent} {l : List Ent} :
    SortedEnts (a :: l) ↔ (∀ b ∈ l, entCmp a b = .lt) ∧ SortedEnts l := List.pairwise_cons

theorem SortedEnts.tail {a : Ent} {l : List Ent} (h : SortedEnts (a :: l)) : SortedEnts l :=
  (sortedEnts_cons.mp h).2

theorem SortedEnts.head_lt {a : Ent} {l : List Ent} (h : SortedEnts (a :: l)) :
    ∀ b ∈ l, entCmp a b = .lt := (sortedEnts_cons.mp h).1

theorem SortedEnts.sublist {l' l : List Ent} (hs : l'.Sublist l) (h : SortedEnts l) : SortedEnts l' :=
  List.Pairwise.sublist hs h

theorem SortedEnts.filter {l : List Ent} (q : Ent → Bool) (h : SortedEnts l) : SortedEnts (l.filter q) :=
  h.sublist List.filter_sublist

theorem sortedEnts_append {a b : List Ent} :
    SortedEnts (a ++ b) ↔ SortedEnts a ∧ SortedEnts b ∧ ∀ x ∈ a, ∀ y ∈ b, entCmp x y = .lt :=
  List.pairwise_append

theorem SortedEnts.head_le {a : Ent} {l : List Ent} (h : SortedEnts (a :: l)) {x : Ent}
    (hx : x ∈ a :: l) : entCmp x a ≠ .lt := by
  rcases List.mem_cons.mp hx with rfl | hx
  · exact entCmp_lt_irrefl _
  · exact entCmp_lt_asymm (h.head_lt x hx)

theorem SortedEnts.eq_of_key_ver {l : List Ent} (h : SortedEnts l) {x y : Ent} (hx : x ∈ l)
    (hy : y ∈ l) (hk : x.key = y.key) (hv : x.ver = y.ver) : x = y :=
  eq_of_key_eq (fun e => (e.key, e.ver))
    (h.imp fun hlt he => by rw [(entCmp_eq_iff _ _).mpr (Prod.mk.inj he)] at hlt; cases hlt)
    hx hy (by rw [hk, hv])

theorem SortedEnts.nodup {l : List Ent} (h : SortedEnts l) : l.Nodup :=
  nodup_of_pairwise (R := fun a b => entCmp a b = .lt) entCmp_lt_irrefl h

theorem SortedEnts.newer_mem_prefix {pre rest : List Ent} {e x : Ent}
    (h : SortedEnts (pre ++ e :: rest)) (hx : x ∈ pre ++ e :: rest) (hk : x.key = e.key)
    (hv : e.ver < x.ver) : x ∈ pre := by
  rw [sortedEnts_append] at h
  rcases List.mem_append.mp hx with hx | hx
  · exact hx
  · exfalso
    have hlt : entCmp x e = .lt := (entCmp_lt_same_key hk).mpr hv
    exact h.2.1.head_le hx hlt

theorem SortedEnts.prefix_newer {pre rest : List Ent} {e x : Ent}
    (h : SortedEnts (pre ++ e :: rest)) (hx : x ∈ pre) (hk : x.key = e.key) : e.ver < x.ver := by
  rw [sortedEnts_append] at h
  exact (entCmp_lt_same_key hk).mp (h.2.2 x hx e List.mem_cons_self)

@[simp] theorem merge2_nil_left (ys : List Ent) : merge2 [] ys = ys := by
  cases ys <;> simp [merge2]

@[simp] theorem merge2_nil_right (xs : List Ent) : merge2 xs [] = xs := by
  cases xs <;> simp [merge2]

theorem merge2_cons_cons (x y : Ent) (xs ys : List Ent) :
    merge2 (x :: xs) (y :: ys) =
      match entCmp x y with
      | .lt => x :: merge2 xs (y :: ys)
      | .eq => x :: merge2 xs ys
      | .gt => y :: merge2 (x :: xs) ys := by
  rw [merge2]; cases entCmp x y <;> rfl

theorem mem_merge2_imp {x : Ent} {a b : List Ent} (h : x ∈ merge2 a b) : x ∈ a ∨ x ∈ b := by
  fun_induction merge2 a b with
  | case1 ys => exact .inr h
  | case2 xs _ => exact .inl h
  | case3 a as b bs hc ih =>  -- the left head is smaller
    rcases List.mem_cons.mp h with h | h
    · exact .inl (h ▸ List.mem_cons_self)
    · rcases ih h with h | h
      · exact .inl (List.mem_cons_of_mem _ h)
      · exact .inr h
  | case4 a as b bs hc ih =>  -- same internal key: the left copy stays, the right one goes
    rcases List.mem_cons.mp h with h | h
    · exact .inl (h ▸ List.mem_cons_self)
    · rcases ih h with h | h
      · exact .inl (List.mem_cons_of_mem _ h)
      · exact .inr (List.mem_cons_of_mem _ h)
  | case5 a as b bs hc ih =>  -- the right head is smaller
    rcases List.mem_cons.mp h with h | h
    · exact .inr (h ▸ List.mem_cons_self)
    · rcases ih h with h | h
      · exact .inl h
      · exact .inr (List.mem_cons_of_mem _ h)

theorem merge2_sorted {a b : List Ent} (ha : SortedEnts a) (hb : SortedEnts b) :
    SortedEnts (merge2 a b) := by
  fun_induction merge2 a b with
  | case1 ys => exact hb
  | case2 xs _ => exact ha
  | case3 x xs y ys hc ih =>  -- the left head is smaller
    refine sortedEnts_cons.mpr ⟨?_, ih ha.tail hb⟩
    intro z hz
    rcases mem_merge2_imp hz with hz | hz
    · exact ha.head_lt z hz
    · rcases List.mem_cons.mp hz with rfl | hz
      · exact hc
      · exact entCmp_lt_trans hc (hb.head_lt z hz)
  | case4 x xs y ys hc ih =>  -- same internal key: the left copy stays, the right one goes
    refine sortedEnts_cons.mpr ⟨?_, ih ha.tail hb.tail⟩
    intro z hz
    rcases mem_merge2_imp hz with hz | hz
    · exact ha.head_lt z hz
    · exact entCmp_lt_of_eq_of_lt hc (hb.head_lt z hz)
  | case5 x xs y ys hc ih =>  -- the right head is smaller
    have hyx : entCmp y x = .lt := (entCmp_gt_iff_lt _ _).mp hc
    refine sortedEnts_cons.mpr ⟨?_, ih ha hb.tail⟩
    intro z hz
    rcases mem_merge2_imp hz with hz | hz
    · rcases List.mem_cons.mp hz with rfl | hz
      · exact hyx
      · exact entCmp_lt_trans hyx (ha.head_lt z hz)
    · exact hb.head_lt z hz

theorem mem_merge2_left {x : Ent} {a b : List Ent} (h : x ∈ a) : x ∈ merge2 a b := by
  fun_induction merge2 a b with
  | case1 ys => cases h
  | case2 xs _ => exact h
  | case3 a as b bs hc ih =>  -- the left head is smaller
    rcases List.mem_cons.mp h with rfl | h
    · exact List.mem_cons_self
    · exact List.mem_cons_of_mem _ (ih h)
  | case4 a as b bs hc ih =>  -- same internal key: the left copy stays, the right one goes
    rcases List.mem_cons.mp h with rfl | h
    · exact List.mem_cons_self
    · exact List.mem_cons_of_mem _ (ih h)
  | case5 a as b bs hc ih => exact List.mem_cons_of_mem _ (ih h)  -- the right head is smaller

theorem mem_merge2_right {x : Ent} {a b : List Ent} (h : x ∈ b) (hne : ∀ y ∈ a, entCmp y x ≠ .eq) :
    x ∈ merge2 a b := by
  fun_induction merge2 a b with
  | case1 ys => exact h
  | case2 xs _ => cases h
  | case3 a as b bs hc ih =>  -- the left head is smaller
    exact List.mem_cons_of_mem _ (ih h fun y hy => hne y (List.mem_cons_of_mem _ hy))
  | case4 a as b bs hc ih =>  -- same internal key: the left copy stays, the right one goes
    rcases List.mem_cons.mp h with rfl | h
    · exact absurd hc (hne a List.mem_cons_self)
    · exact List.mem_cons_of_mem _ (ih h fun y hy => hne y (List.mem_cons_of_mem _ hy))
  | case5 a as b bs hc ih =>  -- the right head is smaller
    rcases List.mem_cons.mp h with rfl | h
    · exact List.mem_cons_self
    · exact List.mem_cons_of_mem _ (ih h hne)

/-- the merge is sorted, so it holds one copy of a `(key, ver)`, and that is the left one -/
theorem mem_merge2 {x : Ent} {a b : List Ent} (ha : SortedEnts a) (hb : SortedEnts b) :
    x ∈ merge2 a b ↔ x ∈ a ∨ (x ∈ b ∧ ∀ y ∈ a, ¬(y.key = x.key ∧ y.ver = x.ver)) := by
  constructor
  · intro h
    rcases mem_merge2_imp h with hx | hx
    · exact .inl hx
    · by_cases hex : ∃ y ∈ a, y.key = x.key ∧ y.ver = x.ver
      · obtain ⟨y, hy, hk, hv⟩ := hex
        exact .inl ((merge2_sorted ha hb).eq_of_key_ver (mem_merge2_left hy) h hk hv ▸ hy)
      · exact .inr ⟨hx, fun y hy hkv => hex ⟨y, hy, hkv⟩⟩
  · rintro (hx | ⟨hx, hne⟩)
    · exact mem_merge2_left hx
    · exact mem_merge2_right hx fun y hy h => hne y hy ((entCmp_eq_iff _ _).mp h)

theorem memPut_eq_merge2 (e : Ent) (m : List Ent) : memPut e m = merge2 [e] m := by
  induction m with
  | nil => rw [merge2_nil_right]; rfl
  | cons x xs ih =>
    rw [memPut, merge2_cons_cons, ih]
    cases entCmp e x <;> simp

theorem mem_memPut_imp {e x : Ent} {m : List Ent} (h : x ∈ memPut e m) : x = e ∨ x ∈ m := by
  rw [memPut_eq_merge2] at h
  exact (mem_merge2_imp h).imp_left List.eq_of_mem_singleton

theorem memPut_sorted {e : Ent} {m : List Ent} (hs : SortedEnts m) : SortedEnts (memPut e m) :=
  memPut_eq_merge2 e m ▸ merge2_sorted (sortedEnts_singleton e) hs

theorem self_mem_memPut (e : Ent) (m : List Ent) : e ∈ memPut e m :=
  memPut_eq_merge2 e m ▸ mem_merge2_left (List.mem_singleton_self e)

theorem mem_memPut_of_ne {e x : Ent} {m : List Ent} (hx : x ∈ m) (hne : entCmp e x ≠ .eq) :
    x ∈ memPut e m :=
  memPut_eq_merge2 e m ▸ mem_merge2_right hx fun _ hy => List.eq_of_mem_singleton hy ▸ hne

theorem mem_memPut {e x : Ent} {m : List Ent} (hs : SortedEnts m) :
    x ∈ memPut e m ↔ x = e ∨ (x ∈ m ∧ ¬(x.key = e.key ∧ x.ver = e.ver)) := by
  rw [memPut_eq_merge2, mem_merge2 (sortedEnts_singleton e) hs]
  simp only [List.mem_singleton, forall_eq, eq_comm (a := e.key), eq_comm (a := e.ver)]

theorem mem_memPut_of_mem {y e : Ent} {m : List Ent} (h : y ∈ m) :
    y ∈ memPut e m ∨ (y.key = e.key ∧ y.ver = e.ver) := by
  by_cases heq : entCmp e y = .eq
  · exact .inr ⟨((entCmp_eq_iff e y).mp heq).1.symm, ((entCmp_eq_iff e y).mp heq).2.symm⟩
  · exact .inl (mem_memPut_of_ne h heq)

theorem foldl_memPut_ind {P : List Ent → Prop} {es : List Ent}
    (h : ∀ e ∈ es, ∀ m, P m → P (memPut e m)) {m : List Ent} (hm : P m) :
    P (es.foldl (fun m e => memPut e m) m) :=
  List.foldlRecOn es _ hm fun m hm e he => h e he m hm

theorem mem_foldl_memPut {x : Ent} {es m : List Ent}
    (h : x ∈ es.foldl (fun m e => memPut e m) m) : x ∈ es ∨ x ∈ m :=
  foldl_memPut_ind (P := fun m' => ∀ x ∈ m', x ∈ es ∨ x ∈ m)
    (fun _ he _ hm' x hx => (mem_memPut_imp hx).elim (fun h => .inl (h ▸ he)) (hm' x)) (fun _ => .inr) x h

theorem mem_foldl_memPut_keep {x : Ent} {es m : List Ent} (h : x ∈ m)
    (hs : ∀ y ∈ es, ¬ (x.key = y.key ∧ x.ver = y.ver)) :
    x ∈ es.foldl (fun m e => memPut e m) m :=
  foldl_memPut_ind (P := (x ∈ ·)) (fun e he _ hx => (mem_memPut_of_mem hx).resolve_right (hs e he)) h

theorem mem_foldl_memPut_of_distinct {e : Ent} {es m : List Ent}
    (hd : es.Pairwise (fun a b => ¬ (a.key = b.key ∧ a.ver = b.ver))) (h : e ∈ es) :
    e ∈ es.foldl (fun m e => memPut e m) m := by
  obtain ⟨l1, l2, rfl⟩ := List.append_of_mem h
  rw [List.foldl_append, List.foldl_cons]
  exact mem_foldl_memPut_keep (self_mem_memPut e _) (List.pairwise_cons.mp (List.pairwise_append.mp hd).2.1).1

theorem slot_foldl_memPut {e : Ent} {es m : List Ent} (h : e ∈ es ∨ e ∈ m) :
    ∃ x ∈ es.foldl (fun m e => memPut e m) m, x.key = e.key ∧ x.ver = e.ver := by
  -- an occupied slot stays occupied: its entry stays, or the new entry takes the slot
  have keep : ∀ (l m : List Ent), (∃ x ∈ m, x.key = e.key ∧ x.ver = e.ver) →
      ∃ x ∈ l.foldl (fun m e => memPut e m) m, x.key = e.key ∧ x.ver = e.ver := fun l m hm =>
    foldl_memPut_ind (P := fun m => ∃ x ∈ m, x.key = e.key ∧ x.ver = e.ver)
      (fun a _ m ⟨x, hx, hk, hv⟩ => (mem_memPut_of_mem (e := a) hx).elim (fun h => ⟨x, h, hk, hv⟩)
        fun h => ⟨a, self_mem_memPut a m, h.1.symm.trans hk, h.2.symm.trans hv⟩) hm
  rcases h with h | h
  · obtain ⟨l1, l2, rfl⟩ := List.append_of_mem h
    rw [List.foldl_append, List.foldl_cons]
    exact keep l2 _ ⟨e, self_mem_memPut e _, rfl, rfl⟩
  · exact keep es m ⟨e, h, rfl, rfl⟩

theorem foldl_memPut_sorted {es m : List Ent} (h : SortedEnts m) :
    SortedEnts (es.foldl (fun m e => memPut e m) m) :=
  foldl_memPut_ind (fun _ _ _ => memPut_sorted) h

theorem foldl_memPut_congr {β : Sort _} (f : List Ent → β) {es : List Ent}
    (h : ∀ e ∈ es, ∀ m, f (memPut e m) = f m) (m : List Ent) :
    f (es.foldl (fun m e => memPut e m) m) = f m :=
  foldl_memPut_ind (P := fun m' => f m' = f m) (fun e he m' hm' => (h e he m').trans hm') rfl

@[simp] theorem mergeAll_nil : mergeAll [] = [] := rfl

@[simp] theorem mergeAll_cons (s : List Ent) (srcs : List (List Ent)) :
    mergeAll (s :: srcs) = merge2 s (mergeAll srcs) := rfl

theorem mergeAll_sorted {srcs : List (List Ent)} (h : ∀ s ∈ srcs, SortedEnts s) :
    SortedEnts (mergeAll srcs) := by
  induction srcs with
  | nil => exact sortedEnts_nil
  | cons s rest ih =>
    exact merge2_sorted (h s List.mem_cons_self) (ih fun s' hs' => h s' (List.mem_cons_of_mem _ hs'))

theorem mem_mergeAll_imp {e : Ent} {srcs : List (List Ent)} (h : e ∈ mergeAll srcs) :
    ∃ s ∈ srcs, e ∈ s := by
  induction srcs with
  | nil => cases h
  | cons s rest ih =>
    rcases mem_merge2_imp h with h | h
    · exact ⟨s, List.mem_cons_self, h⟩
    · obtain ⟨s', hs', he⟩ := ih h
      exact ⟨s', List.mem_cons_of_mem _ hs', he⟩

/-- a predicate that does not distinguish the copies of one internal key -/
def SlotPred (p : Ent → Bool) : Prop := ∀ a b : Ent, a.key = b.key → a.ver = b.ver → p a = p b

/-- both sides are sorted, and a copy on the left shadows the same copies of the right whether or not the filter runs first -/
theorem filter_merge2 (p : Ent → Bool) (hp : SlotPred p) (a b : List Ent)
    (ha : SortedEnts a) (hb : SortedEnts b) :
    (merge2 a b).filter p = merge2 (a.filter p) (b.filter p) := by
  refine pairwise_ext (R := fun a b => entCmp a b = .lt) (fun _ _ => entCmp_lt_asymm)
    ((merge2_sorted ha hb).filter p) (merge2_sorted (ha.filter p) (hb.filter p)) fun x => ?_
  simp only [List.mem_filter, mem_merge2 ha hb, mem_merge2 (ha.filter p) (hb.filter p)]
  constructor
  · rintro ⟨h | ⟨h, hne⟩, hx⟩
    · exact .inl ⟨h, hx⟩
    · exact .inr ⟨⟨h, hx⟩, fun y hy => hne y hy.1⟩
  · rintro (⟨h, hx⟩ | ⟨⟨h, hx⟩, hne⟩)
    · exact ⟨.inl h, hx⟩
    · exact ⟨.inr ⟨h, fun y hy hkv => hne y ⟨hy, (hp y x hkv.1 hkv.2).trans hx⟩ hkv⟩, hx⟩

theorem filter_mergeAll (p : Ent → Bool) (hp : SlotPred p) (srcs : List (List Ent))
    (hs : ∀ s ∈ srcs, SortedEnts s) :
    (mergeAll srcs).filter p = mergeAll (srcs.map (·.filter p)) := by
  induction srcs with
  | nil => rfl
  | cons s rest ih =>
    have hrest : ∀ s' ∈ rest, SortedEnts s' := fun s' h => hs s' (List.mem_cons_of_mem _ h)
    rw [mergeAll_cons, List.map_cons, mergeAll_cons,
      filter_merge2 p hp _ _ (hs s (List.mem_cons_self ..)) (mergeAll_sorted hrest), ih hrest]

theorem mergeAll_filter_nonempty (srcs : List (List Ent)) :
    mergeAll (srcs.filter (fun s => !s.isEmpty)) = mergeAll srcs := by
  induction srcs with
  | nil => rfl
  | cons s rest ih =>
    cases s with
    | nil => simp only [List.filter_cons, List.isEmpty_nil, Bool.not_true, Bool.false_eq_true, if_false,
        mergeAll_cons, merge2_nil_left, ih]
    | cons a r => simp only [List.filter_cons, List.isEmpty_cons, Bool.not_false, if_true, mergeAll_cons, ih]

/-- left-biased maximum by version (`none` is the unit) -/
def pick : Option Ent → Option Ent → Option Ent
  | none, b => b
  | some a, none => some a
  | some a, some b => if a.ver < b.ver then some b else some a

/-- the entry as a candidate for a read of `k` at `ts` -/
def cand (k : Bytes) (ts : Nat) (e : Ent) : Option Ent :=
  if e.key = k ∧ e.ver ≤ ts then some e else none

@[simp] theorem pick_none_left (b : Option Ent) : pick none b = b := rfl

@[simp] theorem pick_none_right (a : Option Ent) : pick a none = a := by cases a <;> rfl

theorem pick_some_some (a b : Ent) :
    pick (some a) (some b) = if a.ver < b.ver then some b else some a := rfl

theorem pick_assoc (a b c : Option Ent) : pick (pick a b) c = pick a (pick b c) := by
  cases a with
  | none => rfl
  | some a =>
    cases b with
    | none => rw [pick_none_right, pick_none_left]
    | some b =>
      cases c with
      | none => rw [pick_none_right, pick_none_right]
      | some c =>
        -- three entries: both sides are the leftmost one of maximal version
        rw [pick_some_some a b, pick_some_some b c]
        by_cases h1 : a.ver < b.ver
        · by_cases h2 : b.ver < c.ver
          · rw [if_pos h1, if_pos h2, pick_some_some, pick_some_some, if_pos h2, if_pos (by omega)]
          · rw [if_pos h1, if_neg h2, pick_some_some, pick_some_some, if_neg h2, if_pos h1]
        · by_cases h2 : b.ver < c.ver
          · rw [if_neg h1, if_pos h2]
          · rw [if_neg h1, if_neg h2, pick_some_some, pick_some_some, if_neg h1, if_neg (by omega)]

theorem pick_comm_of_ver_ne {a b : Ent} (h : a.ver ≠ b.ver) :
    pick (some a) (some b) = pick (some b) (some a) := by
  rw [pick_some_some, pick_some_some]
  by_cases h1 : a.ver < b.ver
  · rw [if_pos h1, if_neg (by omega)]
  · rw [if_neg h1, if_pos (by omega)]

theorem pick_comm_of_ne {a b : Option Ent} (h : ∀ x y, a = some x → b = some y → x.ver ≠ y.ver) :
    pick a b = pick b a := by
  cases a with
  | none => rw [pick_none_left, pick_none_right]
  | some x =>
    cases b with
    | none => rw [pick_none_left, pick_none_right]
    | some y => exact pick_comm_of_ver_ne (h x y rfl rfl)

theorem pick_some_left {e : Ent} {r : Option Ent} (h : ∀ x, r = some x → x.ver ≤ e.ver) :
    pick (some e) r = some e := by
  cases r with
  | none => rfl
  | some x => rw [pick_some_some, if_neg (Nat.not_lt.mpr (h x rfl))]

theorem pick_absorb {a b : Ent} (h : b.ver ≤ a.ver) : pick (some a) (some b) = some a :=
  pick_some_left fun _ hx => by cases hx; exact h

theorem pick_some {x y : Option Ent} {e : Ent} (h : pick x y = some e) :
    (x = some e ∧ ∀ b, y = some b → b.ver ≤ e.ver) ∨ (y = some e ∧ ∀ a, x = some a → a.ver < e.ver) := by
  cases x with
  | none => exact .inr ⟨h, fun _ ha => nomatch ha⟩
  | some a =>
    cases y with
    | none => exact .inl ⟨h, fun _ hb => nomatch hb⟩
    | some b =>
      rw [pick_some_some] at h
      by_cases hab : a.ver < b.ver
      · rw [if_pos hab] at h
        cases h
        exact .inr ⟨rfl, fun _ ha => by cases ha; exact hab⟩
      · rw [if_neg hab] at h
        cases h
        exact .inl ⟨rfl, fun _ hb => by cases hb; omega⟩

theorem pick_eq_some {a b : Option Ent} {e : Ent} (h : pick a b = some e) : a = some e ∨ b = some e :=
  (pick_some h).imp And.left And.left

theorem pick_ver_ge {a b : Option Ent} {e : Ent} (h : pick a b = some e) :
    (∀ x, a = some x → x.ver ≤ e.ver) ∧ (∀ x, b = some x → x.ver ≤ e.ver) := by
  rcases pick_some h with ⟨rfl, hb⟩ | ⟨rfl, ha⟩
  · exact ⟨fun x hx => by cases hx; exact Nat.le_refl _, hb⟩
  · exact ⟨fun x hx => Nat.le_of_lt (ha x hx), fun x hx => by cases hx; exact Nat.le_refl _⟩

theorem betterOf_eq_pick (best : Option Ent) (e : Ent) : betterOf best e = pick best (some e) := by
  cases best <;> rfl

theorem newestLE_fold_step (k : Bytes) (ts : Nat) (best : Option Ent) (e : Ent) :
    (if e.key = k ∧ e.ver ≤ ts then betterOf best e else best) = pick best (cand k ts e) := by
  unfold cand; split
  · exact betterOf_eq_pick _ _
  · simp

theorem newestLE_foldl (k : Bytes) (ts : Nat) (init : Option Ent) (es : List Ent) :
    es.foldl (fun best e => if e.key = k ∧ e.ver ≤ ts then betterOf best e else best) init =
      pick init (newestLE es k ts) := by
  unfold newestLE
  induction es generalizing init with
  | nil => simp
  | cons e es ih =>
    simp only [List.foldl_cons]
    rw [ih, ih (if e.key = k ∧ e.ver ≤ ts then betterOf none e else none)]
    rw [newestLE_fold_step, newestLE_fold_step, pick_none_left, pick_assoc]

@[simp] theorem newestLE_nil (k : Bytes) (ts : Nat) : newestLE [] k ts = none := rfl

theorem newestLE_cons (e : Ent) (es : List Ent) (k : Bytes) (ts : Nat) :
    newestLE (e :: es) k ts = pick (cand k ts e) (newestLE es k ts) := by
  show List.foldl _ _ (e :: es) = _
  rw [List.foldl_cons, newestLE_foldl, newestLE_fold_step, pick_none_left]

theorem newestLE_append (a b : List Ent) (k : Bytes) (ts : Nat) :
    newestLE (a ++ b) k ts = pick (newestLE a k ts) (newestLE b k ts) := by
  induction a with
  | nil => simp
  | cons e a ih => rw [List.cons_append, newestLE_cons, newestLE_cons, ih, pick_assoc]

theorem cand_eq_some {k : Bytes} {ts : Nat} {x e : Ent} (h : cand k ts x = some e) :
    x = e ∧ e.key = k ∧ e.ver ≤ ts := by
  unfold cand at h; split at h
  · cases h; rename_i hc; exact ⟨rfl, hc⟩
  · cases h

theorem cand_pos {k : Bytes} {ts : Nat} {x : Ent} (hk : x.key = k) (hv : x.ver ≤ ts) :
    cand k ts x = some x := by unfold cand; rw [if_pos ⟨hk, hv⟩]

theorem cand_neg {k : Bytes} {ts : Nat} {x : Ent} (h : ¬(x.key = k ∧ x.ver ≤ ts)) :
    cand k ts x = none := by unfold cand; rw [if_neg h]

theorem newestLE_filter_of {q : Ent → Bool} {k : Bytes} {ts : Nat}
    (hq : ∀ e : Ent, e.key = k ∧ e.ver ≤ ts → q e = true) (es : List Ent) :
    newestLE (es.filter q) k ts = newestLE es k ts := by
  induction es with
  | nil => rfl
  | cons x xs ih =>
    rw [List.filter_cons]
    cases hx : q x with
    | true => simp only [if_true]; rw [newestLE_cons, newestLE_cons, ih]
    | false =>
      simp only [Bool.false_eq_true, if_false]
      rw [newestLE_cons, ih, cand_neg (fun h => by rw [hq x h] at hx; cases hx), pick_none_left]

theorem pick_eq_none {a b : Option Ent} : pick a b = none ↔ a = none ∧ b = none := by
  cases a with
  | none => exact ⟨fun h => ⟨rfl, h⟩, fun h => h.2⟩
  | some a =>
    refine ⟨fun h => ?_, fun h => nomatch h.1⟩
    cases b with
    | none => cases h
    | some b => rw [pick_some_some] at h; split at h <;> cases h

theorem newestLE_eq_none_iff {es : List Ent} {k : Bytes} {ts : Nat} :
    newestLE es k ts = none ↔ ∀ x ∈ es, ¬(x.key = k ∧ x.ver ≤ ts) := by
  induction es with
  | nil => simp
  | cons x xs ih =>
    rw [newestLE_cons, pick_eq_none, ih]
    simp only [List.mem_cons, forall_eq_or_imp]
    refine and_congr ?_ Iff.rfl
    by_cases h : x.key = k ∧ x.ver ≤ ts
    · rw [cand_pos h.1 h.2]
      exact ⟨nofun, fun h' => absurd h h'⟩
    · rw [cand_neg h]
      exact ⟨fun _ => h, fun _ => rfl⟩

theorem newestLE_some {es : List Ent} {k : Bytes} {ts : Nat} {e : Ent} (h : newestLE es k ts = some e) :
    e ∈ es ∧ e.key = k ∧ e.ver ≤ ts ∧ ∀ x ∈ es, x.key = k → x.ver ≤ ts → x.ver ≤ e.ver := by
  induction es generalizing e with
  | nil => cases h
  | cons y ys ih =>
    rw [newestLE_cons] at h
    rcases pick_some h with ⟨h1, h2⟩ | ⟨h1, h2⟩
    · -- `y` is returned: it is a candidate, and at least as new as what the rest returns
      obtain ⟨rfl, hk, hv⟩ := cand_eq_some h1
      refine ⟨List.mem_cons_self, hk, hv, fun x hx hxk hxv => ?_⟩
      rcases List.mem_cons.mp hx with rfl | hx
      · exact Nat.le_refl _
      · cases hn : newestLE ys k ts with
        | none => exact absurd ⟨hxk, hxv⟩ (newestLE_eq_none_iff.mp hn x hx)
        | some e' => exact Nat.le_trans ((ih hn).2.2.2 x hx hxk hxv) (h2 e' hn)
    · -- the rest's answer is returned: it is strictly newer than `y` if `y` is a candidate
      obtain ⟨hm, hk, hv, hmax⟩ := ih h1
      refine ⟨List.mem_cons_of_mem _ hm, hk, hv, fun x hx hxk hxv => ?_⟩
      rcases List.mem_cons.mp hx with rfl | hx
      · exact Nat.le_of_lt (h2 x (cand_pos hxk hxv))
      · exact hmax x hx hxk hxv

theorem newestLE_some_mem {es : List Ent} {k : Bytes} {ts : Nat} {e : Ent}
    (h : newestLE es k ts = some e) : e ∈ es ∧ e.key = k ∧ e.ver ≤ ts :=
  let ⟨hm, hk, hv, _⟩ := newestLE_some h
  ⟨hm, hk, hv⟩

theorem newestLE_key_lt {M : List Ent} {ts : Nat} {a b : Ent} (ha : newestLE M a.key ts = some a)
    (hb : newestLE M b.key ts = some b) (hab : entCmp a b = .lt) : cmpBytes a.key b.key = .lt := by
  rcases (entCmp_lt_iff a b).mp hab with h | ⟨hk, hv⟩
  · exact h
  · rw [hk, hb] at ha
    cases ha
    omega

theorem newestLE_of_mem {es : List Ent} {k : Bytes} {ts : Nat} {x : Ent} (hx : x ∈ es) (hk : x.key = k)
    (hv : x.ver ≤ ts) : ∃ e, newestLE es k ts = some e ∧ x.ver ≤ e.ver := by
  cases h : newestLE es k ts with
  | none => exact absurd ⟨hk, hv⟩ (newestLE_eq_none_iff.mp h x hx)
  | some e => exact ⟨e, rfl, (newestLE_some h).2.2.2 x hx hk hv⟩

theorem newestLE_filter (l : List Ent) (k : Bytes) (ts : Nat) :
    newestLE (l.filter (fun x => decide (x.key = k ∧ x.ver ≤ ts))) k ts = newestLE l k ts :=
  newestLE_filter_of (fun _ h => decide_eq_true h) l

theorem newestLE_congr_filter {l1 l2 : List Ent} (k : Bytes) (ts : Nat)
    (h : l1.filter (fun x => decide (x.key = k ∧ x.ver ≤ ts)) =
         l2.filter (fun x => decide (x.key = k ∧ x.ver ≤ ts))) :
    newestLE l1 k ts = newestLE l2 k ts := by
  rw [← newestLE_filter l1, h, newestLE_filter]

theorem newestLE_unique_max {x : Ent} {k : Bytes} {ts : Nat} {l : List Ent} (hx : x ∈ l)
    (hk : x.key = k) (hv : x.ver ≤ ts)
    (hl : ∀ y ∈ l, y.key = k → y.ver ≤ ts → y = x ∨ y.ver < x.ver) :
    newestLE l k ts = some x := by
  obtain ⟨r, hn, hle⟩ := newestLE_of_mem (ts := ts) hx hk hv
  obtain ⟨hr, hrk, hrv⟩ := newestLE_some_mem hn
  rcases hl r hr hrk hrv with rfl | h
  · exact hn
  · omega

theorem newestLE_at_ver {es : List Ent} {k : Bytes} {ts : Nat} {e : Ent} (h : newestLE es k ts = some e) :
    newestLE es k e.ver = some e := by
  induction es generalizing e with
  | nil => simp at h
  | cons x xs ih =>
    rw [newestLE_cons] at h ⊢
    rcases pick_some h with ⟨h1, h2⟩ | ⟨h1, h2⟩
    · obtain ⟨rfl, hk, -⟩ := cand_eq_some h1
      rw [cand_pos hk (Nat.le_refl _)]
      exact pick_some_left fun q hq => (newestLE_some hq).2.2.1
    · rw [ih h1]
      obtain ⟨_, hk, hv, _⟩ := newestLE_some h1
      by_cases hx : x.key = k ∧ x.ver ≤ e.ver
      · rw [cand_pos hx.1 hx.2, pick_some_some, if_pos (h2 x (cand_pos hx.1 (by omega)))]
      · rw [cand_neg hx, pick_none_left]

theorem exists_max_ver : ∀ (l : List Ent), l ≠ [] → ∃ x ∈ l, ∀ y ∈ l, y.ver ≤ x.ver
  | [], h => absurd rfl h
  | [a], _ => ⟨a, by simp, by simp⟩
  | a :: b :: l, _ => by
    obtain ⟨x, hx, hmax⟩ := exists_max_ver (b :: l) (by simp)
    by_cases h : x.ver ≤ a.ver
    · exact ⟨a, by simp, List.forall_mem_cons.2
        ⟨Nat.le_refl _, fun y hy => Nat.le_trans (hmax y hy) h⟩⟩
    · exact ⟨x, List.mem_cons_of_mem _ hx, List.forall_mem_cons.2 ⟨by omega, hmax⟩⟩

theorem newestLE_sorted_eq_find? {es : List Ent} (hs : SortedEnts es) (k : Bytes) (ts : Nat) :
    newestLE es k ts = es.find? (fun e => decide (e.key = k ∧ e.ver ≤ ts)) := by
  induction es with
  | nil => rfl
  | cons x xs ih =>
    rw [newestLE_cons, List.find?_cons, ← ih hs.tail]
    by_cases hc : x.key = k ∧ x.ver ≤ ts
    · rw [cand_pos hc.1 hc.2]; simp only [hc, and_self, decide_true]
      cases hn : newestLE xs k ts with
      | none => rfl
      | some e' =>
        obtain ⟨hm, hk, _⟩ := newestLE_some_mem hn
        have := (entCmp_lt_same_key (hc.1.trans hk.symm)).mp (hs.head_lt e' hm)
        exact pick_absorb (by omega)
    · rw [cand_neg hc]; simp [hc]

theorem newestLE_some_iff_of_unique {es : List Ent}
    (hu : ∀ x ∈ es, ∀ y ∈ es, x.key = y.key → x.ver = y.ver → x = y) {k : Bytes} {ts : Nat} {e : Ent} :
    newestLE es k ts = some e ↔
      e ∈ es ∧ e.key = k ∧ e.ver ≤ ts ∧ ∀ x ∈ es, x.key = k → x.ver ≤ ts → x.ver ≤ e.ver := by
  refine ⟨newestLE_some, ?_⟩
  · intro ⟨hm, hk, hv, hmax⟩
    obtain ⟨e', hn, h1⟩ := newestLE_of_mem (ts := ts) hm hk hv
    obtain ⟨hm', hk', hv'⟩ := newestLE_some_mem hn
    have h2 := hmax e' hm' hk' hv'
    rw [hn, hu e' hm' e hm (hk'.trans hk.symm) (by omega)]

theorem newestLE_sorted_some_iff {es : List Ent} (hs : SortedEnts es) {k : Bytes} {ts : Nat} {e : Ent} :
    newestLE es k ts = some e ↔
      e ∈ es ∧ e.key = k ∧ e.ver ≤ ts ∧ ∀ x ∈ es, x.key = k → x.ver ≤ ts → x.ver ≤ e.ver :=
  newestLE_some_iff_of_unique fun _ hx _ hy => hs.eq_of_key_ver hx hy

namespace LL

/-- an internal key determines the entry -/
def KVFun (L : List Ent) : Prop := ∀ x ∈ L, ∀ y ∈ L, x.key = y.key → x.ver = y.ver → x = y

theorem kvFun_of_sorted {L : List Ent} (hs : SortedEnts L) : KVFun L :=
  fun _ hx _ hy hk hv => hs.eq_of_key_ver hx hy hk hv

theorem newestLE_congr_kv {L L' : List Ent} (hf : KVFun L) (hm : ∀ e, e ∈ L ↔ e ∈ L') (k : Bytes) (ts : Nat) :
    newestLE L k ts = newestLE L' k ts := by
  cases hr : newestLE L' k ts with
  | none =>
    rw [newestLE_eq_none_iff] at hr ⊢
    exact fun x hx => hr x ((hm x).mp hx)
  | some e =>
    obtain ⟨m1, m2, m3, m4⟩ := newestLE_some hr
    exact (newestLE_some_iff_of_unique hf).mpr ⟨(hm e).mpr m1, m2, m3, fun x hx => m4 x ((hm x).mp hx)⟩

theorem newestLE_union_kv {L A B : List Ent} (hf : KVFun L) (hm : ∀ e, e ∈ L ↔ e ∈ A ∨ e ∈ B)
    (k : Bytes) (ts : Nat) : newestLE L k ts = pick (newestLE A k ts) (newestLE B k ts) := by
  rw [← newestLE_append]
  exact newestLE_congr_kv hf (fun e => by rw [hm, List.mem_append]) k ts

theorem newestLE_union {L A B : List Ent} (hs : SortedEnts L) (hm : ∀ e, e ∈ L ↔ e ∈ A ∨ e ∈ B)
    (k : Bytes) (ts : Nat) : newestLE L k ts = pick (newestLE A k ts) (newestLE B k ts) :=
  newestLE_union_kv (kvFun_of_sorted hs) hm k ts

/-- a dropped dead version at the bottom of what the read can see: falling through is invisible -/
theorem read_fallthrough {now : Nat} {u v v' w : Option Ent}
    (hv : v' = v ∨ (v' = none ∧ ∃ e, v = some e ∧ deletedOrExpired e.emeta e.exp now = true ∧ w = none ∧
      ∀ x, u = some x → e.ver ≤ x.ver)) :
    visible now (pick u (pick v' w)) = visible now (pick u (pick v w)) := by
  rcases hv with rfl | ⟨rfl, e, rfl, hdead, rfl, hrec⟩
  · rfl
  · simp only [pick_none_right]
    cases u with
    | none => simp [visible, hdead]
    | some x =>
      have := hrec x rfl
      simp only [pick]
      rw [if_neg (by omega)]

theorem kvFun_subset {L L' : List Ent} (hf : KVFun L) (hsub : ∀ x ∈ L', x ∈ L) : KVFun L' :=
  fun x hx y hy hk hv => hf x (hsub x hx) y (hsub y hy) hk hv

theorem kvFun_cons {hist : List Ent} {e : Ent} (h : KVFun hist)
    (hfresh : ∀ x ∈ hist, x.key = e.key → x.ver < e.ver) : KVFun (e :: hist) := by
  intro x hx y hy hk hv
  rcases List.mem_cons.mp hx with rfl | hx' <;> rcases List.mem_cons.mp hy with rfl | hy'
  · rfl
  · exact absurd hv.symm (Nat.ne_of_lt (hfresh y hy' hk.symm))
  · exact absurd hv (Nat.ne_of_lt (hfresh x hx' hk))
  · exact h x hx' y hy' hk hv

end LL

/-- reads only see the first copy of a `(key, ver)` -/
theorem newestLE_merge2 {a b : List Ent} (ha : SortedEnts a) (k : Bytes) (ts : Nat) :
    newestLE (merge2 a b) k ts = pick (newestLE a k ts) (newestLE b k ts) := by
  fun_induction merge2 a b with
  | case1 ys => simp
  | case2 xs _ => simp
  | case3 x xs y ys hc ih =>  -- the left head is smaller
    rw [newestLE_cons, ih ha.tail, newestLE_cons x xs, pick_assoc]
  | case4 x xs y ys hc ih =>  -- same internal key: the left copy stays, the right one goes
    rw [newestLE_cons, ih ha.tail, newestLE_cons x xs, newestLE_cons y ys]
    have hxy := (entCmp_eq_iff x y).mp hc
    by_cases hq : x.key = k ∧ x.ver ≤ ts
    · have hq' : y.key = k ∧ y.ver ≤ ts := by rw [← hxy.1, ← hxy.2]; exact hq
      rw [cand_pos hq.1 hq.2, cand_pos hq'.1 hq'.2]
      -- `pick (some x) A` absorbs `y`
      have : pick (pick (some x) (newestLE xs k ts)) (some y) = pick (some x) (newestLE xs k ts) := by
        cases hA : pick (some x) (newestLE xs k ts) with
        | none => rw [pick_eq_none] at hA; cases hA.1
        | some a =>
          have := (pick_ver_ge hA).1 x rfl
          exact pick_absorb (by omega)
      rw [← pick_assoc (pick (some x) (newestLE xs k ts)) (some y), this, pick_assoc]
    · have hq' : ¬(y.key = k ∧ y.ver ≤ ts) := by rw [← hxy.1, ← hxy.2]; exact hq
      rw [cand_neg hq, cand_neg hq']; simp
  | case5 x xs y ys hc ih =>  -- the right head is smaller
    have hyx : entCmp y x = .lt := (entCmp_gt_iff_lt _ _).mp hc
    rw [newestLE_cons, ih ha, newestLE_cons y ys]
    by_cases hq : y.key = k ∧ y.ver ≤ ts
    · rw [cand_pos hq.1 hq.2]
      cases hA : newestLE (x :: xs) k ts with
      | none => simp
      | some a =>
        obtain ⟨hm, hk, _⟩ := newestLE_some_mem hA
        have hya : entCmp y a = .lt := by
          rcases List.mem_cons.mp hm with rfl | hm
          · exact hyx
          · exact entCmp_lt_trans hyx (ha.head_lt a hm)
        have hv := (entCmp_lt_same_key (hq.1.trans hk.symm)).mp hya
        rw [← pick_assoc, ← pick_assoc, pick_comm_of_ver_ne (by omega)]
    · rw [cand_neg hq]; simp

theorem newestLE_mergeAll {srcs : List (List Ent)} (h : ∀ s ∈ srcs, SortedEnts s) (k : Bytes) (ts : Nat) :
    newestLE (mergeAll srcs) k ts = newestLE srcs.flatten k ts := by
  induction srcs with
  | nil => rfl
  | cons s rest ih =>
    rw [mergeAll_cons, newestLE_merge2 (h s List.mem_cons_self), List.flatten_cons, newestLE_append,
      ih fun s' hs' => h s' (List.mem_cons_of_mem _ hs')]

/-- the new entry comes first, so it wins the tie against the entry it replaces; no sortedness
    needed -/
theorem newestLE_memPut (e : Ent) (m : List Ent) (k : Bytes) (ts : Nat) :
    newestLE (memPut e m) k ts = newestLE (e :: m) k ts := by
  rw [memPut_eq_merge2, newestLE_merge2 (sortedEnts_singleton e), newestLE_cons e m, newestLE_cons e [],
    newestLE_nil, pick_none_right]

theorem newestLE_foldl_memPut (m ws : List Ent) (k : Bytes) (ts : Nat) :
    newestLE (ws.foldl (fun m e => memPut e m) m) k ts = newestLE (ws.reverse ++ m) k ts := by
  induction ws generalizing m with
  | nil => rfl
  | cons w ws ih =>
    rw [List.foldl_cons, ih, newestLE_append, newestLE_memPut, List.reverse_cons, List.append_assoc, newestLE_append]
    rfl

theorem seekGE_eq_find? (k : Bytes) (ts : Nat) (es : List Ent) :
    seekGE k ts es = es.find? (fun x => kvCmp x.key x.ver k ts != .lt) := by
  induction es with
  | nil => rfl
  | cons x xs ih =>
    simp only [seekGE, List.find?_cons, ih]
    cases kvCmp x.key x.ver k ts <;> rfl

theorem srcGet_cons (x : Ent) (xs : List Ent) (k : Bytes) (ts : Nat) :
    srcGet (x :: xs) k ts =
      if kvCmp x.key x.ver k ts = .lt then srcGet xs k ts
      else if x.key = k then some x else none := by
  unfold srcGet
  rw [seekGE]
  by_cases h : kvCmp x.key x.ver k ts = .lt
  · rw [if_pos (beq_iff_eq.mpr h), if_pos h]
  · rw [if_neg (mt beq_iff_eq.mp h), if_neg h]
    simp only [beq_iff_eq]

theorem srcGet_memPut_newer (e : Ent) (m : List Ent) (k : Bytes) (ts : Nat) (h : ts < e.ver) :
    srcGet (memPut e m) k ts = srcGet m k ts := by
  -- an entry of key `k` with a version above `ts` lies before `(k, ts)`: the seek never stops at it
  have hne : ∀ x : Ent, ts < x.ver → kvCmp x.key x.ver k ts ≠ .lt → x.key ≠ k :=
    fun x hx hnl hk => hnl ((kvCmp_lt_iff ..).mpr (.inr ⟨hk, hx⟩))
  fun_induction memPut e m with
  | case1 =>  -- empty memtable
    rw [srcGet_cons]
    split
    · rfl
    · rename_i hnl
      rw [if_neg (hne e h hnl)]
      rfl
  | case2 x xs hlt =>  -- `e` goes in front of `x`: if the seek stops at `e` it used to stop at `x`, of another key than `k` too
    rw [srcGet_cons (x := e)]
    split
    · rfl
    · rename_i hnl
      have hnx : x.key ≠ k := by
        intro hk
        apply hnl
        rw [kvCmp_lt_iff]
        rcases (entCmp_lt_iff e x).mp hlt with h1 | ⟨h1, -⟩
        · exact .inl (hk ▸ h1)
        · exact .inr ⟨h1.trans hk, h⟩
      rw [srcGet_cons (x := x), if_neg (fun hs => hnl (kvCmp_lt_trans hlt hs)), if_neg hnx,
        if_neg (hne e h hnl)]
  | case3 x xs heq =>  -- `e` replaces `x`, of the same internal key
    obtain ⟨hk', hv'⟩ := (entCmp_eq_iff e x).mp heq
    rw [srcGet_cons (x := e), srcGet_cons (x := x), hk', hv']
    split
    · rfl
    · rename_i hnl
      have hnx := hne x (by omega) hnl
      rw [if_neg hnx, if_neg hnx]
  | case4 x xs hgt ih => rw [srcGet_cons (x := x), srcGet_cons (x := x), ih]  -- `e` goes somewhere after `x`

end Badger
