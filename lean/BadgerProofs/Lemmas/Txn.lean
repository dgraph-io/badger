import BadgerModel.Mvcc
import BadgerModel.Spec.Mvcc
import BadgerProofs.Lemmas.Bits
import BadgerProofs.Lemmas.Lists
import BadgerProofs.Lemmas.Order
import BadgerProofs.Lemmas.Sorted
import BadgerProofs.Lemmas.TxnSpec
/-!
# The transaction layer of the `Db` model (`Mvcc.lean`)

Each operation of a transaction (`begin`, `modify`, `txnGet`, `commit`, `discardTxn`) is a decision list
followed by one record update; the lemmas state it in that form (`…_eq`, `…_cases`) and say what an
operation leaves alone (`SameStore`: tree, options, clock, discard timestamp, timestamp counter). The
oracle's part of `commit` and `discardTxn` (`doneRead`, `cleanup`, `discardAtOrBelow`) is read off by mode
(`doneRead_managed/_done/_open`, `discardAtOrBelow_normal/_managed`, `cleanup_keeps`). The write path of
`commit` is `commitApply`, its effect on the store `CommitEffect`.

The operation alphabet `Op`, `Db.step`, `Db.run` and the specification of the scan (`specScanFwd`,
`specScanRev`, `specAllVersions`, `NoHidden`, `SortedDesc`) are defined in `Lemmas/TxnSpec.lean`. Here: no
step changes the mode flags or lowers the timestamp counter (`ModeKept`: `step_inv`, `run_inv`).

The user-level scan `parseItems`: what one round of the loop can do, hence what the loop can yield for
any input; and, on a sorted stream without hidden internal keys, the equality of the loop with its
specification, which C05 states for `Db.iterate`.
-/
namespace Badger

theorem findTxn_id {d : Db} {id : Nat} {t : TxnM} (h : d.findTxn id = some t) : t.id = id := by
  have := List.find?_some h
  simpa using this

@[simp] theorem setTxn_lsm (d : Db) (t : TxnM) : (d.setTxn t).lsm = d.lsm := rfl
@[simp] theorem setTxn_opts (d : Db) (t : TxnM) : (d.setTxn t).opts = d.opts := rfl
@[simp] theorem setTxn_nextTs (d : Db) (t : TxnM) : (d.setTxn t).nextTs = d.nextTs := rfl
@[simp] theorem setTxn_committed (d : Db) (t : TxnM) : (d.setTxn t).committed = d.committed := rfl
@[simp] theorem setTxn_readMark (d : Db) (t : TxnM) : (d.setTxn t).readMark = d.readMark := rfl
@[simp] theorem setTxn_discardTs (d : Db) (t : TxnM) : (d.setTxn t).discardTs = d.discardTs := rfl
@[simp] theorem setTxn_lastCleanupTs (d : Db) (t : TxnM) :
    (d.setTxn t).lastCleanupTs = d.lastCleanupTs := rfl
@[simp] theorem setTxn_now (d : Db) (t : TxnM) : (d.setTxn t).now = d.now := rfl

/-- `d'` is `d` up to the transaction table and the oracle's bookkeeping (`readMark`, `committed`,
    `lastCleanupTs`): the tree, the options, the clock, the discard timestamp and the timestamp counter are `d`'s.
    What `begin`, `modify`, `txnGet`, `discardTxn`, `doneRead`, `cleanup` do to a database. -/
structure SameStore (d' d : Db) : Prop where
  lsm : d'.lsm = d.lsm
  opts : d'.opts = d.opts
  now : d'.now = d.now
  discardTs : d'.discardTs = d.discardTs
  nextTs : d'.nextTs = d.nextTs

theorem SameStore.rfl {d : Db} : SameStore d d := ⟨_root_.rfl, _root_.rfl, _root_.rfl, _root_.rfl, _root_.rfl⟩

theorem SameStore.trans {a b c : Db} (h : SameStore a b) (g : SameStore b c) : SameStore a c :=
  ⟨h.lsm.trans g.lsm, h.opts.trans g.opts, h.now.trans g.now, h.discardTs.trans g.discardTs, h.nextTs.trans g.nextTs⟩

theorem setTxn_same (d : Db) (t : TxnM) : SameStore (d.setTxn t) d := ⟨rfl, rfl, rfl, rfl, rfl⟩

@[simp] theorem findTxn_setTxn_self (d : Db) (t : TxnM) : (d.setTxn t).findTxn t.id = some t := by
  simp [Db.setTxn, Db.findTxn]

theorem findTxn_setTxn_ne (d : Db) (t : TxnM) (id' : Nat) (h : id' ≠ t.id) :
    (d.setTxn t).findTxn id' = d.findTxn id' := by
  simp only [Db.setTxn, Db.findTxn, List.find?_cons, beq_eq_false_iff_ne.mpr (Ne.symm h)]
  exact find?_filter_key_ne TxnM.id _ h

theorem setTxn_setTxn (d : Db) (t1 t2 : TxnM) (h : t1.id = t2.id) : (d.setTxn t1).setTxn t2 = d.setTxn t2 := by
  simp [Db.setTxn, h, List.filter_filter]

theorem begin_normal {d : Db} (hmd : d.opts.managed = false) (id : Nat) (upd : Bool) (mts : Nat) :
    d.begin id upd mts = (({ d with readMark := d.readMark.begin (d.nextTs - 1) } : Db).setTxn
      { id, readTs := d.nextTs - 1, update := upd, size := txnKeyLen + 30 }, d.nextTs - 1) := by
  simp [Db.begin, hmd]

theorem begin_managed {d : Db} (hmd : d.opts.managed = true) (id : Nat) (upd : Bool) (mts : Nat) :
    d.begin id upd mts = (d.setTxn { id, readTs := mts, update := upd, size := txnKeyLen + 30 }, mts) := by
  simp [Db.begin, hmd]

theorem begin_same (d : Db) (id : Nat) (u : Bool) (m : Nat) : SameStore (d.begin id u m).1 d := by
  cases hm : d.opts.managed
  · rw [begin_normal hm]; exact ⟨rfl, rfl, rfl, rfl, rfl⟩
  · rw [begin_managed hm]; exact ⟨rfl, rfl, rfl, rfl, rfl⟩

theorem begin_lsm (d : Db) (id : Nat) (u : Bool) (m : Nat) : (d.begin id u m).1.lsm = d.lsm := by
  rw [(begin_same d id u m).lsm]

/-- the transaction record after an accepted `modify` -/
def modTxn (d : Db) (t : TxnM) (e : Ent) : TxnM :=
  { t with
    count := t.count + 1
    size := t.size + estimateSize d.opts.threshold e + 10
    dups := (match t.pending.find? (·.key == e.key) with
      | some o => if o.ver != e.ver then t.dups ++ [o] else t.dups
      | none => t.dups)
    pending := (t.pending.filter (·.key != e.key)) ++ [e]
    writes := if d.opts.detectConflicts then e.key :: t.writes else t.writes }

/-- the first validation failure of `modify` on an existing transaction, `none` if accepted. -/
def modCheck (d : Db) (t : TxnM) (e : Ent) : Option ModErr :=
  if !t.update then some .readonly
  else if t.discarded then some .discarded
  else if e.key.isEmpty then some .emptykey
  else if badgerPrefix.isPrefixOf e.key then some .invalidkey
  else if e.key.length > 65000 then some .keytoobig
  else if e.val.length > d.opts.vlogFileSize then some .valtoobig
  else if d.opts.inMemory && e.val.length > d.opts.threshold then some .valtoobig
  else if t.count + 1 ≥ d.opts.maxBatchCount ||
      t.size + estimateSize d.opts.threshold e + 10 ≥ d.opts.maxBatchSize then some .txntoobig
  else none

theorem modify_none {d : Db} {id : Nat} (e : Ent) (h : d.findTxn id = none) :
    d.modify id e = (d, some .discarded) := by
  simp [Db.modify, h]

theorem modify_eq {d : Db} {id : Nat} {t : TxnM} (e : Ent) (h : d.findTxn id = some t) :
    d.modify id e =
      (match modCheck d t e with
       | some err => (d, some err)
       | none => (d.setTxn (modTxn d t e), none)) := by
  unfold Db.modify modCheck
  -- push the verdict `match` through the chain of `if`s instead of splitting both sides
  simp only [h, apply_ite (fun o : Option ModErr =>
    match o with | some err => (d, some err) | none => (d.setTxn (modTxn d t e), none))]
  rfl

theorem modify_verdict {d : Db} {id : Nat} {t : TxnM} (e : Ent) (h : d.findTxn id = some t) :
    (d.modify id e).2 = modCheck d t e := by
  rw [modify_eq e h]; cases modCheck d t e <;> rfl

theorem modify_cases (d : Db) (id : Nat) (e : Ent) :
    (d.modify id e).1 = d ∨ ∃ t, d.findTxn id = some t ∧ (d.modify id e).1 = d.setTxn (modTxn d t e) := by
  cases h : d.findTxn id with
  | none => exact .inl (by rw [modify_none e h])
  | some t =>
    rw [modify_eq e h]
    cases modCheck d t e with
    | some err => exact .inl rfl
    | none => exact .inr ⟨t, rfl, rfl⟩

theorem modify_refused {d : Db} {id : Nat} (e : Ent) {err : ModErr}
    (h : (d.modify id e).2 = some err) : (d.modify id e).1 = d := by
  cases hf : d.findTxn id with
  | none => rw [modify_none e hf]
  | some t =>
    rw [modify_eq e hf] at h ⊢
    cases hc : modCheck d t e with
    | some err' => rfl
    | none => rw [hc] at h; cases h

theorem modify_accepted {d : Db} {id : Nat} {t : TxnM} (e : Ent) (hf : d.findTxn id = some t)
    (h : (d.modify id e).2 = none) :
    (d.modify id e).1 = d.setTxn (modTxn d t e) ∧
    (d.setTxn (modTxn d t e)).findTxn id = some (modTxn d t e) := by
  have hfind := findTxn_setTxn_self d (modTxn d t e)
  rw [show (modTxn d t e).id = id from findTxn_id (t := t) hf] at hfind
  rw [modify_eq e hf] at h ⊢
  cases hc : modCheck d t e with
  | some err => rw [hc] at h; cases h
  | none => exact ⟨rfl, hfind⟩

theorem modify_same (d : Db) (id : Nat) (e : Ent) : SameStore (d.modify id e).1 d := by
  rcases modify_cases d id e with h | ⟨t, -, h⟩ <;> rw [h]
  · exact .rfl
  · exact setTxn_same ..

/-- the pending write `Txn.Get` consults first -/
def pendingHit (t : TxnM) (k : Bytes) : Option Ent :=
  if t.update then t.pending.find? (·.key == k) else none

/-- answer of `Txn.Get` as a function of the transaction record, the clock and `DB.get` -/
def getAnswer (t : TxnM) (k : Bytes) (now : Nat) (snap : Option Ent) : GetRes :=
  if k.isEmpty then .err "err:emptykey"
  else if t.discarded then .err "err:discarded"
  else match pendingHit t k with
    | some e => if deletedOrExpired e.emeta e.exp now then .notfound else .found e t.readTs
    | none => match snap with
      | none => .notfound
      | some e => if deletedOrExpired e.emeta e.exp now then .notfound else .found e e.ver

theorem txnGet_eq {d : Db} {id : Nat} {t : TxnM} (k : Bytes) (h : d.findTxn id = some t) :
    d.txnGet id k =
      (if k.isEmpty || t.discarded || (pendingHit t k).isSome || !t.update then d
       else d.setTxn { t with reads := k :: t.reads },
       getAnswer t k d.now (d.lsm.get k t.readTs)) := by
  unfold Db.txnGet getAnswer
  rw [h]
  dsimp -zeta only
  -- both sides are the same decision list: empty key, discarded, pending write, snapshot
  by_cases hk : k.isEmpty = true
  · simp [hk]
  by_cases hd : t.discarded = true
  · simp [hk, hd]
  simp only [hk, hd, Bool.false_eq_true, if_false, Bool.false_or]
  rw [show (if t.update = true then t.pending.find? (·.key == k) else none) = pendingHit t k from rfl]
  cases pendingHit t k with
  | some e => by_cases hx : deletedOrExpired e.emeta e.exp d.now = true <;> simp [hx]
  | none =>
    -- the snapshot answers; only an update transaction records the read (which changes neither tree nor clock)
    cases t.update
    · simp only [Option.isSome_none, Bool.not_false, Bool.or_true, if_true, Bool.false_eq_true, if_false]
      cases d.lsm.get k t.readTs with
      | none => rfl
      | some e => by_cases hx : deletedOrExpired e.emeta e.exp d.now = true <;> simp [hx]
    · simp only [Option.isSome_none, Bool.not_true, Bool.or_false, Bool.false_eq_true, if_false, if_true,
        setTxn_lsm, setTxn_now]
      cases d.lsm.get k t.readTs with
      | none => rfl
      | some e => by_cases hx : deletedOrExpired e.emeta e.exp d.now = true <;> simp [hx]

theorem pendingHit_eq_none {t : TxnM} {k : Bytes}
    (hp : t.update = true → t.pending.find? (·.key == k) = none) : pendingHit t k = none := by
  unfold pendingHit
  split
  · exact hp ‹_›
  · rfl

theorem visible_some_iff {now : Nat} {g : Option Ent} {x : Ent} :
    visible now g = some x ↔ g = some x ∧ deletedOrExpired x.emeta x.exp now = false := by
  cases g with
  | none => exact ⟨nofun, fun h => nomatch h.1⟩
  | some e =>
    simp only [visible]
    split
    · rename_i hd
      exact ⟨nofun, fun h => by rw [Option.some.inj h.1, h.2] at hd; cases hd⟩
    · rename_i hd
      exact ⟨fun h => ⟨h, by rw [← Option.some.inj h]; simpa using hd⟩, fun h => h.1⟩

/-- `Txn.Get` on a live transaction: the pending write, else the snapshot, through the one visibility test -/
theorem getAnswer_visible {t : TxnM} {k : Bytes} (now : Nat) (snap : Option Ent) (hk : k ≠ [])
    (hd : t.discarded = false) :
    getAnswer t k now snap =
      match visible now (match pendingHit t k with | some e => some e | none => snap) with
      | none => GetRes.notfound
      | some e => (match pendingHit t k with | some _ => GetRes.found e t.readTs | none => GetRes.found e e.ver) := by
  simp only [getAnswer, List.isEmpty_eq_false_iff.mpr hk, hd, Bool.false_eq_true, if_false]
  cases pendingHit t k with
  | some e => simp only [visible]; split <;> rfl
  | none =>
    cases snap with
    | none => rfl
    | some e => simp only [visible]; split <;> rfl

theorem txnGet_none {d : Db} {id : Nat} (k : Bytes) (h : d.findTxn id = none) :
    d.txnGet id k = (d, .err "err:discarded") := by
  simp only [Db.txnGet, h]

theorem reads_congr {d d' : Db} {id : Nat} (hf : d'.findTxn id = d.findTxn id) (hl : d'.lsm = d.lsm)
    (hn : d'.now = d.now) :
    (∀ k, (d'.txnGet id k).2 = (d.txnGet id k).2) ∧ (∀ o seek, d'.iterate id o seek = d.iterate id o seek) := by
  refine ⟨fun k => ?_, fun o seek => by simp only [Db.iterate, hf, hl, hn]⟩
  cases h : d.findTxn id with
  | none => rw [txnGet_none k h, txnGet_none k (hf.trans h)]
  | some t => rw [txnGet_eq k h, txnGet_eq k (hf.trans h), hl, hn]

theorem txnGet_pending {d : Db} {id : Nat} {t : TxnM} {k : Bytes} {e : Ent}
    (ht : d.findTxn id = some t) (hk : k ≠ []) (hu : t.update = true) (hd : t.discarded = false)
    (hp : t.pending.find? (·.key == k) = some e) :
    d.txnGet id k =
      (d, if deletedOrExpired e.emeta e.exp d.now then GetRes.notfound else .found e t.readTs) := by
  have hp' : pendingHit t k = some e := by rw [pendingHit, if_pos hu, hp]
  simp only [txnGet_eq k ht, getAnswer, hp', List.isEmpty_eq_false_iff.mpr hk, hd, Option.isSome_some, Bool.or_true, Bool.true_or, if_true,
    Bool.false_eq_true, if_false]

theorem txnGet_fst (d : Db) (id : Nat) (k : Bytes) :
    (d.txnGet id k).1 = d ∨
      ∃ t, d.findTxn id = some t ∧ (d.txnGet id k).1 = d.setTxn { t with reads := k :: t.reads } := by
  cases hf : d.findTxn id with
  | none => exact .inl (by rw [txnGet_none k hf])
  | some t =>
    rw [txnGet_eq k hf]
    dsimp only
    split
    · exact .inl rfl
    · exact .inr ⟨t, rfl, rfl⟩

theorem txnGet_same (d : Db) (id : Nat) (k : Bytes) : SameStore (d.txnGet id k).1 d := by
  rcases txnGet_fst d id k with h | ⟨t, -, h⟩ <;> rw [h]
  · exact .rfl
  · exact setTxn_same ..

theorem txnGet_lsm (d : Db) (id : Nat) (k : Bytes) : (d.txnGet id k).1.lsm = d.lsm := by
  rw [(txnGet_same d id k).lsm]

theorem doneRead_eq (d : Db) (t : TxnM) :
    d.doneRead t =
      ({ d with readMark := if t.doneRead || d.opts.managed then d.readMark else d.readMark.done t.readTs },
       { t with doneRead := true }) := by
  unfold Db.doneRead; split <;> rfl

theorem doneRead_same (d : Db) (t : TxnM) : SameStore (d.doneRead t).1 d := by
  rw [doneRead_eq]; exact ⟨rfl, rfl, rfl, rfl, rfl⟩

@[simp] theorem doneRead_committed (d : Db) (t : TxnM) : (d.doneRead t).1.committed = d.committed := by
  rw [doneRead_eq]
@[simp] theorem doneRead_txns (d : Db) (t : TxnM) : (d.doneRead t).1.txns = d.txns := by rw [doneRead_eq]
@[simp] theorem doneRead_lastCleanupTs (d : Db) (t : TxnM) :
    (d.doneRead t).1.lastCleanupTs = d.lastCleanupTs := by rw [doneRead_eq]
theorem doneRead_txn (d : Db) (t : TxnM) : (d.doneRead t).2 = { t with doneRead := true } := by
  rw [doneRead_eq]
theorem doneRead_managed (d : Db) (t : TxnM) (h : d.opts.managed = true) :
    (d.doneRead t).1 = d := by
  rw [doneRead_eq, h, Bool.or_true, if_pos rfl]

theorem doneRead_done {d : Db} {t : TxnM} (hdr : t.doneRead = true) : (d.doneRead t).1 = d := by
  rw [doneRead_eq, hdr, Bool.true_or, if_pos rfl]

theorem doneRead_open {d : Db} (hmd : d.opts.managed = false) {t : TxnM} (hdr : t.doneRead = false) :
    (d.doneRead t).1 = { d with readMark := d.readMark.done t.readTs } := by
  rw [doneRead_eq, hdr, hmd]; rfl

theorem discardAtOrBelow_normal {d : Db} (hmd : d.opts.managed = false) :
    d.discardAtOrBelow = d.readMark.doneUntil := by
  simp [Db.discardAtOrBelow, hmd]

theorem discardAtOrBelow_managed {d : Db} (hmd : d.opts.managed = true) : d.discardAtOrBelow = d.discardTs := by
  simp [Db.discardAtOrBelow, hmd]

theorem cleanup_frame (d : Db) : ∃ c l, d.cleanup = { d with committed := c, lastCleanupTs := l } := by
  unfold Db.cleanup
  split
  · exact ⟨_, _, rfl⟩
  · dsimp only
    split <;> exact ⟨_, _, rfl⟩

theorem cleanup_same (d : Db) : SameStore d.cleanup d := by
  obtain ⟨_, _, h⟩ := cleanup_frame d; rw [h]; exact ⟨rfl, rfl, rfl, rfl, rfl⟩

@[simp] theorem cleanup_txns (d : Db) : d.cleanup.txns = d.txns := by
  obtain ⟨_, _, h⟩ := cleanup_frame d; rw [h]
@[simp] theorem cleanup_readMark (d : Db) : d.cleanup.readMark = d.readMark := by
  obtain ⟨_, _, h⟩ := cleanup_frame d; rw [h]

/-- `cleanupCommittedTransactions` forgets only commits at or below the watermark -/
theorem cleanup_keeps (d : Db) (p : Nat × List Bytes) (hp : p ∈ d.committed) (h : d.discardAtOrBelow < p.1) :
    p ∈ d.cleanup.committed := by
  unfold Db.cleanup
  split; · exact hp
  dsimp only
  split; · exact hp
  exact List.mem_filter.mpr ⟨hp, by simpa using h⟩

theorem discardTxn_none {d : Db} {id : Nat} (hf : d.findTxn id = none) : d.discardTxn id = d := by
  unfold Db.discardTxn
  rw [hf]

theorem discardTxn_eq {d : Db} {id : Nat} {t : TxnM} (hf : d.findTxn id = some t) :
    d.discardTxn id =
      if t.discarded then d else (d.doneRead t).1.setTxn { t with doneRead := true, discarded := true } := by
  unfold Db.discardTxn
  rw [hf]
  dsimp only
  split
  · rfl
  · rw [doneRead_txn]

theorem discardTxn_setTxn_done (d : Db) (t : TxnM) (hdone : t.doneRead = true) (hdisc : t.discarded = false) :
    (d.setTxn t).discardTxn t.id = d.setTxn { t with doneRead := true, discarded := true } := by
  rw [discardTxn_eq (findTxn_setTxn_self d t), if_neg (by simp [hdisc]), doneRead_eq]
  simp only [hdone, Bool.true_or, if_true]
  exact setTxn_setTxn d t _ rfl

theorem discardTxn_cases (d : Db) (id : Nat) :
    d.discardTxn id = d ∨ ∃ t, d.findTxn id = some t ∧ t.discarded = false ∧
      d.discardTxn id = (d.doneRead t).1.setTxn { t with doneRead := true, discarded := true } := by
  cases hf : d.findTxn id with
  | none => exact .inl (discardTxn_none hf)
  | some t =>
    rw [discardTxn_eq hf]
    cases hd : t.discarded
    · exact .inr ⟨t, rfl, hd, if_neg (by simp)⟩
    · exact .inl (if_pos rfl)

theorem discardTxn_same (d : Db) (id : Nat) : SameStore (d.discardTxn id) d := by
  rcases discardTxn_cases d id with h | ⟨t, -, -, h⟩ <;> rw [h]
  · exact .rfl
  · exact (setTxn_same ..).trans (doneRead_same d t)

@[simp] theorem discardTxn_committed (d : Db) (id : Nat) :
    (d.discardTxn id).committed = d.committed := by
  rcases discardTxn_cases d id with h | ⟨t, -, -, h⟩ <;> rw [h]
  exact doneRead_committed d t

/-- the commit timestamp `commitAndSend` obtains -/
def commitTsOf (d : Db) (mts : Nat) : Nat := if d.opts.managed then mts else d.nextTs

/-- `keepTogether` of `commitAndSend`: no write of the transaction, pending or duplicate, carries its own version -/
def keepTogetherOf (t : TxnM) : Bool := (t.pending ++ t.dups).all (·.ver == 0)

/-- `commitPrecheck` looks at `pendingWrites` only -/
def keepPreOf (t : TxnM) : Bool := t.pending.all (·.ver == 0)

/-- what `commitAndSend` + `writeToLSM` make of one entry of the transaction -/
def finEnt (d : Db) (keep : Bool) (cts : Nat) (e : Ent) : Ent :=
  let e := if e.ver == 0 then { e with ver := cts } else e
  let e := if keep then { e with emeta := setBit e.emeta bitTxn } else e
  d.lsmForm e

/-- the entries a commit writes, in write order: `duplicateWrites` first, then `pendingWrites`
    (the order of `commitAndSend`, txn.go:583-588; finding F8 was the opposite order) -/
def commitEntries (d : Db) (t : TxnM) (cts : Nat) : List Ent :=
  (t.dups ++ t.pending).map (finEnt d (keepTogetherOf t) cts)

theorem mem_commitEntries {d : Db} {t : TxnM} {cts : Nat} {x : Ent} :
    x ∈ commitEntries d t cts ↔ ∃ e ∈ t.pending ++ t.dups, x = finEnt d (keepTogetherOf t) cts e := by
  simp only [commitEntries, List.mem_map, List.mem_append, Or.comm, eq_comm]

theorem Db.hasConflict_of {d : Db} {t : TxnM} {p : Nat × List Bytes} {k : Bytes} (hp : p ∈ d.committed)
    (hts : t.readTs < p.1) (hk : k ∈ t.reads) (hkp : k ∈ p.2) : d.hasConflict t = true := by
  unfold Db.hasConflict
  rw [if_neg (by rw [List.isEmpty_iff]; exact List.ne_nil_of_mem hk)]
  refine List.any_eq_true.mpr ⟨p, hp, ?_⟩
  simp only [Bool.and_eq_true, decide_eq_true_eq, List.any_eq_true, List.contains_iff_mem]
  exact ⟨hts, k, hk, hkp⟩

/-- the guard under which `commit` reaches the write path -/
def commitGoes (d : Db) (t : TxnM) (mts : Nat) : Bool :=
  !t.pending.isEmpty && !t.discarded &&
    !(keepPreOf t && d.opts.managed && mts == 0) &&
    !(d.opts.detectConflicts && d.hasConflict t)

theorem commitGoes_true {d : Db} {mts : Nat} {t : TxnM} (hg : commitGoes d t mts = true) :
    t.discarded = false ∧ (d.opts.detectConflicts = true → d.hasConflict t = false) := by
  simp only [commitGoes, Bool.and_eq_true, Bool.not_eq_true', Bool.and_eq_false_imp] at hg
  exact ⟨hg.1.1.2, hg.2⟩

theorem commit_none {d : Db} {id : Nat} (mts : Nat) (h : d.findTxn id = none) :
    d.commit id mts = (d, .err "err:discarded") := by
  simp [Db.commit, h]

/-- the non-LSM part of the write path of `commit` -/
def commitStage (d : Db) (t : TxnM) (mts : Nat) : Db :=
  let d1 := (d.doneRead t).1
  let t1 := (d.doneRead t).2
  let d2 := if d1.opts.managed then d1 else d1.cleanup
  let cts := if d2.opts.managed then mts else d2.nextTs
  let d3 := if d2.opts.managed then d2 else { d2 with nextTs := d2.nextTs + 1 }
  if d3.opts.detectConflicts then { d3 with committed := (cts, t1.writes) :: d3.committed } else d3

/-- the state in which `commit` takes its timestamp: read mark released, old commits cleaned up -/
def commitPre (d : Db) (t : TxnM) : Db :=
  if (d.doneRead t).1.opts.managed then (d.doneRead t).1 else (d.doneRead t).1.cleanup

theorem commitPre_same (d : Db) (t : TxnM) : SameStore (commitPre d t) d := by
  unfold commitPre
  split
  · exact doneRead_same d t
  · exact (cleanup_same _).trans (doneRead_same d t)

theorem commitPre_normal {d : Db} (hmd : d.opts.managed = false) (t : TxnM) :
    commitPre d t = (d.doneRead t).1.cleanup := by
  rw [commitPre, (doneRead_same d t).opts, hmd]; rfl

theorem commitStage_eq (d : Db) (t : TxnM) (mts : Nat) :
    commitStage d t mts =
      { commitPre d t with
        nextTs := if d.opts.managed then d.nextTs else d.nextTs + 1
        committed := if d.opts.detectConflicts then (commitTsOf d mts, t.writes) :: (commitPre d t).committed
          else (commitPre d t).committed } := by
  have h2 := commitPre_same d t
  unfold commitStage commitTsOf
  dsimp only
  rw [doneRead_txn, show (if (d.doneRead t).1.opts.managed then (d.doneRead t).1 else (d.doneRead t).1.cleanup) =
    commitPre d t from rfl]
  generalize commitPre d t = d2 at h2 ⊢
  rw [← h2.opts, ← h2.nextTs]
  cases d2.opts.managed <;> cases hc : d2.opts.detectConflicts <;> simp [hc]

/-- the write path of `commit` in three steps: the oracle side, the entries put into the memtable, the
    transaction closed -/
def commitApply (d : Db) (t : TxnM) (id mts : Nat) : Db × CommitRes :=
  let s := commitStage d t mts
  let t1 := (d.doneRead t).2
  ((({ s with lsm := { s.lsm with mem := ((t1.dups ++ t1.pending).map
      (finEnt s (keepTogetherOf t) (commitTsOf d mts))).foldl (fun m e => memPut e m) s.lsm.mem } } : Db).setTxn
        t1).discardTxn id,
   .ok (commitTsOf d mts))

theorem commit_eq {d : Db} {id : Nat} {t : TxnM} (mts : Nat) (h : d.findTxn id = some t) :
    d.commit id mts =
      if t.pending.isEmpty then (d.discardTxn id, .noop)
      else if t.discarded then (d, .err "err:discarded")
      else if keepPreOf t && d.opts.managed && mts == 0 then (d, .err "err:zerocommitts")
      else if d.opts.detectConflicts && d.hasConflict t then (d.discardTxn id, .conflict)
      else commitApply d t id mts := by
  -- the timestamp is read off the intermediate state, whose counter and options are `d`'s
  have hcts : commitTsOf (commitPre d t) mts = commitTsOf d mts := by
    rw [commitTsOf, (commitPre_same d t).opts, (commitPre_same d t).nextTs, commitTsOf]
  unfold Db.commit commitApply commitStage
  rw [h, ← hcts]
  unfold commitPre
  dsimp -zeta only
  generalize d.doneRead t = p
  obtain ⟨a, b⟩ := p
  rfl

theorem finEnt_congr {d1 d2 : Db} (h : d1.opts = d2.opts) (keep : Bool) (cts : Nat) :
    finEnt d1 keep cts = finEnt d2 keep cts := by
  funext e; unfold finEnt Db.lsmForm; rw [h]

theorem lsmForm_eq (d : Db) (e : Ent) :
    d.lsmForm e = { e with
      emeta := if e.val.length < d.opts.threshold || d.opts.inMemory then clearBit e.emeta bitValuePointer
        else setBit e.emeta bitValuePointer } := by
  unfold Db.lsmForm; split <;> rfl

theorem lsmForm_key (d : Db) (e : Ent) : (d.lsmForm e).key = e.key := by rw [lsmForm_eq]
theorem lsmForm_ver (d : Db) (e : Ent) : (d.lsmForm e).ver = e.ver := by rw [lsmForm_eq]
theorem lsmForm_umeta (d : Db) (e : Ent) : (d.lsmForm e).umeta = e.umeta := by rw [lsmForm_eq]
theorem lsmForm_exp (d : Db) (e : Ent) : (d.lsmForm e).exp = e.exp := by rw [lsmForm_eq]
theorem lsmForm_val (d : Db) (e : Ent) : (d.lsmForm e).val = e.val := by rw [lsmForm_eq]

/-- `writeToLSM` touches the value-pointer bit only -/
theorem lsmForm_testBit (d : Db) (e : Ent) {j : Nat} (h : j ≠ 1) :
    (d.lsmForm e).emeta.testBit j = e.emeta.testBit j := by
  rw [lsmForm_eq, bitValuePointer_eq]
  show (if _ then _ else _ : Nat).testBit j = _
  split
  · rw [testBit_clearBit, bne_iff_ne.mpr h, Bool.and_true]
  · rw [testBit_setBit, beq_eq_false_iff_ne.mpr h, Bool.or_false]

/-- `writeToLSM` sets the value-pointer bit iff the value goes to the value log -/
theorem lsmForm_testBit_vp (d : Db) (e : Ent) :
    (d.lsmForm e).emeta.testBit 1 = !(decide (e.val.length < d.opts.threshold) || d.opts.inMemory) := by
  rw [lsmForm_eq, bitValuePointer_eq]
  show (if _ then _ else _ : Nat).testBit 1 = _
  cases (decide (e.val.length < d.opts.threshold) || d.opts.inMemory)
  · rw [if_neg Bool.false_ne_true, testBit_setBit, BEq.rfl, Bool.or_true]; rfl
  · rw [if_pos rfl, testBit_clearBit, bne_self_eq_false, Bool.and_false]; rfl

theorem finEnt_eq (d : Db) (keep : Bool) (cts : Nat) (e : Ent) :
    finEnt d keep cts e = d.lsmForm { e with
      ver := if e.ver == 0 then cts else e.ver
      emeta := if keep then setBit e.emeta bitTxn else e.emeta } := by
  unfold finEnt
  cases keep <;> cases e.ver == 0 <;> rfl

theorem finEnt_key (d : Db) (keep : Bool) (cts : Nat) (e : Ent) : (finEnt d keep cts e).key = e.key := by
  rw [finEnt_eq, lsmForm_eq]

theorem finEnt_ver (d : Db) (keep : Bool) (cts : Nat) (e : Ent) :
    (finEnt d keep cts e).ver = if e.ver = 0 then cts else e.ver := by
  rw [finEnt_eq, lsmForm_eq]; simp only [beq_iff_eq]

/-- what the write path of a commit of `t` leaves -/
structure CommitEffect (d : Db) (t : TxnM) (mts : Nat) (r : Db × CommitRes) : Prop where
  res : r.2 = .ok (commitTsOf d mts)
  lsm : r.1.lsm = { d.lsm with mem := (commitEntries d t (commitTsOf d mts)).foldl (fun m e => memPut e m) d.lsm.mem }
  nextTs : r.1.nextTs = (if d.opts.managed then d.nextTs else d.nextTs + 1)
  opts : r.1.opts = d.opts
  now : r.1.now = d.now
  discardTs : r.1.discardTs = d.discardTs

theorem commitStage_store (d : Db) (t : TxnM) (mts : Nat) :
    SameStore (commitStage d t mts) { d with nextTs := if d.opts.managed then d.nextTs else d.nextTs + 1 } := by
  have h2 := commitPre_same d t
  rw [commitStage_eq]
  exact ⟨h2.lsm, h2.opts, h2.now, h2.discardTs, rfl⟩

theorem commitApply_spec (d : Db) (t : TxnM) (id mts : Nat) : CommitEffect d t mts (commitApply d t id mts) := by
  obtain ⟨hl, ho, hw, hd, hn⟩ := commitStage_store d t mts
  have hf := fun D : Db => (discardTxn_same (D.setTxn (d.doneRead t).2) id).trans (setTxn_same D _)
  unfold commitApply
  refine ⟨rfl, ?_, (hf _).nextTs.trans hn, (hf _).opts.trans ho, (hf _).now.trans hw, (hf _).discardTs.trans hd⟩
  rw [(hf _).lsm, commitEntries, doneRead_txn, finEnt_congr (d2 := d) ho]
  dsimp only
  rw [hl]

theorem commitApply_normal {d : Db} (hmd : d.opts.managed = false) {id : Nat} {t : TxnM}
    (hf : d.findTxn id = some t) (hdisc : t.discarded = false) :
    (commitApply d t id 0).1.readMark = (d.doneRead t).1.readMark ∧
    (commitApply d t id 0).1.txns = (d.setTxn { t with doneRead := true, discarded := true }).txns ∧
    (commitApply d t id 0).1.committed =
      if d.opts.detectConflicts then (d.nextTs, t.writes) :: (d.doneRead t).1.cleanup.committed
      else (d.doneRead t).1.cleanup.committed := by
  obtain rfl := findTxn_id hf
  rw [commitApply, doneRead_txn, discardTxn_setTxn_done _ { t with doneRead := true } rfl hdisc, commitStage_eq,
    commitPre_normal hmd, commitTsOf, hmd]
  exact ⟨cleanup_readMark _, by simp only [Db.setTxn, cleanup_txns, doneRead_txns], rfl⟩

theorem commit_goes_eq {d : Db} {id : Nat} {t : TxnM} (mts : Nat) (h : d.findTxn id = some t)
    (hg : commitGoes d t mts = true) : d.commit id mts = commitApply d t id mts := by
  rw [commit_eq mts h]
  simp only [commitGoes, Bool.and_eq_true, Bool.not_eq_true'] at hg
  obtain ⟨⟨⟨h1, h2⟩, h3⟩, h4⟩ := hg
  rw [if_neg (by simp [h1]), if_neg (by simp [h2]), if_neg (by simp [h3]), if_neg (by simp [h4])]

theorem commit_goes {d : Db} {id : Nat} {t : TxnM} (mts : Nat) (h : d.findTxn id = some t)
    (hg : commitGoes d t mts = true) : CommitEffect d t mts (d.commit id mts) := by
  rw [commit_goes_eq mts h hg]; exact commitApply_spec d t id mts

theorem commit_stops_or_goes (d : Db) (id mts : Nat) :
    (((d.commit id mts).1 = d ∨ (d.commit id mts).1 = d.discardTxn id) ∧ ∀ ts, (d.commit id mts).2 ≠ .ok ts) ∨
    ∃ t, d.findTxn id = some t ∧ commitGoes d t mts = true ∧ d.commit id mts = commitApply d t id mts := by
  cases hf : d.findTxn id with
  | none => rw [commit_none mts hf]; exact .inl ⟨.inl rfl, nofun⟩
  | some t =>
    -- a guard of `commitGoes` that fails is a branch of `commit` that stops
    rw [commit_eq mts hf]
    by_cases h1 : t.pending.isEmpty = true
    · rw [if_pos h1]; exact .inl ⟨.inr rfl, nofun⟩
    by_cases h2 : t.discarded = true
    · rw [if_neg h1, if_pos h2]; exact .inl ⟨.inl rfl, nofun⟩
    by_cases h3 : (keepPreOf t && d.opts.managed && mts == 0) = true
    · rw [if_neg h1, if_neg h2, if_pos h3]; exact .inl ⟨.inl rfl, nofun⟩
    by_cases h4 : (d.opts.detectConflicts && d.hasConflict t) = true
    · rw [if_neg h1, if_neg h2, if_neg h3, if_pos h4]; exact .inl ⟨.inr rfl, nofun⟩
    rw [if_neg h1, if_neg h2, if_neg h3, if_neg h4]
    exact .inr ⟨t, rfl, by simp [commitGoes, h1, h2, h3, h4], rfl⟩

theorem exists_txn_of_commit_ok {d : Db} {id mts ts : Nat} (h : (d.commit id mts).2 = .ok ts) :
    ∃ t, d.findTxn id = some t ∧ commitGoes d t mts = true ∧ ts = commitTsOf d mts := by
  rcases commit_stops_or_goes d id mts with ⟨-, hno⟩ | ⟨t, hf, hg, he⟩
  · exact absurd h (hno ts)
  · rw [he, (commitApply_spec d t id mts).res] at h
    exact ⟨t, hf, hg, (CommitRes.ok.inj h).symm⟩

theorem commit_not_ok {d : Db} {id mts : Nat} (h : ∀ ts, (d.commit id mts).2 ≠ .ok ts) :
    SameStore (d.commit id mts).1 d ∧ (d.commit id mts).1.committed = d.committed := by
  rcases commit_stops_or_goes d id mts with ⟨h' | h', -⟩ | ⟨t, -, -, he⟩
  · rw [h']; exact ⟨.rfl, rfl⟩
  · rw [h']; exact ⟨discardTxn_same d id, discardTxn_committed d id⟩
  · exact absurd (he ▸ (commitApply_spec d t id mts).res) (h _)

theorem commit_ok {d : Db} {id mts cts : Nat} {t : TxnM} (hf : d.findTxn id = some t)
    (hok : (d.commit id mts).2 = .ok cts) :
    commitGoes d t mts = true ∧ cts = commitTsOf d mts ∧
    (d.commit id mts).1.lsm =
      { d.lsm with mem := (commitEntries d t cts).foldl (fun m e => memPut e m) d.lsm.mem } := by
  obtain ⟨t', hf', hg, hcts⟩ := exists_txn_of_commit_ok hok
  rw [hf] at hf'
  injection hf' with hf'
  subst hf'
  exact ⟨hg, hcts, hcts ▸ (commit_goes mts hf hg).lsm⟩

/-- the fold of `newestLE` from an arbitrary start -/
def newestFrom (best : Option Ent) (es : List Ent) (k : Bytes) (ts : Nat) : Option Ent :=
  es.foldl (fun best e => if e.key = k ∧ e.ver ≤ ts then betterOf best e else best) best

theorem newestFrom_eq_pick (b : Option Ent) (l : List Ent) (k : Bytes) (ts : Nat) :
    newestFrom b l k ts = pick b (newestLE l k ts) :=
  newestLE_foldl k ts b l

theorem newestFrom_append (b : Option Ent) (l1 l2 : List Ent) (k : Bytes) (ts : Nat) :
    newestFrom b (l1 ++ l2) k ts = newestFrom (newestFrom b l1 k ts) l2 k ts := by
  simp [newestFrom, List.foldl_append]

theorem newestFrom_some {b : Option Ent} {l : List Ent} {k : Bytes} {ts : Nat} {r : Ent}
    (h : newestFrom b l k ts = some r) :
    (r ∈ l ∧ r.key = k ∧ r.ver ≤ ts) ∨ b = some r := by
  rw [newestFrom_eq_pick] at h
  rcases pick_eq_some h with h | h
  · exact .inr h
  · exact .inl (newestLE_some_mem h)

theorem newestLE_none_iff {l : List Ent} {k : Bytes} {ts : Nat} :
    newestLE l k ts = none ↔ ∀ y ∈ l, ¬ (y.key = k ∧ y.ver ≤ ts) :=
  newestLE_eq_none_iff

/-- the memtable is read first, then the tree below it -/
theorem allEntries_eq (s : Lsm) : s.allEntries = s.mem ++ ({ s with mem := [] } : Lsm).allEntries := by
  simp only [Lsm.allEntries, Lsm.sources, List.cons_append, List.flatten_cons, List.nil_append]

theorem commit_modeKept (d : Db) (id mts : Nat) :
    (d.commit id mts).1.opts = d.opts ∧ d.nextTs ≤ (d.commit id mts).1.nextTs := by
  rcases commit_stops_or_goes d id mts with ⟨h | h, -⟩ | ⟨t, -, -, h⟩ <;> rw [h]
  · exact ⟨rfl, Nat.le_refl _⟩
  · exact ⟨(discardTxn_same d id).opts, Nat.le_of_eq (discardTxn_same d id).nextTs.symm⟩
  · refine ⟨(commitApply_spec d t id mts).opts, ?_⟩
    rw [(commitApply_spec d t id mts).nextTs]; split <;> omega

/-- `DropPrefix` touches the read mark only: one `View` per prefix -/
theorem step_dropPrefix (d : Db) (n : Nat) :
    d.step (.dropPrefix n) =
      { d with readMark := (List.replicate n ()).foldl (fun rm _ =>
          if d.opts.managed then rm else (rm.begin (d.nextTs - 1)).done (d.nextTs - 1)) d.readMark } := by
  simp only [Db.step]
  induction n generalizing d with
  | zero => rfl
  | succ n ih =>
    rw [List.replicate_succ, List.foldl_cons, List.foldl_cons, ih]
    split <;> rfl

/-- what every operation keeps: the mode flags, and the timestamp counter does not go down -/
structure ModeKept (d' d : Db) : Prop where
  managed : d'.opts.managed = d.opts.managed
  inMemory : d'.opts.inMemory = d.opts.inMemory
  nextTs : d.nextTs ≤ d'.nextTs

theorem ModeKept.rfl {d : Db} : ModeKept d d := ⟨_root_.rfl, _root_.rfl, Nat.le_refl _⟩

theorem ModeKept.trans {a b c : Db} (h : ModeKept a b) (g : ModeKept b c) : ModeKept a c :=
  ⟨h.managed.trans g.managed, h.inMemory.trans g.inMemory, Nat.le_trans g.nextTs h.nextTs⟩

theorem SameStore.modeKept {d' d : Db} (h : SameStore d' d) : ModeKept d' d :=
  ⟨congrArg Opts.managed h.opts, congrArg Opts.inMemory h.opts, Nat.le_of_eq h.nextTs.symm⟩

theorem step_inv (d : Db) (op : Op) : ModeKept (d.step op) d := by
  cases op with
  | begin id u m => exact (begin_same ..).modeKept
  | set id e => exact (modify_same ..).modeKept
  | get id k => exact (txnGet_same ..).modeKept
  | commit id m =>
    exact ⟨congrArg Opts.managed (commit_modeKept d id m).1, congrArg Opts.inMemory (commit_modeKept d id m).1, (commit_modeKept d id m).2⟩
  | discard id => exact (discardTxn_same ..).modeKept
  | iter id o seek =>
    simp only [Db.step]
    split
    · split
      · exact (setTxn_same ..).modeKept
      · exact .rfl
    · exact .rfl
  | flush id => exact ⟨rfl, rfl, Nat.le_refl _⟩
  | setNow t => exact ⟨rfl, rfl, Nat.le_refl _⟩
  | setDiscard ts =>
    have c := cleanup_same { d with discardTs := ts }
    exact ⟨congrArg Opts.managed c.opts, congrArg Opts.inMemory c.opts, Nat.le_of_eq c.nextTs.symm⟩
  | compact cd => simp only [Db.step]; split <;> exact ⟨rfl, rfl, Nat.le_refl _⟩
  | dropPrefix n => rw [step_dropPrefix]; exact ⟨rfl, rfl, Nat.le_refl _⟩
  | dropAll => simp only [Db.step]; split <;> exact ⟨rfl, rfl, Nat.le_refl _⟩

theorem run_inv (d : Db) (ops : List Op) : ModeKept (d.run ops) d := by
  induction ops generalizing d with
  | nil => exact .rfl
  | cons op ops ih => exact (ih (d.step op)).trans (step_inv d op)

theorem srcGet_nil (k : Bytes) (ts : Nat) : srcGet [] k ts = none := rfl

theorem parseItems_nil (o : IterOpts) (readTs now fuel : Nat) (lk : Option Bytes) :
    parseItems o readTs now fuel lk [] = [] := by
  cases fuel <;> rfl

def seekFrom (merged : List Ent) (rev : Bool) (readTs : Nat) (key : Bytes) : List Ent :=
  if key.isEmpty then (if rev then merged.reverse else merged)
  else if !rev then merged.dropWhile (fun e => kvCmp e.key e.ver key readTs == .lt)
  else merged.reverse.dropWhile (fun e => kvCmp e.key e.ver key 0 == .gt)

theorem seekFrom_sublist (merged : List Ent) (rev : Bool) (readTs : Nat) (key : Bytes) :
    (seekFrom merged rev readTs key).Sublist (if rev then merged.reverse else merged) := by
  unfold seekFrom
  cases rev
  · split
    · exact List.Sublist.refl _
    · exact List.dropWhile_sublist _
  · split
    · exact List.Sublist.refl _
    · exact List.dropWhile_sublist _

theorem mem_of_mem_seekFrom {merged : List Ent} {rev : Bool} {readTs : Nat} {key : Bytes} {x : Ent}
    (h : x ∈ seekFrom merged rev readTs key) : x ∈ merged := by
  have := (seekFrom_sublist merged rev readTs key).subset h
  cases rev
  · exact this
  · exact List.mem_reverse.mp this

theorem seekList_eq (merged : List Ent) (o : IterOpts) (readTs : Nat) (seek : Option Bytes) :
    seekList merged o readTs seek = seekFrom merged o.reverse readTs (seekKeyOf o seek) := rfl

theorem specScanFwd_sublist (merged : List Ent) (readTs since now : Nat) (pfx sk : Bytes) :
    (specScanFwd merged readTs since now pfx sk).Sublist merged :=
  List.filter_sublist.trans ((List.takeWhile_sublist _).trans (List.dropWhile_sublist _))

theorem specScanRev_sublist (merged : List Ent) (readTs since now : Nat) (sk : Bytes) :
    (specScanRev merged readTs since now sk).Sublist merged.reverse := by
  unfold specScanRev
  refine List.filter_sublist.trans ?_
  split
  · exact List.Sublist.refl _
  · exact List.dropWhile_sublist _

theorem inWindow_iff {readTs since : Nat} {e : Ent} :
    inWindow readTs since e = true ↔ e.ver ≤ readTs ∧ (since = 0 ∨ since < e.ver) := by
  simp only [inWindow, Bool.and_eq_true, Bool.or_eq_true, decide_eq_true_eq, beq_iff_eq]

/-- `parseItem`'s skip test `ver > readTs ∨ (since > 0 ∧ ver ≤ since)` is `¬ inWindow` -/
theorem skip_eq_not_inWindow (o : IterOpts) (readTs : Nat) (e : Ent) :
    (decide (e.ver > readTs) || decide (o.sinceTs > 0) && decide (e.ver ≤ o.sinceTs)) =
      !inWindow readTs o.sinceTs e := by
  rw [Bool.eq_iff_iff, Bool.not_eq_true', ← Bool.not_eq_true, inWindow_iff]
  simp only [Bool.or_eq_true, Bool.and_eq_true, decide_eq_true_eq]
  omega

theorem inWindow_le {readTs since : Nat} {e : Ent} (h : inWindow readTs since e = true) :
    e.ver ≤ readTs :=
  (inWindow_iff.mp h).1

/-- what `parseItem` lets through before it looks at the mode: not hidden as an internal key, inside the window -/
def scanVis (o : IterOpts) (readTs : Nat) (e : Ent) : Bool :=
  !(!o.internalAccess && badgerPrefix.isPrefixOf e.ikey) && inWindow readTs o.sinceTs e

theorem scanVis_le {o : IterOpts} {readTs : Nat} {e : Ent} (h : scanVis o readTs e = true) :
    e.ver ≤ readTs ∧ (!o.internalAccess && badgerPrefix.isPrefixOf e.ikey) = false := by
  simp only [scanVis, Bool.and_eq_true, Bool.not_eq_true'] at h
  exact ⟨inWindow_le h.2, h.1⟩

theorem parseItems_succ_cons (o : IterOpts) (readTs now f : Nat) (lk : Option Bytes) (e : Ent) (rest : List Ent) :
    parseItems o readTs now (f + 1) lk (e :: rest) =
      if !o.reverse && !o.prefix_.isPrefixOf e.key then []
      else if !scanVis o readTs e then parseItems o readTs now f lk rest
      else if o.allVersions then e :: parseItems o readTs now f lk rest
      else if !o.reverse then
        (if lk == some e.key then parseItems o readTs now f lk rest
         else if deletedOrExpired e.emeta e.exp now then parseItems o readTs now f (some e.key) rest
         else e :: parseItems o readTs now f (some e.key) rest)
      else parseItems.revFill o readTs now f e rest := by
  have hp : (!o.prefix_.isEmpty && !o.prefix_.isPrefixOf e.key) = !o.prefix_.isPrefixOf e.key := by
    cases o.prefix_ <;> simp
  rw [parseItems.eq_3]
  simp only [scanVis, skip_eq_not_inWindow, Bool.and_assoc, hp]
  by_cases hi : (!o.internalAccess && badgerPrefix.isPrefixOf e.ikey) = true <;>
    simp only [hi, Bool.not_true, Bool.false_and, Bool.not_false, Bool.true_and, if_true, Bool.false_eq_true, if_false]

theorem revFill_succ (o : IterOpts) (readTs now f : Nat) (e : Ent) (rest : List Ent) :
    parseItems.revFill o readTs now (f + 1) e rest =
      if deletedOrExpired e.emeta e.exp now then parseItems o readTs now f none rest
      else match rest with
        | [] => [e]
        | n :: rest' =>
          if n.ver ≤ readTs && n.key == e.key then parseItems.revFill o readTs now f n rest'
          else e :: parseItems o readTs now f none (n :: rest') := by
  cases rest <;> rfl

/-- The internal-key test is not among the conclusions for the reverse FILL loop: it does not
    re-test the candidate it replaces (as `iterator.go`). -/
theorem parseItems_yield (o : IterOpts) (readTs now fuel : Nat) :
    (∀ e rest, e.ver ≤ readTs → ∀ x ∈ parseItems.revFill o readTs now fuel e rest,
      (x = e ∨ x ∈ rest) ∧ x.ver ≤ readTs ∧
      (o.allVersions = false → deletedOrExpired x.emeta x.exp now = false)) ∧
    (∀ lk l, ∀ x ∈ parseItems o readTs now fuel lk l, x ∈ l ∧ x.ver ≤ readTs ∧
      (o.allVersions = false → deletedOrExpired x.emeta x.exp now = false) ∧
      (o.allVersions = true ∨ o.reverse = false →
        (!o.internalAccess && badgerPrefix.isPrefixOf x.ikey) = false)) := by
  induction fuel with
  | zero =>
    constructor
    · intro e rest _ x hx; simp [parseItems.revFill] at hx
    · intro lk l x hx; simp [parseItems] at hx
  | succ f ih =>
    obtain ⟨ih1, ih2⟩ := ih
    -- walk down the decision list of the round (`if_pos`/`if_neg`: `split at` on the whole chain is slow to check)
    constructor
    · intro e rest he x hx
      have tl : x ∈ parseItems o readTs now f none rest → (x = e ∨ x ∈ rest) ∧ x.ver ≤ readTs ∧
          (o.allVersions = false → deletedOrExpired x.emeta x.exp now = false) := fun h =>
        let ⟨a, b, c, _⟩ := ih2 none rest x h; ⟨.inr a, b, c⟩
      rw [revFill_succ] at hx
      by_cases hl : deletedOrExpired e.emeta e.exp now = true
      · rw [if_pos hl] at hx; exact tl hx
      rw [if_neg hl] at hx
      have hd : x = e → (x = e ∨ x ∈ rest) ∧ x.ver ≤ readTs ∧
          (o.allVersions = false → deletedOrExpired x.emeta x.exp now = false) :=
        fun h => ⟨.inl h, h ▸ he, fun _ => h ▸ Bool.eq_false_iff.mpr hl⟩
      cases rest with
      | nil => exact hd (List.mem_singleton.mp hx)
      | cons n rest' =>
        dsimp only at hx
        by_cases hn : (decide (n.ver ≤ readTs) && n.key == e.key) = true
        · rw [if_pos hn] at hx
          simp only [Bool.and_eq_true, decide_eq_true_eq] at hn
          exact (ih1 n rest' hn.1 x hx).imp (fun h => .inr (List.mem_cons.mpr h)) id
        · rw [if_neg hn] at hx
          exact (List.mem_cons.mp hx).elim hd tl
    · intro lk l x hx
      cases l with
      | nil => rw [parseItems_nil] at hx; cases hx
      | cons e rest =>
        have tl := fun lk' h => And.imp_left (List.mem_cons_of_mem e) (ih2 lk' rest x h)
        rw [parseItems_succ_cons] at hx
        by_cases h1 : (!o.reverse && !o.prefix_.isPrefixOf e.key) = true
        · rw [if_pos h1] at hx; cases hx
        rw [if_neg h1] at hx
        by_cases hv : scanVis o readTs e = true
        case neg => rw [if_pos (by simpa using hv)] at hx; exact tl _ hx
        rw [if_neg (by simpa using hv)] at hx
        obtain ⟨hver, hint⟩ := scanVis_le hv
        -- `e` itself is yielded only where the mode's own test lets it through
        have hd : (o.allVersions = false → deletedOrExpired e.emeta e.exp now = false) →
            x ∈ e :: parseItems o readTs now f (if o.allVersions then lk else some e.key) rest → _ := fun hl hx =>
          (List.mem_cons.mp hx).elim
            (fun h => by subst h; exact ⟨List.mem_cons_self .., hver, hl, fun _ => hint⟩) (tl _)
        by_cases hall : o.allVersions = true
        · rw [if_pos hall] at hx
          exact hd (fun h => absurd hall (by simp [h])) (by rwa [if_pos hall])
        rw [if_neg hall] at hx
        by_cases hrev : (!o.reverse) = true
        · rw [if_pos hrev] at hx
          by_cases h2 : (lk == some e.key) = true
          · rw [if_pos h2] at hx; exact tl _ hx
          rw [if_neg h2] at hx
          by_cases hl : deletedOrExpired e.emeta e.exp now = true
          · rw [if_pos hl] at hx; exact tl _ hx
          rw [if_neg hl] at hx
          exact hd (fun _ => Bool.eq_false_iff.mpr hl) (by rwa [if_neg hall])
        · rw [if_neg hrev] at hx
          obtain ⟨a, b, c⟩ := ih1 e rest hver x hx
          refine ⟨List.mem_cons.mpr a, b, c, fun hm => hm.elim (absurd · hall) fun h' => ?_⟩
          simp [h'] at hrev

/-- what `Db.iterate` makes of the merged stream: `Seek`, the `Next` loop, the cut at `Valid` -/
def scanOut (o : IterOpts) (readTs now : Nat) (seek : Option Bytes) (M : List Ent) : List Ent :=
  validPrefix o (parseItems o readTs now (2 * (seekList M o readTs seek).length + 2) none
    (seekList M o readTs seek))

theorem iterate_eq {d : Db} {id : Nat} {t : TxnM} (o : IterOpts) (seek : Option Bytes) (h : d.findTxn id = some t) :
    d.iterate id o seek = some (scanOut o t.readTs d.now seek (mergeAll (pendingSource t :: d.lsm.sources))) := by
  simp only [Db.iterate, h, scanOut]

theorem mem_scanOut {o : IterOpts} {readTs now : Nat} {seek : Option Bytes} {M : List Ent} {x : Ent}
    (hx : x ∈ scanOut o readTs now seek M) :
    x ∈ seekList M o readTs seek ∧ x.ver ≤ readTs ∧
      (o.allVersions = false → deletedOrExpired x.emeta x.exp now = false) ∧
      (o.allVersions = true ∨ o.reverse = false → (!o.internalAccess && badgerPrefix.isPrefixOf x.ikey) = false) :=
  (parseItems_yield o readTs now _).2 _ _ x ((List.takeWhile_sublist _).subset hx)

theorem validPrefix_of_prefix {o : IterOpts} (hk : o.prefixIsKey = false) {S : List Ent}
    (h : ∀ x ∈ S, o.prefix_.isPrefixOf x.key = true) : validPrefix o S = S :=
  takeWhile_eq_self _ S fun x hx => by rw [hk]; exact h x hx

theorem NoHidden.of_mem {o : IterOpts} {l l' : List Ent} (h : NoHidden o l) (hs : ∀ x ∈ l', x ∈ l) :
    NoHidden o l' :=
  h.imp_right fun h x hx => h x (hs x hx)

theorem NoHidden.tail {o : IterOpts} {e : Ent} {l : List Ent} (h : NoHidden o (e :: l)) : NoHidden o l :=
  h.of_mem fun _ => List.mem_cons_of_mem _

theorem NoHidden.head {o : IterOpts} {e : Ent} {l : List Ent} (h : NoHidden o (e :: l)) :
    (!o.internalAccess && List.isPrefixOf badgerPrefix e.ikey) = false := by
  rcases h with h | h
  · simp [h]
  · simp [h e (List.mem_cons_self ..)]

theorem NoHidden.sublist {o : IterOpts} {l l' : List Ent} (h : NoHidden o l) (hs : l'.Sublist l) :
    NoHidden o l' :=
  h.of_mem fun _ hx => hs.subset hx

theorem filter_scanVis {o : IterOpts} {l : List Ent} (hn : NoHidden o l) (readTs : Nat) :
    l.filter (scanVis o readTs) = l.filter (inWindow readTs o.sinceTs) :=
  List.filter_congr fun e he => by
    rw [scanVis, (hn.sublist (List.singleton_sublist.mpr he)).head, Bool.not_false, Bool.true_and]

theorem parseItems_all (o : IterOpts) (readTs now : Nat) (hall : o.allVersions = true)
    (fuel : Nat) (lk : Option Bytes) (l : List Ent) (hf : l.length ≤ fuel) :
    parseItems o readTs now fuel lk l =
      (if o.reverse then l else l.takeWhile (fun e => o.prefix_.isPrefixOf e.key)).filter (scanVis o readTs) := by
  induction l generalizing fuel with
  | nil => cases fuel <;> simp [parseItems]
  | cons e rest ih =>
    cases fuel with
    | zero => simp at hf
    | succ f =>
      rw [parseItems_succ_cons, ih f (by simpa using hf), hall]
      cases o.reverse
      · -- forward: the prefix stop is `takeWhile`, the visibility test is `filter`
        simp only [Bool.not_false, Bool.true_and, Bool.false_eq_true, if_false, List.takeWhile_cons]
        cases o.prefix_.isPrefixOf e.key
        · rfl
        · simp only [Bool.not_true, Bool.false_eq_true, if_false, if_true, List.filter_cons]
          cases scanVis o readTs e <;> rfl
      · simp only [Bool.not_true, Bool.false_and, Bool.false_eq_true, if_false, if_true, List.filter_cons]
        cases scanVis o readTs e <;> rfl

/-- the forward `parseItem` loop on a stream that was already cut at the prefix boundary and
    filtered by `scanVis`: an entry is yielded iff its key is not `lastKey` and it is live; in
    every case its key is `lastKey` from then on. -/
def fwdCore (now : Nat) : Option Bytes → List Ent → List Ent
  | _, [] => []
  | lk, e :: r =>
    if lk != some e.key && !deletedOrExpired e.emeta e.exp now then e :: fwdCore now (some e.key) r
    else fwdCore now (some e.key) r

theorem parseItems_fwd (o : IterOpts) (readTs now : Nat) (hall : o.allVersions = false)
    (hrev : o.reverse = false) (fuel : Nat) (lk : Option Bytes) (l : List Ent) (hf : l.length ≤ fuel) :
    parseItems o readTs now fuel lk l =
      fwdCore now lk ((l.takeWhile (fun e => o.prefix_.isPrefixOf e.key)).filter (scanVis o readTs)) := by
  induction l generalizing fuel lk with
  | nil => cases fuel <;> simp [parseItems, fwdCore]
  | cons e rest ih =>
    cases fuel with
    | zero => simp at hf
    | succ f =>
      have hf' : rest.length ≤ f := by simpa using hf
      rw [parseItems_succ_cons, ih f lk hf', ih f (some e.key) hf', hall, hrev]
      simp only [Bool.not_false, Bool.true_and, Bool.false_eq_true, if_false, if_true, List.takeWhile_cons]
      cases o.prefix_.isPrefixOf e.key
      · rfl
      · simp only [Bool.not_true, Bool.false_eq_true, if_false, if_true, List.filter_cons]
        cases scanVis o readTs e
        · rfl
        · -- visible: the `lastKey` test and the liveness test, as in `fwdCore`
          simp only [Bool.not_true, Bool.false_eq_true, if_false, if_true]
          rw [fwdCore]
          by_cases hl : lk = some e.key
          · simp [hl]
          · cases deletedOrExpired e.emeta e.exp now <;> simp [hl]

theorem fwdCore_sublist (now : Nat) (lk : Option Bytes) (L : List Ent) : (fwdCore now lk L).Sublist L := by
  induction L generalizing lk with
  | nil => exact List.Sublist.refl _
  | cons e r ih =>
    rw [fwdCore]
    split
    · exact (ih _).cons_cons e
    · exact (ih _).cons e

/-- on a sorted stream whose keys are all `≥ lastKey` the yielded entries are the live newest
    versions of the keys other than `lastKey` -/
theorem mem_fwdCore (now : Nat) {L : List Ent} (hs : SortedEnts L) (lk : Option Bytes)
    (hlk : ∀ k, lk = some k → ∀ e ∈ L, cmpBytes k e.key ≠ .gt) (x : Ent) :
    x ∈ fwdCore now lk L ↔
      x ∈ L ∧ lk ≠ some x.key ∧ (∀ y ∈ L, y.key = x.key → y.ver ≤ x.ver) ∧
      deletedOrExpired x.emeta x.exp now = false := by
  induction L generalizing lk with
  | nil => simp [fwdCore]
  | cons e r ih =>
    have hge : ∀ y ∈ r, cmpBytes e.key y.key ≠ .gt := fun y hy => entCmp_lt_key_le (hs.head_lt y hy)
    have hold : ∀ y ∈ r, y.key = e.key → y.ver < e.ver := fun y hy hk =>
      (entCmp_lt_same_key hk.symm).mp (hs.head_lt y hy)
    have ih' := ih hs.tail (some e.key) (fun k hk y hy => by cases hk; exact hge y hy)
    have hmem : x ∈ fwdCore now lk (e :: r) ↔
        (x = e ∧ lk ≠ some e.key ∧ deletedOrExpired e.emeta e.exp now = false) ∨
          x ∈ fwdCore now (some e.key) r := by
      rw [fwdCore]
      split
      · rename_i h
        simp only [Bool.and_eq_true, bne_iff_ne, ne_eq, Bool.not_eq_true'] at h
        simp [h]
      · rename_i h
        simp only [Bool.and_eq_true, bne_iff_ne, ne_eq, Bool.not_eq_true'] at h
        exact ⟨.inr, fun h' => h'.elim (fun ⟨_, h1, h2⟩ => absurd ⟨h1, h2⟩ h) id⟩
    rw [hmem, ih']
    constructor
    · rintro (⟨rfl, hl, hlive⟩ | ⟨hx, hne, hmax, hlive⟩)
      · refine ⟨List.mem_cons_self .., hl, fun y hy hyk => ?_, hlive⟩
        rcases List.mem_cons.mp hy with rfl | hy
        · exact Nat.le_refl _
        · exact Nat.le_of_lt (hold y hy hyk)
      · have hne' : x.key ≠ e.key := fun h => hne (congrArg some h.symm)
        refine ⟨List.mem_cons_of_mem _ hx, fun hl => ?_, fun y hy hyk => ?_, hlive⟩
        · -- `lastKey ≤ e.key ≤ x.key`
          exact hne' (cmpBytes_antisymm (hlk x.key hl e (List.mem_cons_self ..)) (hge x hx))
        · rcases List.mem_cons.mp hy with rfl | hy
          · exact absurd hyk.symm hne'
          · exact hmax y hy hyk
    · rintro ⟨hx, hl, hmax, hlive⟩
      rcases List.mem_cons.mp hx with rfl | hx
      · exact .inl ⟨rfl, hl, hlive⟩
      · -- a version of `e`'s key in `r` is older than `e`, so not the newest
        have hne' : x.key ≠ e.key := fun hk =>
          Nat.lt_irrefl _ (Nat.lt_of_lt_of_le (hold x hx hk) (hmax e (List.mem_cons_self ..) hk.symm))
        exact .inr ⟨hx, fun h => hne' (Option.some.inj h).symm,
          fun y hy => hmax y (List.mem_cons_of_mem _ hy), hlive⟩

theorem inWindow_newer {readTs since : Nat} {e n : Ent} (h : inWindow readTs since e = true)
    (hv : e.ver ≤ n.ver) (hn : n.ver ≤ readTs) : inWindow readTs since n = true := by
  rw [inWindow_iff] at h ⊢
  omega

theorem key_ge_of_seek {sk : Bytes} {readTs : Nat} {y : Ent}
    (h : sk.isEmpty = true ∨ kvCmp y.key y.ver sk readTs ≠ .lt) : cmpBytes y.key sk ≠ .lt := by
  intro hc
  rcases h with h | h
  · rw [List.isEmpty_iff.mp h] at hc
    exact cmpBytes_nil_ne_lt _ hc
  · exact h ((kvCmp_lt_iff ..).mpr (.inl hc))

theorem seek_of_key_ge {sk : Bytes} {readTs : Nat} {y : Ent} (hv : y.ver ≤ readTs)
    (h : cmpBytes y.key sk ≠ .lt) : sk.isEmpty = true ∨ kvCmp y.key y.ver sk readTs ≠ .lt := by
  right
  intro hc
  rcases (kvCmp_lt_iff ..).mp hc with hc | hc
  · exact h hc
  · omega

theorem mem_seekFrom_fwd {merged : List Ent} (hs : SortedEnts merged) (readTs : Nat) (sk : Bytes)
    (x : Ent) :
    x ∈ seekFrom merged false readTs sk ↔
      x ∈ merged ∧ (sk.isEmpty = true ∨ kvCmp x.key x.ver sk readTs ≠ .lt) := by
  unfold seekFrom
  by_cases he : sk.isEmpty = true
  · simp [he]
  · simp only [he, Bool.false_eq_true, if_false, Bool.not_false, if_true, false_or]
    rw [mem_dropWhile_of_pairwise hs]
    · simp
    · intro a b hab hb
      simp only [beq_iff_eq] at hb ⊢
      exact kvCmp_lt_trans hab hb

theorem sortedDesc_reverse {l : List Ent} (h : SortedEnts l) : SortedDesc l.reverse := by
  unfold SortedDesc
  rw [List.pairwise_reverse]
  exact h

theorem SortedDesc.sublist {l l' : List Ent} (h : SortedDesc l) (hs : l'.Sublist l) : SortedDesc l' :=
  List.Pairwise.sublist hs h

theorem SortedDesc.tail {e : Ent} {l : List Ent} (h : SortedDesc (e :: l)) : SortedDesc l :=
  (List.pairwise_cons.mp h).2

theorem SortedDesc.head_gt {e : Ent} {l : List Ent} (h : SortedDesc (e :: l)) :
    ∀ x ∈ l, entCmp x e = .lt := (List.pairwise_cons.mp h).1

/-- in a descending stream the versions of a key ascend -/
theorem SortedDesc.any_same_key {e n : Ent} {r : List Ent} (hs : SortedDesc (e :: n :: r)) (readTs : Nat) :
    (n :: r).any (fun m => m.key == e.key && decide (m.ver ≤ readTs)) =
      (decide (n.ver ≤ readTs) && n.key == e.key) := by
  rw [Bool.eq_iff_iff]
  simp only [List.any_eq_true, Bool.and_eq_true, beq_iff_eq, decide_eq_true_eq]
  constructor
  · rintro ⟨m, hm, hk, hv⟩
    rcases List.mem_cons.mp hm with rfl | hm'
    · exact ⟨hv, hk⟩
    · have hmn : entCmp m n = .lt := hs.tail.head_gt m hm'
      have hnk : n.key = m.key := entCmp_key_squeeze hmn (hs.head_gt n (List.mem_cons_self ..)) hk
      have hmv : n.ver < m.ver := (entCmp_lt_same_key hnk.symm).mp hmn
      exact ⟨by omega, hnk.trans hk⟩
  · rintro ⟨hv, hk⟩
    exact ⟨n, List.mem_cons_self .., hk, hv⟩

theorem mem_dropWhile_key_lt {merged : List Ent} (hs : SortedEnts merged) (sk : Bytes) (y : Ent) :
    y ∈ merged.dropWhile (fun e => cmpBytes e.key sk == .lt) ↔ y ∈ merged ∧ cmpBytes y.key sk ≠ .lt := by
  rw [mem_dropWhile_of_pairwise hs]
  · simp
  · intro a b hab hb
    simp only [beq_iff_eq] at hb ⊢
    exact cmpBytes_lt_of_le_of_lt (entCmp_lt_key_le hab) hb

theorem mem_dropWhile_key_gt {merged : List Ent} (hs : SortedEnts merged) (sk : Bytes) (y : Ent) :
    y ∈ merged.reverse.dropWhile (fun e => cmpBytes e.key sk == .gt) ↔
      y ∈ merged ∧ cmpBytes y.key sk ≠ .gt := by
  rw [mem_dropWhile_of_pairwise (sortedDesc_reverse hs)]
  · simp
  · intro a b hab hb
    simp only [beq_iff_eq, cmpBytes_gt_iff_lt] at hb ⊢
    exact cmpBytes_lt_of_lt_of_le hb (entCmp_lt_key_le hab)

/-- on a sorted stream that starts at or after a key with the prefix, the prefix stop cuts off exactly
    the entries without the prefix: keys with the prefix form an interval -/
theorem takeWhile_prefix_eq_filter {L : List Ent} (hs : SortedEnts L) {pfx sk : Bytes}
    (hsk : pfx.isPrefixOf sk = true) (hge : ∀ y ∈ L, cmpBytes y.key sk ≠ .lt) :
    L.takeWhile (fun e => pfx.isPrefixOf e.key) = L.filter (fun e => pfx.isPrefixOf e.key) :=
  takeWhile_eq_filter _ _ (hs.imp_of_mem fun ha _ hab hb =>
    prefix_convex pfx sk _ _ hsk hb (cmpBytes_ne_lt_swap (hge _ ha)) (entCmp_lt_key_le hab))

theorem mem_specScanFwd_iff {merged : List Ent} (hs : SortedEnts merged) (readTs since now : Nat)
    {pfx sk : Bytes} (hsk : pfx.isPrefixOf sk = true) (x : Ent) :
    x ∈ specScanFwd merged readTs since now pfx sk ↔
      x ∈ merged ∧ cmpBytes x.key sk ≠ .lt ∧ pfx.isPrefixOf x.key = true ∧
      newestVisible merged readTs since x.key = some x ∧ deletedOrExpired x.emeta x.exp now = false := by
  unfold specScanFwd
  rw [takeWhile_prefix_eq_filter (hs.sublist (List.dropWhile_sublist _)) hsk
    fun y hy => ((mem_dropWhile_key_lt hs sk y).mp hy).2]
  simp only [List.mem_filter, mem_dropWhile_key_lt hs, yieldable, Bool.and_eq_true, decide_eq_true_eq,
    Bool.not_eq_true', and_assoc]

/-- the stream the forward loop works on, member-wise: the in-window entries at or after the seek
    key that have the prefix -/
theorem mem_seekPrefix_window {M : List Ent} (hs : SortedEnts M) (readTs since : Nat) {pfx sk : Bytes}
    (hsk : pfx.isPrefixOf sk = true) (z : Ent) :
    z ∈ ((seekFrom M false readTs sk).takeWhile (fun e => pfx.isPrefixOf e.key)).filter
        (inWindow readTs since) ↔
      (z ∈ M ∧ cmpBytes z.key sk ≠ .lt ∧ pfx.isPrefixOf z.key = true) ∧ inWindow readTs since z = true := by
  rw [takeWhile_prefix_eq_filter (hs.sublist (seekFrom_sublist M false readTs sk)) hsk
    fun y hy => key_ge_of_seek ((mem_seekFrom_fwd hs readTs sk y).mp hy).2]
  simp only [List.mem_filter, mem_seekFrom_fwd hs]
  constructor
  · rintro ⟨⟨⟨hm, hc⟩, hp⟩, hw⟩
    exact ⟨⟨hm, key_ge_of_seek hc, hp⟩, hw⟩
  · rintro ⟨⟨hm, hc, hp⟩, hw⟩
    exact ⟨⟨⟨hm, seek_of_key_ge (inWindow_le hw) hc⟩, hp⟩, hw⟩

/-- The seek key must have the iterator's prefix (always true for `Rewind`, where the seek key
    *is* the prefix). -/
theorem fwdCore_spec (merged : List Ent) (hs : SortedEnts merged) (readTs since now : Nat)
    (pfx sk : Bytes) (hsk : pfx.isPrefixOf sk = true) :
    fwdCore now none (((seekFrom merged false readTs sk).takeWhile
        (fun e => pfx.isPrefixOf e.key)).filter (inWindow readTs since)) =
      specScanFwd merged readTs since now pfx sk := by
  have hLsub : (((seekFrom merged false readTs sk).takeWhile (fun e => pfx.isPrefixOf e.key)).filter
      (inWindow readTs since)).Sublist merged :=
    List.filter_sublist.trans ((List.takeWhile_sublist _).trans (seekFrom_sublist merged false readTs sk))
  have hL := hs.sublist hLsub
  have hW : SortedEnts (merged.filter (inWindow readTs since)) := hs.filter _
  have memL := mem_seekPrefix_window hs readTs since hsk
  apply pairwise_ext (R := fun a b => entCmp a b = .lt) (l2 := specScanFwd merged readTs since now pfx sk)
    (fun _ _ => entCmp_lt_asymm) (hs.sublist ((fwdCore_sublist ..).trans hLsub))
    (hs.sublist (specScanFwd_sublist ..))
  intro x
  rw [mem_fwdCore now hL none (by intro k hk; cases hk), mem_specScanFwd_iff hs readTs since now hsk, memL]
  unfold newestVisible
  rw [newestLE_sorted_some_iff hW]
  -- the newest version of the key over the cut stream and over the whole window is the same:
  -- all in-window versions of a key in the cut are in the cut
  constructor
  · rintro ⟨⟨⟨hm, hge, hp⟩, hw⟩, -, hmax, hlive⟩
    refine ⟨hm, hge, hp, ⟨List.mem_filter.mpr ⟨hm, hw⟩, rfl, inWindow_le hw, ?_⟩, hlive⟩
    intro y hy hyk _
    obtain ⟨hym, hyw⟩ := List.mem_filter.mp hy
    exact hmax y ((memL y).mpr ⟨⟨hym, hyk ▸ hge, hyk ▸ hp⟩, hyw⟩) hyk
  · rintro ⟨hm, hge, hp, ⟨hxW, -, -, hmax⟩, hlive⟩
    have hw := (List.mem_filter.mp hxW).2
    refine ⟨⟨⟨hm, hge, hp⟩, hw⟩, (fun h => nomatch h), ?_, hlive⟩
    intro y hy hyk
    obtain ⟨⟨hym, -, -⟩, hyw⟩ := (memL y).mp hy
    exact hmax y (List.mem_filter.mpr ⟨hym, hyw⟩) hyk (inWindow_le hyw)

/-- the reverse `parseItem`/FILL loop as a position-based filter: an entry of the descending
    stream is yielded iff it is inside the window, live, and no later (= newer) entry of the same
    key has a version `≤ readTs`. -/
def revCore (readTs since now : Nat) : List Ent → List Ent
  | [] => []
  | e :: r =>
    if inWindow readTs since e && !deletedOrExpired e.emeta e.exp now &&
        !(r.any (fun n => n.key == e.key && decide (n.ver ≤ readTs))) then e :: revCore readTs since now r
    else revCore readTs since now r

theorem revCore_cons (readTs since now : Nat) (e : Ent) (r : List Ent) :
    revCore readTs since now (e :: r) =
      if inWindow readTs since e && !deletedOrExpired e.emeta e.exp now &&
          !(r.any (fun n => n.key == e.key && decide (n.ver ≤ readTs))) then e :: revCore readTs since now r
      else revCore readTs since now r := rfl

theorem parseItems_rev (o : IterOpts) (readTs now : Nat) (hall : o.allVersions = false)
    (hrev : o.reverse = true) (fuel : Nat) :
    (∀ e rest, SortedDesc (e :: rest) → NoHidden o (e :: rest) → inWindow readTs o.sinceTs e = true →
        2 * rest.length + 2 ≤ fuel →
        parseItems.revFill o readTs now fuel e rest = revCore readTs o.sinceTs now (e :: rest)) ∧
    (∀ lk l, SortedDesc l → NoHidden o l → 2 * l.length + 1 ≤ fuel →
        parseItems o readTs now fuel lk l = revCore readTs o.sinceTs now l) := by
  induction fuel with
  | zero =>
    constructor
    · intro e rest _ _ _ hf; omega
    · intro lk l _ _ hf
      have : l = [] := by cases l <;> simp at hf ⊢
      subst this; rfl
  | succ f ih =>
    obtain ⟨ih1, ih2⟩ := ih
    constructor
    · -- the FILL loop with candidate `e`: the next entry replaces it iff it is a visible version of the same key
      intro e rest hs hn hw hf
      cases rest with
      | nil =>
        rw [parseItems.revFill.eq_2, parseItems_nil]
        cases hx : deletedOrExpired e.emeta e.exp now <;> simp [revCore, hw, hx]
      | cons n rest' =>
        have hf' : 2 * (n :: rest').length + 1 ≤ f := by simp at hf ⊢; omega
        rw [parseItems.revFill.eq_3, ih2 none _ hs.tail hn.tail hf', revCore_cons _ _ _ e, hs.any_same_key, hw]
        by_cases hc : (decide (n.ver ≤ readTs) && n.key == e.key) = true
        · have hc' : n.ver ≤ readTs ∧ n.key = e.key := by simpa using hc
          have hnv : e.ver < n.ver := (entCmp_lt_same_key hc'.2).mp (hs.head_gt n (List.mem_cons_self ..))
          rw [ih1 n rest' hs.tail hn.tail (inWindow_newer hw (by omega) hc'.1) (by simp at hf ⊢; omega)]
          simp [hc]
        · cases hx : deletedOrExpired e.emeta e.exp now <;> simp [hc]
    · -- a round of the loop: an entry inside the window starts FILL, any other is skipped
      intro lk l hs hn hf
      cases l with
      | nil => simp [parseItems, revCore]
      | cons e rest =>
        rw [parseItems_succ_cons, scanVis, hn.head, Bool.not_false, Bool.true_and, revCore_cons]
        simp only [hall, hrev, Bool.false_eq_true, if_false, Bool.not_true, Bool.false_and]
        by_cases hw : inWindow readTs o.sinceTs e = true
        · rw [ih1 e rest hs hn hw (by simp at hf ⊢; omega)]
          simp [hw, revCore]
        · rw [ih2 lk rest hs.tail hn.tail (by simp at hf ⊢; omega)]
          simp [hw]

theorem seekFrom_rev_eq (merged : List Ent) (readTs : Nat) (sk : Bytes) :
    seekFrom merged true readTs sk =
      (if sk.isEmpty then merged.reverse
       else merged.reverse.dropWhile (fun e => cmpBytes e.key sk == .gt)) := by
  unfold seekFrom
  have : (fun e : Ent => kvCmp e.key e.ver sk 0 == Ordering.gt) =
      (fun e : Ent => cmpBytes e.key sk == Ordering.gt) := by
    funext e
    rw [Bool.eq_iff_iff, beq_iff_eq, beq_iff_eq, kvCmp_gt_iff]
    simp only [Nat.not_lt_zero, and_false, or_false]
  simp only [Bool.not_true, Bool.false_eq_true, if_false, this, if_true]

theorem specScanRev_eq (merged : List Ent) (readTs since now : Nat) (sk : Bytes) :
    specScanRev merged readTs since now sk =
      (seekFrom merged true readTs sk).filter (yieldable merged readTs since now) := by
  rw [seekFrom_rev_eq]; rfl

theorem mem_seekFrom_rev {M : List Ent} (hs : SortedEnts M) (readTs : Nat) (sk : Bytes) (x : Ent) :
    x ∈ seekFrom M true readTs sk ↔ x ∈ M ∧ (sk.isEmpty = true ∨ cmpBytes x.key sk ≠ .gt) := by
  rw [seekFrom_rev_eq]
  by_cases he : sk.isEmpty = true
  · simp only [he, if_true, List.mem_reverse, true_or, and_true]
  · simp only [he, Bool.false_eq_true, if_false, false_or]
    exact mem_dropWhile_key_gt hs sk x

theorem revCore_spec (merged : List Ent) (hs : SortedEnts merged) (readTs since now : Nat) (sk : Bytes) :
    revCore readTs since now (seekFrom merged true readTs sk) = specScanRev merged readTs since now sk := by
  rw [specScanRev_eq]
  generalize hR : seekFrom merged true readTs sk = R
  have hRd : SortedDesc R := by
    rw [← hR]; exact (sortedDesc_reverse hs).sublist (seekFrom_sublist merged true readTs sk)
  have hRm : ∀ x ∈ R, x ∈ merged := fun x hx => mem_of_mem_seekFrom (hR ▸ hx)
  have hclosed : ∀ x ∈ R, ∀ y ∈ merged, y.key = x.key → y ∈ R := by
    intro x hx y hy hk
    rw [← hR, mem_seekFrom_rev hs] at hx ⊢
    exact ⟨hy, hk ▸ hx.2⟩
  have hW : SortedEnts (merged.filter (inWindow readTs since)) := hs.filter _
  have key : ∀ suf pre, R = pre ++ suf →
      revCore readTs since now suf = suf.filter (yieldable merged readTs since now) := by
    intro suf
    induction suf with
    | nil => intro pre _; rfl
    | cons e r ih =>
      intro pre hpre
      have ihr := ih (pre ++ [e]) (by rw [hpre]; simp)
      have heR : e ∈ R := by rw [hpre]; simp
      have hpw := hRd
      rw [hpre, SortedDesc, List.pairwise_append] at hpw
      obtain ⟨-, hpw2, hpw3⟩ := hpw
      have hr_lt : ∀ n ∈ r, entCmp n e = .lt := (List.pairwise_cons.mp hpw2).1
      have hpre_gt : ∀ y ∈ pre, entCmp e y = .lt := fun y hy => hpw3 y hy e (List.mem_cons_self ..)
      have hequiv : (inWindow readTs since e && !deletedOrExpired e.emeta e.exp now &&
          !(r.any (fun n => n.key == e.key && decide (n.ver ≤ readTs)))) =
          yieldable merged readTs since now e := by
        rw [Bool.eq_iff_iff]
        simp only [yieldable, Bool.and_eq_true, Bool.not_eq_true', decide_eq_true_eq, List.any_eq_false,
          beq_iff_eq, not_and]
        unfold newestVisible
        rw [newestLE_sorted_some_iff hW]
        constructor
        · rintro ⟨⟨hw, hlive⟩, hno⟩
          refine ⟨⟨List.mem_filter.mpr ⟨hRm e heR, hw⟩, rfl, inWindow_le hw, ?_⟩, hlive⟩
          intro y hy hyk hyv
          obtain ⟨hym, -⟩ := List.mem_filter.mp hy
          have hyR := hclosed e heR y hym hyk
          rw [hpre] at hyR
          rcases List.mem_append.mp hyR with h | h
          · have := (entCmp_lt_same_key hyk.symm).mp (hpre_gt y h)
            omega
          · rcases List.mem_cons.mp h with rfl | h
            · exact Nat.le_refl _
            · exact absurd hyv (hno y h hyk)
        · rintro ⟨⟨heW, -, hev, hmax⟩, hlive⟩
          have hw : inWindow readTs since e = true := (List.mem_filter.mp heW).2
          refine ⟨⟨hw, hlive⟩, ?_⟩
          intro n hn hnk hnv
          have hlt : e.ver < n.ver := (entCmp_lt_same_key hnk).mp (hr_lt n hn)
          have hnW : n ∈ merged.filter (inWindow readTs since) :=
            List.mem_filter.mpr ⟨hRm n (by rw [hpre]; simp [hn]), inWindow_newer hw (by omega) hnv⟩
          have := hmax n hnW hnk hnv
          omega
      unfold revCore
      rw [hequiv, ihr, List.filter_cons]
  exact key R [] rfl

theorem mem_specScanRev {merged : List Ent} (hs : SortedEnts merged) (readTs since now : Nat)
    (sk : Bytes) (x : Ent) :
    x ∈ specScanRev merged readTs since now sk ↔
      x ∈ merged ∧ (sk.isEmpty = true ∨ cmpBytes x.key sk ≠ .gt) ∧
      newestVisible merged readTs since x.key = some x ∧ deletedOrExpired x.emeta x.exp now = false := by
  rw [specScanRev_eq, List.mem_filter, mem_seekFrom_rev hs]
  simp only [yieldable, Bool.and_eq_true, decide_eq_true_eq, Bool.not_eq_true', and_assoc]

theorem yieldable_key_lt {merged : List Ent} {readTs since now : Nat} {a b : Ent}
    (ha : yieldable merged readTs since now a = true) (hb : yieldable merged readTs since now b = true)
    (hab : entCmp a b = .lt) : cmpBytes a.key b.key = .lt := by
  simp only [yieldable, Bool.and_eq_true, decide_eq_true_eq] at ha hb
  exact newestLE_key_lt ha.1 hb.1 hab

end Badger
