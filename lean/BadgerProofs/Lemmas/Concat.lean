import BadgerProofs.Lemmas.TableScan
/-!
`ConcatIterator` over tables that each satisfy `TableOK`. `COut ts Gs s l`: a scan from `s` delivers
exactly `l`, what is left of the current table (`Out`) followed by the later tables in the direction of
iteration (`later`); `Next` takes the head off, entering the neighbouring table when the current one is exhausted.
-/
namespace Badger.Tbl
open Badger

/-- What is known about one table of a concat iterator; `G` are its blocks. -/
structure TabOK (env : Env) (t : Table) (G : List (List Entry)) : Prop where
  ok : TableOK env t.core G
  ne : ∀ g ∈ G, g ≠ []
  Gne : G ≠ []
  exp : ∀ g ∈ G, ∀ e ∈ g, e.vs.expiresAt < 2 ^ 64

def TabsOK (env : Env) (ts : List Table) (Gs : List (List (List Entry))) : Prop :=
  ts.length = Gs.length ∧ ∀ (i : Nat) t G, ts[i]? = some t → Gs[i]? = some G → TabOK env t G

def flatAll (Gs : List (List (List Entry))) : List Entry := (Gs.map List.flatten).flatten

structure CInv (ts : List Table) (s : CIter) : Prop where
  len : s.iters.length = ts.length
  revs : ∀ (k : Nat) x, s.iters[k]? = some (some x) → x.reversed = s.reversed

theorem TabOK.exp_flatten {env : Env} {t : Table} {G : List (List Entry)} (h : TabOK env t G) :
    ∀ e ∈ G.flatten, e.vs.expiresAt < 2 ^ 64 := fun e he => by
  obtain ⟨g, hg, he'⟩ := List.mem_flatten.mp he
  exact h.exp g hg e he'

theorem cinv_new (ts : List Table) (rev : Bool) : CInv ts (newConcat ts rev) := by
  refine ⟨by simp [newConcat], ?_⟩
  intro k x hk
  simp only [newConcat, List.getElem?_map] at hk
  cases h : ts[k]? <;> simp [h] at hk

variable {env : Env} {ts : List Table} {Gs : List (List (List Entry))}

structure CAt (ts : List Table) (s : CIter) (i : Nat) (it : TIter) : Prop where
  idx : s.idx = i
  cur : s.curNil = false
  inv : CInv ts s
  it : s.iters[i]? = some (some it)

theorem CAt.cur_eq {s : CIter} {i : Nat} {it : TIter} (h : CAt ts s i it) :
    s.cur = some it := by
  unfold CIter.cur
  simp only [h.cur, Bool.false_eq_true, if_false, h.idx, Int.toNat_natCast]
  rw [List.getD_eq_getElem?_getD, h.it]; rfl

theorem cinv_set {s s' : CIter} (hinv : CInv ts s) (i : Nat) (y : TIter) (hy : y.reversed = s.reversed)
    (hit : s'.iters = s.iters.set i (some y)) (hr : s'.reversed = s.reversed) : CInv ts s' := by
  refine ⟨by rw [hit, List.length_set]; exact hinv.len, fun k x hk => ?_⟩
  rw [hit] at hk
  rw [hr]
  rcases List.mem_or_eq_of_mem_set (List.mem_of_getElem? hk) with h | h
  · obtain ⟨k', hk'⟩ := List.getElem?_of_mem h
    exact hinv.revs k' x hk'
  · cases h; exact hy

theorem onCur_ok {s : CIter} {i : Nat} {it it' : TIter} {t : Table}
    (h : CAt ts s i it) (ht : ts[i]? = some t) (op : TableCore → TIter → Option TIter)
    (hop : op t.core it = some it') (hrev : it'.reversed = it.reversed) :
    s.onCur ts op = some (s.setCur it') ∧ CAt ts (s.setCur it') i it' ∧
      (s.setCur it').reversed = s.reversed := by
  have hi : i < s.iters.length := lt_of_getElem?_some h.it
  have hset : (s.setCur it').iters = s.iters.set i (some it') := by
    unfold CIter.setCur; rw [h.idx]; rfl
  refine ⟨?_, ⟨h.idx, h.cur, ?_, ?_⟩, rfl⟩
  · unfold CIter.onCur
    rw [h.cur_eq, h.idx]
    simp only [Int.toNat_natCast, ht, hop, Option.bind_some]
  · exact cinv_set h.inv i it' (hrev.trans (h.inv.revs i it h.it)) hset rfl
  · rw [hset]; simp [hi]

theorem setIdx_in_range {s : CIter} (hinv : CInv ts s) (i : Nat) (hi : i < ts.length) :
    ∃ it0, CAt ts (s.setIdx (i : Int)) i it0 ∧ it0.reversed = s.reversed ∧
      (s.setIdx (i : Int)).reversed = s.reversed := by
  unfold CIter.setIdx
  have h1 : ¬ ((i : Int) < 0 ∨ (i : Int) ≥ ((s.iters.length : Nat) : Int)) := by
    have := hinv.len; omega
  simp only [h1, if_false, Int.toNat_natCast]
  have hil : i < s.iters.length := by rw [hinv.len]; exact hi
  obtain ⟨o, ho⟩ := getElem?_some_of_lt s.iters i hil
  rw [List.getD_eq_getElem?_getD, ho, Option.getD_some]
  cases o with
  | none =>
    exact ⟨{ reversed := s.reversed },
      ⟨rfl, rfl, cinv_set hinv i _ rfl rfl rfl, by simp [hil]⟩, rfl, rfl⟩
  | some it0 => exact ⟨it0, ⟨rfl, rfl, ⟨hinv.len, hinv.revs⟩, ho⟩, hinv.revs i it0 ho, rfl⟩

theorem setIdx_out {s : CIter} (i : Int) (h : i < 0 ∨ i ≥ s.iters.length) :
    (s.setIdx i).curNil = true ∧ (s.setIdx i).cur = none ∧ (CInv ts s → CInv ts (s.setIdx i)) := by
  unfold CIter.setIdx
  simp only [h, if_true]
  exact ⟨trivial, by simp [CIter.cur], fun hinv => ⟨hinv.len, hinv.revs⟩⟩

theorem setIdx_reversed (s : CIter) (i : Int) : (s.setIdx i).reversed = s.reversed := by
  unfold CIter.setIdx
  by_cases h : i < 0 ∨ i ≥ (s.iters.length : Int)
  · simp [h]
  · simp only [h, if_false]
    split <;> rfl

theorem CAt.valid_eq {s : CIter} {i : Nat} {it : TIter} (h : CAt ts s i it) :
    s.valid = it.valid := by
  unfold CIter.valid; rw [h.cur_eq]

def fromTable (rev : Bool) (Gs : List (List (List Entry))) (i : Nat) : List Entry :=
  if rev then (flatAll (Gs.take (i + 1))).reverse else flatAll (Gs.drop i)

def later (rev : Bool) (Gs : List (List (List Entry))) (i : Nat) : List Entry :=
  if rev then (flatAll (Gs.take i)).reverse else flatAll (Gs.drop (i + 1))

theorem fromTable_eq (rev : Bool) {i : Nat} {G : List (List Entry)} (hG : Gs[i]? = some G) :
    fromTable rev Gs i = (if rev then G.flatten.reverse else G.flatten) ++ later rev Gs i := by
  cases rev with
  | false => simp [fromTable, later, flatAll, drop_eq_cons_of_get hG]
  | true => simp [fromTable, later, flatAll, take_succ_of_get hG]

def COut (ts : List Table) (Gs : List (List (List Entry))) (s : CIter) (l : List Entry) : Prop :=
  (∃ i it t G l₁, CAt ts s i it ∧ ts[i]? = some t ∧ Gs[i]? = some G ∧ Out G it l₁ ∧ l₁ ≠ [] ∧
    l = l₁ ++ later s.reversed Gs i) ∨
  (s.cur = none ∧ l = [])

theorem COut.valid_iff {s : CIter} {l : List Entry} (h : COut ts Gs s l) : s.valid = true ↔ l ≠ [] := by
  rcases h with ⟨i, it, t, G, l₁, hc, _, _, hout, hne, rfl⟩ | ⟨hcur, rfl⟩
  · rw [hc.valid_eq, hout.valid_iff]; simp [hne]
  · simp [CIter.valid, hcur]

/-- `setIdx i` followed by `Rewind` on table `i`, as `Rewind` and the loop of `Next` do it. -/
theorem enter_table (hts : TabsOK env ts Gs) {s : CIter} (hinv : CInv ts s)
    {i : Nat} {t : Table} (ht : ts[i]? = some t) :
    ∃ s', (s.setIdx (i : Int)).curNil = false ∧
      (s.setIdx (i : Int)).onCur ts (fun t it => it.apiRewind env t) = some s' ∧
      s'.reversed = s.reversed ∧ s'.valid = true ∧ COut ts Gs s' (fromTable s.reversed Gs i) := by
  obtain ⟨G, hG⟩ := getElem?_some_of_lt Gs i (by rw [← hts.1]; exact lt_of_getElem?_some ht)
  have tok := hts.2 i t G ht hG
  obtain ⟨it0, hc0, hrev0, hsr0⟩ := setIdx_in_range hinv i (lt_of_getElem?_some ht)
  obtain ⟨it1, hrw, hrev1, hv, hout⟩ := apiRewind_out tok.ok tok.Gne it0
  obtain ⟨hon1, hc1, hsr1⟩ := onCur_ok hc0 ht (fun t it => it.apiRewind env t) hrw hrev1
  refine ⟨_, hc0.cur, hon1, hsr1.trans hsr0, hc1.valid_eq.trans hv,
    Or.inl ⟨i, it1, t, G, _, hc1, ht, hG, hout, hout.valid_iff.mp hv, ?_⟩⟩
  rw [fromTable_eq _ hG, hrev0, hsr1, hsr0]

theorem cnext_out (hts : TabsOK env ts Gs) {s : CIter} {e : Entry} {l : List Entry}
    (h : COut ts Gs s (e :: l)) :
    ∃ it, s.cur = some it ∧ decodeVS it.val = some e.vs ∧ (⟨it.key, e.vs⟩ : Entry) = e ∧
      ∃ s', s.next env ts = some s' ∧ COut ts Gs s' l := by
  rcases h with ⟨i, it, t, G, l₁, hc, ht, hG, hout, hne, hl⟩ | ⟨_, hl⟩
  · obtain ⟨e₁, l₁, rfl⟩ := List.exists_cons_of_ne_nil hne
    rw [List.cons_append] at hl
    obtain ⟨rfl, rfl⟩ := List.cons.inj hl
    have tok := hts.2 i t G ht hG
    obtain ⟨hd, hent, it', hap, hrev', hout'⟩ := apiNext_out tok.ok tok.exp_flatten hout
    obtain ⟨hon, hc', hsr⟩ := onCur_ok hc ht (fun t it => it.apiNext env t) hap hrev'
    refine ⟨it, hc.cur_eq, hd, hent, ?_⟩
    unfold CIter.next
    rw [hon, Option.bind_some, hc'.valid_eq]
    by_cases hv : it'.valid = true
    · rw [if_pos hv]
      exact ⟨_, rfl, Or.inl ⟨i, it', t, G, l₁, hc', ht, hG, hout', hout'.valid_iff.mp hv, by rw [hsr]⟩⟩
    · -- the table is exhausted: the loop of `Next` enters the neighbouring table, which is not empty
      have hnil : l₁ = [] := Classical.byContradiction fun h => hv (hout'.valid_iff.mpr h)
      subst hnil
      rw [if_neg hv, List.nil_append]
      have hil := lt_of_getElem?_some ht
      simp only [CIter.nextLoop, hc'.idx]
      cases hr : s.reversed with
      | false =>
        simp only [hsr.trans hr, Bool.not_false, if_true]
        rcases Nat.lt_or_ge (i + 1) ts.length with hlt | hge
        · obtain ⟨t', ht'⟩ := getElem?_some_of_lt ts (i + 1) hlt
          obtain ⟨s1, hcn, hent1, hsr1, hv1, hout1⟩ := enter_table (Gs := Gs) hts hc'.inv ht'
          rw [show ((i : Int) + 1) = ((i + 1 : Nat) : Int) from rfl]
          simp only [hcn, Bool.false_eq_true, if_false, hent1, Option.bind_some, hv1, if_true]
          rw [hsr, hr] at hout1
          exact ⟨_, rfl, hout1⟩
        · obtain ⟨hcn, hout1, _⟩ :=
            setIdx_out (ts := ts) (s := s.setCur it') ((i : Int) + 1) (Or.inr (by rw [hc'.inv.len]; omega))
          simp only [hcn, if_true]
          refine ⟨_, rfl, Or.inr ⟨hout1, ?_⟩⟩
          simp [later, flatAll, List.drop_of_length_le (show Gs.length ≤ i + 1 by rw [← hts.1]; exact hge)]
      | true =>
        simp only [hsr.trans hr, Bool.not_true, Bool.false_eq_true, if_false]
        cases i with
        | succ i' =>
          obtain ⟨t', ht'⟩ := getElem?_some_of_lt ts i' (by omega)
          obtain ⟨s1, hcn, hent1, hsr1, hv1, hout1⟩ := enter_table (Gs := Gs) hts hc'.inv ht'
          rw [show (((i' + 1 : Nat) : Int) - 1) = (i' : Int) by omega]
          simp only [hcn, Bool.false_eq_true, if_false, hent1, Option.bind_some, hv1, if_true]
          rw [hsr, hr] at hout1
          exact ⟨_, rfl, hout1⟩
        | zero =>
          obtain ⟨hcn, hout1, _⟩ :=
            setIdx_out (ts := ts) (s := s.setCur it') (((0 : Nat) : Int) - 1) (Or.inl (by omega))
          simp only [hcn, if_true]
          exact ⟨_, rfl, Or.inr ⟨hout1, rfl⟩⟩
  · cases hl

theorem cscan_out (hts : TabsOK env ts Gs) : ∀ (l : List Entry) (s : CIter), COut ts Gs s l →
    ∀ fuel, l.length < fuel → CIter.scan env ts fuel s = some l := by
  intro l
  induction l with
  | nil =>
    intro s h fuel hf
    obtain ⟨f, rfl⟩ := Nat.exists_eq_add_one_of_ne_zero (Nat.ne_of_gt hf)
    have : s.valid = false := by simpa using h.valid_iff
    simp [CIter.scan, this]
  | cons e l ih =>
    intro s h fuel hf
    obtain ⟨f, rfl⟩ := Nat.exists_eq_add_one_of_ne_zero (Nat.ne_of_gt (Nat.zero_lt_of_lt hf))
    obtain ⟨it, hcur, hd, hent, s', hstep, h'⟩ := cnext_out hts h
    simp only [CIter.scan, h.valid_iff.mpr (List.cons_ne_nil e l), if_true, hcur, hd, Option.bind_some, hstep,
      ih s' h' f (Nat.lt_of_succ_lt_succ hf), hent]

theorem concatEntries_ok (hts : TabsOK env ts Gs) (fuel : Nat) (hfuel : (flatAll Gs).length < fuel)
    (rev : Bool) :
    concatEntries env ts rev fuel = some (if rev then (flatAll Gs).reverse else flatAll Gs) := by
  have hinv := cinv_new ts rev
  have hrv : (newConcat ts rev).reversed = rev := rfl
  unfold concatEntries CIter.rewind
  rw [hinv.len, hrv]
  rcases Nat.eq_zero_or_pos ts.length with h0 | hpos
  · have hGs : Gs = [] := List.eq_nil_of_length_eq_zero (by rw [← hts.1, h0])
    subst hGs
    rw [if_pos h0, Option.bind_some, show (if rev then (flatAll []).reverse else flatAll []) = [] by cases rev <;> rfl]
    exact cscan_out hts [] _ (Or.inr ⟨rfl, rfl⟩) fuel hfuel
  · -- `Rewind` enters the first table in the direction of iteration: all of `flatAll Gs` is to come
    obtain ⟨t, ht⟩ := getElem?_some_of_lt ts (if rev then ts.length - 1 else 0) (by split <;> omega)
    obtain ⟨s1, _, hent, _, _, hout⟩ := enter_table (Gs := Gs) hts hinv ht
    have hall : fromTable rev Gs (if rev then ts.length - 1 else 0) =
        if rev then (flatAll Gs).reverse else flatAll Gs := by
      cases rev with
      | false => rfl
      | true => simp [fromTable, hts.1, Nat.sub_add_cancel (hts.1 ▸ hpos)]
    have hidx : (if !rev then (newConcat ts rev).setIdx 0 else (newConcat ts rev).setIdx ((ts.length : Int) - 1)) =
        (newConcat ts rev).setIdx ((if rev then ts.length - 1 else 0 : Nat) : Int) := by
      cases rev with
      | false => rfl
      | true => simp only [Bool.not_true, Bool.false_eq_true, if_false, if_true]; congr 1; omega
    rw [hrv, hall] at hout
    rw [if_neg (Nat.ne_of_gt hpos), hidx, hent, Option.bind_some]
    exact cscan_out hts _ s1 hout fuel (by split <;> simpa using hfuel)

end Badger.Tbl
