/-!
Go's bit tests on a byte (`b & (1 << i) != 0`, `b |= 1 << i`) in terms of `Nat.testBit`.
Apart from `Lemmas/Bits.lean` (meta bits on `Nat`), which imports `BadgerModel.Lsm`: its
`Badger.setBit` and the one of `BadgerModel.Bloom` have the same name, so nothing can import both;
this file imports neither.
-/
namespace Badger

theorem nat_and_two_pow_ne_zero (n i : Nat) : (n &&& 2 ^ i ≠ 0) ↔ n.testBit i = true := by
  constructor
  · intro h
    obtain ⟨j, hj⟩ := Nat.exists_testBit_of_ne_zero h
    rw [Nat.testBit_and, Nat.testBit_two_pow, Bool.and_eq_true, decide_eq_true_eq] at hj
    exact hj.2 ▸ hj.1
  · intro hb h
    have := congrArg (fun x => x.testBit i) h
    simp [Nat.testBit_and, hb] at this

theorem u8_mask_toNat (i : Nat) (hi : i < 8) : ((1 : UInt8) <<< UInt8.ofNat i).toNat = 2 ^ i := by
  rw [UInt8.toNat_shiftLeft, UInt8.toNat_ofNat', UInt8.toNat_one, Nat.one_shiftLeft,
    Nat.mod_eq_of_lt (Nat.lt_trans hi (by decide)), Nat.mod_eq_of_lt hi]
  exact Nat.mod_eq_of_lt (Nat.pow_lt_pow_right (by decide) hi)

theorem u8_testMask (b : UInt8) (i : Nat) (hi : i < 8) :
    ((b &&& ((1 : UInt8) <<< UInt8.ofNat i)) != 0) = b.toNat.testBit i := by
  have h : (b &&& ((1 : UInt8) <<< UInt8.ofNat i)) = 0 ↔ ¬ b.toNat.testBit i = true := by
    rw [← nat_and_two_pow_ne_zero, ← UInt8.toNat_inj, UInt8.toNat_and, u8_mask_toNat i hi]
    simp
  cases hb : b.toNat.testBit i <;> simp [bne_iff_ne, h, hb]

theorem u8_setMask_testBit (b : UInt8) (i j : Nat) (hi : i < 8) :
    (b ||| ((1 : UInt8) <<< UInt8.ofNat i)).toNat.testBit j = (b.toNat.testBit j || decide (i = j)) := by
  rw [UInt8.toNat_or, u8_mask_toNat i hi, Nat.testBit_or, Nat.testBit_two_pow]

end Badger
