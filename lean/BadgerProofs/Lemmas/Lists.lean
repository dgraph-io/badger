/-!
Facts about core `List` (and `if`) that mention nothing of the model: a list sorted by an asymmetric
relation is determined by its members; on such a list `takeWhile`/`dropWhile` of a downward-closed
predicate are filters, and a test the relation carries forward holds somewhere iff it holds of the
last member; the running maximum of a fold; insertion sorts permute; one position of `List.set`;
`take` of `a ++ b` by where the cut falls; a concatenation (`flatten`) around one or two of its
pieces, kept or replaced, its members when it is a `flatten` of a `map`, and a `find?` through it
(first the piece, then inside it); two members of a list pairwise related by a symmetric relation
are equal or related, so pairwise distinct keys determine the member; `findIdx` of a predicate that
stays true (`sort.Search`); the buckets of a list by a key hold the list; a `List.range'` is the one from its
own head and length.

Lists used as maps: entries carry a key `f x`, a lookup is `find? (f · == k)`, and an update drops
the entries of the key (`filter (f · != n)`) before appending the new one.
-/
namespace Badger

theorem ite_eq_iff {α : Sort _} {c : Prop} [Decidable c] {a b x : α} :
    (if c then a else b) = x ↔ (c ∧ a = x) ∨ (¬ c ∧ b = x) := by
  split <;> simp [*]

theorem getElem?_set_cases {α : Type} {l : List α} {i j : Nat} {a y : α} (h : (l.set i a)[j]? = some y) :
    (j = i ∧ y = a ∧ i < l.length) ∨ (j ≠ i ∧ l[j]? = some y) := by
  rw [List.getElem?_set] at h
  split at h
  · split at h
    · exact .inl ⟨‹i = j›.symm, (Option.some.inj h).symm, ‹_›⟩
    · cases h
  · exact .inr ⟨fun e => ‹¬ i = j› e.symm, h⟩

theorem foldl_max_spec {α : Type} (f : α → Nat) (l : List α) (init : Nat) :
    init ≤ l.foldl (fun m x => if m < f x then f x else m) init ∧
    (∀ x ∈ l, f x ≤ l.foldl (fun m x => if m < f x then f x else m) init) ∧
    (l.foldl (fun m x => if m < f x then f x else m) init = init ∨
      ∃ x ∈ l, f x = l.foldl (fun m x => if m < f x then f x else m) init) := by
  induction l generalizing init with
  | nil => simp
  | cons a l ih =>
    simp only [List.foldl_cons, List.mem_cons, forall_eq_or_imp, exists_eq_or_imp]
    obtain ⟨h1, h2, h3⟩ := ih (if init < f a then f a else init)
    by_cases hc : init < f a
    · rw [if_pos hc] at h1 h2 h3 ⊢
      exact ⟨by omega, ⟨h1, h2⟩, h3.elim (fun h => .inr (.inl h.symm)) (fun h => .inr (.inr h))⟩
    · rw [if_neg hc] at h1 h2 h3 ⊢
      exact ⟨h1, ⟨by omega, h2⟩, h3.imp id .inr⟩

theorem foldl_max_ge {α : Type} (f : α → Nat) (l : List α) (a : Nat) :
    a ≤ l.foldl (fun m x => max m (f x)) a ∧ ∀ x ∈ l, f x ≤ l.foldl (fun m x => max m (f x)) a := by
  have : (fun m x => max m (f x)) = fun m x => if m < f x then f x else m := by
    funext m x
    by_cases h : m < f x
    · rw [if_pos h, Nat.max_eq_right (Nat.le_of_lt h)]
    · rw [if_neg h, Nat.max_eq_left (Nat.le_of_not_lt h)]
  rw [this]
  exact ⟨(foldl_max_spec f l a).1, (foldl_max_spec f l a).2.1⟩

theorem getElem?_some_of_lt {α : Type} (l : List α) (i : Nat) (h : i < l.length) :
    ∃ a, l[i]? = some a := ⟨l[i], List.getElem?_eq_getElem h⟩

theorem lt_of_getElem?_some {α : Type} {l : List α} {i : Nat} {a : α} (h : l[i]? = some a) :
    i < l.length :=
  (List.getElem?_eq_some_iff.mp h).1

theorem getElem?_append_some {α : Type} (l l' : List α) (i : Nat) (x : α) (h : l[i]? = some x) :
    (l ++ l')[i]? = some x := by
  rw [List.getElem?_append_left (lt_of_getElem?_some h)]; exact h

theorem take_append_cases {α : Type} (a b : List α) (j : Nat) :
    (j < a.length ∧ (a ++ b).take j = a.take j) ∨
    (a.length ≤ j ∧ (a ++ b).take j = a ++ b.take (j - a.length)) := by
  by_cases h : j < a.length
  · exact Or.inl ⟨h, List.take_append_of_le_length (by omega)⟩
  · refine Or.inr ⟨by omega, ?_⟩
    rw [List.take_append, List.take_of_length_le (by omega)]

theorem drop_eq_cons_of_get {α : Type} {l : List α} {r : Nat} {e : α} (h : l[r]? = some e) :
    l.drop r = e :: l.drop (r + 1) := by
  obtain ⟨hr, rfl⟩ := List.getElem?_eq_some_iff.mp h
  exact List.drop_eq_getElem_cons hr

theorem flatten_split {α : Type} {L : List (List α)} {i : Nat} {c : List α} (h : L[i]? = some c) :
    L.flatten = (L.take i).flatten ++ (c ++ (L.drop (i + 1)).flatten) := by
  rw [← List.flatten_cons, ← drop_eq_cons_of_get h, ← List.flatten_append, List.take_append_drop]

theorem take_succ_of_get {α : Type} {l : List α} {r : Nat} {e : α} (h : l[r]? = some e) :
    l.take (r + 1) = l.take r ++ [e] := by
  rw [List.take_add_one, h]; rfl

theorem take_succ_flatten_length {α : Type} (G : List (List α)) (j : Nat) (g : List α)
    (hg : G[j]? = some g) :
    (G.take (j + 1)).flatten.length = (G.take j).flatten.length + g.length := by
  rw [take_succ_of_get hg, List.flatten_append, List.length_append, List.flatten_singleton]

theorem flatten_getElem? {α : Type} (G : List (List α)) (j r : Nat) (g : List α) (e : α)
    (hg : G[j]? = some g) (he : g[r]? = some e) :
    G.flatten[(G.take j).flatten.length + r]? = some e := by
  rw [flatten_split hg, List.getElem?_append_right (Nat.le_add_right _ _), Nat.add_sub_cancel_left,
    List.getElem?_append_left (lt_of_getElem?_some he)]
  exact he

theorem flatten_set {α : Type} {l : List (List α)} {j : Nat} (hj : j < l.length) (x : List α) :
    (l.set j x).flatten = (l.take j).flatten ++ (x ++ (l.drop (j + 1)).flatten) := by
  rw [List.set_eq_take_append_cons_drop, if_pos hj, List.flatten_append, List.flatten_cons]

theorem flatten_set_set {α : Type} {l : List (List α)} {p q : Nat} (hpq : p < q) (hq : q < l.length)
    (x y : List α) :
    ((l.set q y).set p x).flatten =
      (l.take p).flatten ++ (x ++ (((l.drop (p + 1)).take (q - p - 1)).flatten ++ (y ++ (l.drop (q + 1)).flatten))) := by
  rw [flatten_set (by rw [List.length_set]; omega), List.take_set, List.set_eq_of_length_le (by rw [List.length_take]; omega),
    List.drop_set, if_neg (by omega), flatten_set (by rw [List.length_drop]; omega), List.drop_drop]
  have h1 : q - (p + 1) = q - p - 1 := by omega
  have h2 : p + 1 + (q - p - 1 + 1) = q + 1 := by omega
  rw [h1, h2]

theorem flatten_split_two {α : Type} {l : List (List α)} {p q : Nat} (hpq : p < q) (hq : q < l.length) :
    l.flatten = (l.take p).flatten ++ (l[p]'(by omega) ++
      (((l.drop (p + 1)).take (q - p - 1)).flatten ++ (l[q] ++ (l.drop (q + 1)).flatten))) := by
  have := flatten_set_set hpq hq (l[p]'(by omega)) l[q]
  rwa [List.set_getElem_self, List.set_getElem_self] at this

theorem mem_insertNew {α : Type} [DecidableEq α] {a x : α} {t : List α} :
    x ∈ (if a ∈ t then t else a :: t) ↔ x = a ∨ x ∈ t := by
  split
  · rename_i h
    exact ⟨Or.inr, fun h' => h'.elim (fun e => e ▸ h) id⟩
  · exact List.mem_cons

theorem foldl_congr_mem {α β : Type} {f g : β → α → β} {l : List α} (h : ∀ b, ∀ x ∈ l, f b x = g b x)
    (init : β) : l.foldl f init = l.foldl g init :=
  List.foldl_rel (r := Eq) rfl fun x hx b _ e => e ▸ h b x hx

theorem mem_flatten_map {α β : Type} (f : α → List β) (l : List α) (e : β) :
    e ∈ (l.map f).flatten ↔ ∃ x ∈ l, e ∈ f x := by
  rw [← List.flatMap_def, List.mem_flatMap]

theorem getD_eq_getElem {α : Type} (l : List α) (d : α) {i : Nat} (h : i < l.length) : l.getD i d = l[i] :=
  (List.getElem_eq_getD d).symm

theorem flatten_sublist {α : Type} {L1 L2 : List (List α)} (h : L1.Sublist L2) :
    L1.flatten.Sublist L2.flatten := by
  induction h with
  | slnil => exact List.Sublist.refl _
  | cons a _ ih => exact ih.trans (List.sublist_append_right _ _)
  | cons_cons a _ ih => exact List.Sublist.append (List.Sublist.refl a) ih

theorem find?_units {α U : Type} (el : U → List α) (P : α → Bool) : ∀ us : List U,
    (us.map el).flatten.find? P = (us.find? fun u => (el u).any P).bind fun u => (el u).find? P
  | [] => rfl
  | u :: us => by
    rw [List.map_cons, List.flatten_cons, List.find?_append, List.find?_cons, find?_units el P us]
    cases h : (el u).any P with
    | true =>
      obtain ⟨x, hx⟩ := Option.isSome_iff_exists.mp (List.find?_isSome.mpr (List.any_eq_true.mp h))
      rw [hx]; exact hx.symm
    | false =>
      rw [List.find?_eq_none.mpr fun x hx => by simpa using List.any_eq_false.mp h x hx]
      rfl

/-- Insertion sorts permute: a step either passes the head or stops in front of it. -/
theorem insert_perm {α : Type} {ins : α → List α → List α} (h0 : ∀ t, ins t [] = [t])
    (h1 : ∀ t x xs, ins t (x :: xs) = x :: ins t xs ∨ ins t (x :: xs) = t :: x :: xs) (t : α) (xs : List α) :
    (ins t xs).Perm (t :: xs) := by
  induction xs with
  | nil => rw [h0]
  | cons x xs ih =>
    rcases h1 t x xs with h | h <;> rw [h]
    exact (ih.cons x).trans (List.Perm.swap t x xs)

theorem foldr_insert_perm {α : Type} {ins : α → List α → List α} (h0 : ∀ t, ins t [] = [t])
    (h1 : ∀ t x xs, ins t (x :: xs) = x :: ins t xs ∨ ins t (x :: xs) = t :: x :: xs) (l : List α) :
    (l.foldr ins []).Perm l := by
  induction l with
  | nil => exact .refl _
  | cons t l ih => exact (insert_perm h0 h1 t _).trans (ih.cons t)

section Sorted
variable {α : Type} {R : α → α → Prop}

theorem nodup_of_pairwise (hirr : ∀ a, ¬ R a a) {l : List α} (h : l.Pairwise R) : l.Nodup :=
  List.Pairwise.imp (S := (· ≠ ·)) (fun hab e => hirr _ (e ▸ hab)) h

theorem pairwise_getLast {l : List α} (h : l.Pairwise R) {b : α} (hb : l.getLast? = some b) :
    ∀ x ∈ l, x = b ∨ R x b := by
  obtain ⟨l', rfl⟩ := List.getLast?_eq_some_iff.mp hb
  intro x hx
  rcases List.mem_append.mp hx with hx | hx
  · exact .inr ((List.pairwise_append.mp h).2.2 x hx b (List.mem_singleton.mpr rfl))
  · exact .inl (List.mem_singleton.mp hx)

theorem any_eq_last {P : α → Bool} {l : List α} (h : l.Pairwise R)
    (hP : ∀ {a b}, R a b → P a = true → P b = true) {b : α} (hb : l.getLast? = some b) : l.any P = P b := by
  rw [Bool.eq_iff_iff, List.any_eq_true]
  exact ⟨fun ⟨x, hx, hPx⟩ => (pairwise_getLast h hb x hx).elim (· ▸ hPx) (hP · hPx),
    fun hPb => ⟨b, List.mem_of_getLast? hb, hPb⟩⟩

theorem pairwise_ext (hasym : ∀ a b, R a b → ¬ R b a) {l1 l2 : List α} (h1 : l1.Pairwise R)
    (h2 : l2.Pairwise R) (h : ∀ x, x ∈ l1 ↔ x ∈ l2) : l1 = l2 :=
  have hirr : ∀ a, ¬ R a a := fun a h => hasym a a h h
  List.Perm.eq_of_pairwise (le := R) (fun a b _ _ hab hba => absurd hba (hasym a b hab)) h1 h2
    ((List.perm_ext_iff_of_nodup (nodup_of_pairwise hirr h1) (nodup_of_pairwise hirr h2)).mpr h)

theorem dropWhile_eq_filter (p : α → Bool) (l : List α)
    (h : l.Pairwise (fun a b => p b = true → p a = true)) :
    l.dropWhile p = l.filter (fun x => !p x) := by
  induction l with
  | nil => rfl
  | cons a r ih =>
    rw [List.pairwise_cons] at h
    simp only [List.dropWhile_cons, List.filter_cons]
    cases hpa : p a with
    | true => simp [ih h.2]
    | false =>
      simp only [Bool.false_eq_true, if_false, Bool.not_false, if_true, List.cons.injEq, true_and]
      symm
      rw [List.filter_eq_self]
      intro x hx
      cases hpx : p x with
      | false => rfl
      | true => rw [h.1 x hx hpx] at hpa; cases hpa

theorem takeWhile_eq_filter (p : α → Bool) (l : List α)
    (h : l.Pairwise (fun a b => p b = true → p a = true)) :
    l.takeWhile p = l.filter p := by
  induction l with
  | nil => rfl
  | cons a r ih =>
    rw [List.pairwise_cons] at h
    simp only [List.takeWhile_cons, List.filter_cons]
    cases hpa : p a with
    | true => simp [ih h.2]
    | false =>
      simp only [Bool.false_eq_true, if_false]
      symm
      rw [List.filter_eq_nil_iff]
      intro x hx hpx
      rw [h.1 x hx hpx] at hpa; cases hpa

theorem takeWhile_eq_self {α : Type} (p : α → Bool) (l : List α) (h : ∀ x ∈ l, p x = true) : l.takeWhile p = l := by
  simpa using List.takeWhile_append_of_pos (l₂ := []) h

theorem mem_takeWhile_imp {α : Type} {p : α → Bool} {l : List α} {x : α} (h : x ∈ l.takeWhile p) : p x = true :=
  List.all_eq_true.mp List.all_takeWhile x h

theorem dropWhile_head_neg {α : Type} (p : α → Bool) (r : List α)
    (h : ∀ a, r.head? = some a → p a = false) : r.dropWhile p = r := by
  cases r with
  | nil => rfl
  | cons a r => simp [h a rfl]

theorem mem_dropWhile_of_pairwise {m : List α} (hm : m.Pairwise R) (p : α → Bool)
    (hp : ∀ a b, R a b → p b = true → p a = true) (x : α) :
    x ∈ m.dropWhile p ↔ x ∈ m ∧ p x = false := by
  rw [dropWhile_eq_filter p m (hm.imp (hp _ _)), List.mem_filter, Bool.not_eq_true']
end Sorted

theorem pairwise_sym_forall {α : Type} {R : α → α → Prop} (hs : ∀ {a b}, R a b → R b a) {l : List α}
    (h : l.Pairwise R) {a b : α} (ha : a ∈ l) (hb : b ∈ l) : a = b ∨ R a b :=
  List.Pairwise.forall_of_forall_of_flip (R := fun a b => a = b ∨ R a b) (fun _ _ => .inl rfl)
    (h.imp .inr) (h.imp (S := flip fun a b => a = b ∨ R a b) fun r => .inr (hs r)) ha hb

theorem eq_of_key_eq {α κ : Type} (f : α → κ) {l : List α} (h : l.Pairwise (fun x y => f x ≠ f y)) {a b : α}
    (ha : a ∈ l) (hb : b ∈ l) (hk : f a = f b) : a = b :=
  (pairwise_sym_forall Ne.symm h ha hb).resolve_right (not_not_intro hk)

theorem eq_of_nodup_map {α β : Type} (f : α → β) (l : List α) (hn : (l.map f).Nodup) (a b : α)
    (ha : a ∈ l) (hb : b ∈ l) (h : f a = f b) : a = b :=
  eq_of_key_eq f (List.pairwise_map.mp hn) ha hb h

section Assoc

variable {α κ : Type} [BEq κ] (f : α → κ)

theorem find?_filter_key_self (l : List α) (n : κ) :
    (l.filter (fun x => f x != n)).find? (fun x => f x == n) = none := by
  refine List.find?_eq_none.mpr fun x hx hx' => ?_
  have := (List.mem_filter.mp hx).2
  rw [bne, hx'] at this
  exact Bool.false_ne_true this

variable [LawfulBEq κ]

theorem find?_filter_key_ne (l : List α) {k n : κ} (hne : k ≠ n) :
    (l.filter (fun x => f x != n)).find? (fun x => f x == k) = l.find? (fun x => f x == k) := by
  induction l with
  | nil => rfl
  | cons x xs ih =>
    rw [List.filter_cons]
    by_cases hx : f x = n
    · rw [if_neg (by rw [hx, bne_self_eq_false]; exact Bool.false_ne_true), ih, List.find?_cons,
        beq_eq_false_iff_ne.mpr (hx ▸ Ne.symm hne)]
    · rw [if_pos (bne_iff_ne.mpr hx), List.find?_cons, List.find?_cons, ih]

theorem key_of_find? {l : List α} {k : κ} {o : α} (h : l.find? (fun x => f x == k) = some o) :
    f o = k :=
  eq_of_beq (List.find?_some (p := fun x => f x == k) h)

theorem find?_key_of_mem {l : List α} (h : l.Pairwise (fun x y => f x ≠ f y)) {p : α} (hp : p ∈ l) :
    l.find? (fun x => f x == f p) = some p := by
  obtain ⟨as, bs, rfl⟩ := List.append_of_mem hp
  rw [List.find?_eq_some_iff_append]
  refine ⟨beq_self_eq_true _, as, bs, rfl, fun a ha => ?_⟩
  rw [Bool.not_eq_true', beq_eq_false_iff_ne]
  exact (List.pairwise_append.mp h).2.2 a ha p List.mem_cons_self

end Assoc

/-- `sort.Search` with a predicate that, once true, stays true along the list -/
theorem findIdx_le_iff_of_mono {α : Type} {p : α → Bool} {l : List α}
    (hmono : ∀ i j (hi : i < l.length) (hj : j < l.length), i < j → p l[i] = true → p l[j] = true)
    {j : Nat} (hj : j < l.length) : l.findIdx p ≤ j ↔ p l[j] = true := by
  constructor
  · intro hle
    have hlt : l.findIdx p < l.length := Nat.lt_of_le_of_lt hle hj
    have h0 : p l[l.findIdx p] = true := List.findIdx_getElem
    rcases Nat.lt_or_eq_of_le hle with h1 | h1
    · exact hmono _ _ hlt hj h1 h0
    · simpa only [h1] using h0
  · intro hp
    apply Nat.le_of_not_lt
    intro hlt
    have := List.not_of_lt_findIdx hlt
    rw [hp] at this
    cases this

theorem takeWhile_length_eq_findIdx {α : Type} {p q : α → Bool} {l : List α} (h : ∀ a ∈ l, p a = !q a) :
    (l.takeWhile p).length = l.findIdx q := by
  induction l with
  | nil => rfl
  | cons a l ih =>
    rw [List.takeWhile_cons, List.findIdx_cons, h a List.mem_cons_self]
    cases q a
    · simp [ih fun b hb => h b (List.mem_cons_of_mem _ hb)]
    · rfl

theorem head?_dropWhile {α : Type} (p : α → Bool) (l : List α) :
    (l.dropWhile p).head? = l.find? (fun a => !p a) := by
  induction l with
  | nil => rfl
  | cons a l ih => rw [List.dropWhile_cons, List.find?_cons]; cases p a <;> simp [ih]

theorem buckets_perm {α : Type} (key : α → Nat) (S : List Nat) (hS : S.Nodup) (l : List α)
    (hc : ∀ x ∈ l, key x ∈ S) : (S.map (fun s => l.filter (key · == s))).flatten.Perm l := by
  induction S generalizing l with
  | nil =>
    cases l with
    | nil => exact .refl _
    | cons x l => exact absurd (hc x (by simp)) (by simp)
  | cons s S ih =>
    obtain ⟨hs, hS'⟩ := List.nodup_cons.mp hS
    rw [List.map_cons, List.flatten_cons]
    refine .trans (.append_left _ ?_) (List.filter_append_perm (key · == s) l)
    -- the other buckets are those of the elements with another key
    have : S.map (fun s' => l.filter (key · == s')) =
        S.map (fun s' => (l.filter (fun x => !(key x == s))).filter (key · == s')) := by
      refine List.map_congr_left fun s' hs' => ?_
      rw [List.filter_filter]
      refine List.filter_congr fun x _ => ?_
      by_cases h : key x = s' <;> simp [h]
      rintro rfl; exact hs hs'
    rw [this]
    refine ih hS' _ fun x hx => ?_
    obtain ⟨hx1, hx2⟩ := List.mem_filter.mp hx
    exact (List.mem_cons.mp (hc x hx1)).resolve_left (by simpa using hx2)

theorem head?_append_of_ne_nil {α : Type} (a b : List α) (h : a ≠ []) : (a ++ b).head? = a.head? := by
  cases a with
  | nil => exact absurd rfl h
  | cons x xs => rfl

theorem range'_eq_headD (a m : Nat) :
    List.range' a m = List.range' ((List.range' a m).headD 0) (List.range' a m).length := by
  cases m <;> simp [List.range'_succ]

end Badger
