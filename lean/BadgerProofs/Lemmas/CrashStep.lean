import BadgerProofs.Lemmas.CrashInv
/-!
Preservation of `Inv` by the atoms of the writer that touch a WAL and by those of a compaction: what the
guards say, what `InvMem` and `InvSst` keep under the updates these atoms make, then one lemma per atom, stated
on the atom itself (`a.guard s → Inv … (a.rawEff s) (krun F (a.rawOps s))`). `kmset_facts` (what the change set
of a compaction does to the table set and to what the tables hold) also serves the power-loss side.
-/
namespace Badger

theorem txnsChunks_append (a b : List Txn) : txnsChunks (a ++ b) = txnsChunks a ++ txnsChunks b := by
  simp [txnsChunks]

theorem flusherHolds_false {s : PState} {id : Nat} (h : s.flusherHolds id = false) :
    s.imm ≠ [] → 1 ≤ s.fpc → s.fpc ≤ 4 → s.fsst ≠ id := by
  intro h1 h2 h3 h4
  have : s.imm.isEmpty = false := by simpa using h1
  simp [PState.flusherHolds, this, h2, h3, h4] at h

section guards
variable {s : PState}

/-- an atom does what `rawOps`, `rawEff` say when its guard holds, and nothing otherwise -/
theorem Atom.guarded {motive : List FsOp → PState → Prop} (a : Atom) (h0 : motive [] s)
    (h1 : a.guard s = true → motive (a.rawOps s) (a.rawEff s)) : motive (a.ops s) (a.eff s) := by
  unfold Atom.ops Atom.eff
  by_cases hg : a.guard s = true
  · rw [if_pos hg, if_pos hg]; exact h1 hg
  · rw [if_neg hg, if_neg hg]; exact h0

theorem Atom.guard_vtrunc (h : Atom.vtrunc.guard s = true) : 1 ≤ s.vchunks := by
  simpa [Atom.guard] using h

theorem Atom.guard_pushImm (h : Atom.pushImm.guard s = true) :
    s.curOpen = true ∧ s.pending = [] ∧
      (s.cfg.syncWrites = true → s.curDirty = false ∧ (s.cfg.dirSyncFix = true → s.curDurEntry = true)) := by
  simp only [Atom.guard, Bool.and_eq_true, Bool.or_eq_true, Bool.not_eq_true', List.isEmpty_iff] at h
  refine ⟨h.1.1, h.1.2, fun hs => ?_⟩
  rcases h.2 with h2 | h2
  · rw [hs] at h2; cases h2
  · refine ⟨h2.1, fun hf => ?_⟩
    rcases h2.2 with h3 | h3
    · rw [hf] at h3; cases h3
    · exact h3

theorem Atom.guard_ack (h : Atom.ack.guard s = true) :
    s.acked < s.done ∧ (s.cfg.syncWrites = true →
      s.curOpen = true ∧ s.curDirty = false ∧ (s.cfg.dirSyncFix = true → s.curDurEntry = true)) := by
  simp only [Atom.guard, Bool.and_eq_true, Bool.or_eq_true, Bool.not_eq_true', decide_eq_true_eq] at h
  refine ⟨h.1, fun hs => ?_⟩
  rcases h.2 with h2 | h2
  · rw [hs] at h2; cases h2
  · refine ⟨h2.1.1, h2.1.2, fun hf => ?_⟩
    rcases h2.2 with h3 | h3
    · rw [hf] at h3; cases h3
    · exact h3

theorem Atom.guard_newMem (h : Atom.newMem.guard s = true) : s.curOpen = false ∧ s.pending = [] := by
  simpa [Atom.guard] using h

theorem Atom.guard_mhdr (h : Atom.mhdr.guard s = true) : s.curOpen = true ∧ s.curHdr = false := by
  simpa [Atom.guard] using h

theorem Atom.guard_wput {e : CEnt} (h : (Atom.wput e).guard s = true) : s.curOpen = true ∧ s.curHdr = true := by
  simp only [Atom.guard, Bool.and_eq_true] at h
  exact h.1

theorem Atom.guard_fin (h : Atom.fin.guard s = true) :
    ∃ t, s.inflight = some t ∧ s.curOpen = true ∧ s.curHdr = true ∧ s.pending = t.ents ∧ t.ents ≠ [] ∧ t.ts ≠ 0 := by
  cases hinf : s.inflight with
  | none => simp [Atom.guard, hinf] at h
  | some t => exact ⟨t, rfl, by simpa [Atom.guard, hinf, and_assoc] using h⟩

/-- `kmk` (`st = 0`) and `kwrite` (`st = 1`) have the same guard up to the stage of the output -/
theorem guard_kout {id st : Nat}
    (h : (s.kout.any (fun o => o.id == id && o.stage == st) && !s.flusherHolds id && (aget id s.tset).isNone &&
      (aget id s.tsetD).isNone) = true) :
    (∃ o ∈ s.kout, o.id = id ∧ o.stage = st) ∧ (s.imm ≠ [] → 1 ≤ s.fpc → s.fpc ≤ 4 → s.fsst ≠ id) ∧
      aget id s.tset = none ∧ aget id s.tsetD = none := by
  simp only [Bool.and_eq_true, Bool.not_eq_true', List.any_eq_true, Option.isNone_iff_eq_none, beq_iff_eq] at h
  exact ⟨h.1.1.1, flusherHolds_false h.1.1.2, h.1.2, h.2⟩

theorem Atom.guard_kdel {id : Nat} (h : (Atom.kdel id).guard s = true) :
    aget id s.tset = none ∧ (s.imm ≠ [] → 1 ≤ s.fpc → s.fpc ≤ 4 → s.fsst ≠ id) ∧ (∀ o ∈ s.kout, o.id ≠ id) ∧
      s.mdirty = false := by
  simp only [Atom.guard, Bool.and_eq_true, Bool.not_eq_true', Option.isNone_iff_eq_none, List.any_eq_false,
    beq_iff_eq] at h
  exact ⟨h.1.1.1.2, flusherHolds_false h.1.1.2, h.1.2, h.2⟩

theorem Atom.guard_kmset (h : Atom.kmset.guard s = true) :
    s.kins ≠ [] ∧ (∀ o ∈ s.kout, o.stage = 3 ∧ aget o.id s.tset = none) ∧ s.mdirty = false ∧ s.kdir = true ∧
      (∀ x ∈ s.pendU, x.2 ∉ s.kins) ∧ (∃ t', applyMSet s.tset (kmsetChanges s) = some t') ∧
      (s.imm ≠ [] → 5 ≤ s.fpc → s.fsst ∉ s.kins) := by
  simp only [Atom.guard, Bool.and_eq_true, Bool.not_eq_true', List.all_eq_true, Option.isNone_iff_eq_none,
    beq_iff_eq, List.isEmpty_eq_false_iff, Option.isSome_iff_exists, Bool.and_eq_false_iff,
    decide_eq_false_iff_not, List.contains_eq_mem] at h
  obtain ⟨⟨⟨⟨⟨⟨⟨⟨⟨h1, h2⟩, h3⟩, h4⟩, h5⟩, _⟩, _⟩, _⟩, h9⟩, h10⟩ := h
  refine ⟨h1, h2, h3, h4, h5, h9, fun hi h5' hin => ?_⟩
  rcases h10 with (h | h) | h
  · exact hi (by simpa using h)
  · omega
  · exact h hin

end guards

section region
variable {R : ViewRel} {imm : List Nat} {curHdr : Bool} {cur nextMem : Nat} {mtxns : List (Nat × List Txn)} {pts : Nat}
  {Fm : Nat → Option Inode} {tset : List (Nat × Nat)} {tcont : List (Nat × List CEnt)} {fpc fsst nextSst : Nat}
  {kins : List Nat} {kout : List KOut} {Fs : Nat → Option Inode}

theorem InvMem_pushImm (h : InvMem imm true curHdr cur nextMem mtxns pts [] Fm) :
    InvMem (imm ++ [cur]) false curHdr cur nextMem mtxns pts [] Fm :=
  { h with
    memKnown := by
      intro n hn
      rcases h.memKnown n hn with h1 | ⟨_, h1⟩
      · exact Or.inl (List.mem_append_left _ h1)
      · exact Or.inl (by simp [h1])
    immFiles := by
      intro k hk
      rcases List.mem_append.mp hk with h1 | h1
      · exact h.immFiles k h1
      · have : k = cur := by simpa using h1
        subst this
        exact h.curReplay rfl
    curFile := by intro h1; cases h1
    immLt := by
      intro k hk
      rcases List.mem_append.mp hk with h1 | h1
      · exact h.immLt k h1
      · have : k = cur := by simpa using h1
        subst this; exact h.curLt
    curNotImm := by intro h1; cases h1
    immNodup := by
      rw [List.nodup_append]
      exact ⟨h.immNodup, by simp, by intro a ha b hb; have : b = cur := by simpa using hb
                                     subst this; exact fun e => h.curNotImm rfl (e ▸ ha)⟩ }

theorem InvSst_imm_append (c : Nat) (h : InvSst R tset tcont imm mtxns fpc fsst nextSst kins kout Fs) :
    InvSst R tset tcont (imm ++ [c]) mtxns fpc fsst nextSst kins kout Fs :=
  -- a flusher that has started has a memtable to flush, and that one stays the first
  have hne : 1 ≤ fpc → imm ≠ [] := fun h1 e => by have := h.idle e; omega
  { h with
    idle := by intro h1; simp at h1
    fsstLt := fun _ h2 => h.fsstLt (hne h2) h2
    flush1 := fun _ h2 => h.flush1 (hne (by omega)) h2
    flush2 := by
      intro k hk h2 h4
      rw [head?_append_of_ne_nil _ _ (hne (by omega))] at hk
      exact h.flush2 k hk h2 h4
    flush5 := by
      intro k hk h5
      rw [head?_append_of_ne_nil _ _ (hne (by omega))] at hk
      exact h.flush5 k hk h5 }

theorem InvMem_newMem (h : InvMem imm false curHdr cur nextMem mtxns pts [] Fm) :
    InvMem imm true false nextMem (nextMem + 1) mtxns pts []
      (fun n => if n = nextMem then some { chunks := [], size := .alloc } else Fm n) where
  memNZ := by
    intro n f hf
    by_cases hn : n = nextMem
    · simp [hn] at hf; subst hf; simp
    · simp [hn] at hf; exact h.memNZ n f hf
  memKnown := by
    intro n hn
    by_cases hn2 : n = nextMem
    · exact Or.inr ⟨rfl, hn2⟩
    · simp [hn2] at hn
      rcases h.memKnown n hn with h1 | ⟨h1, _⟩
      · exact Or.inl h1
      · cases h1
  immFiles := by
    intro k hk
    have : k ≠ nextMem := by have := h.immLt k hk; omega
    simp only [this, if_false]
    exact h.immFiles k hk
  curFile := by
    intro _
    exact ⟨{ chunks := [], size := .alloc }, by simp, rfl⟩
  curTxns := by
    rw [(h.memFresh nextMem (Nat.le_refl _)).2]
    intro t ht; simp at ht
  noHdr := by
    intro _
    rw [(h.memFresh nextMem (Nat.le_refl _)).2]
    simp
  memFresh := by
    intro n hn
    have h1 := h.memFresh n (by omega)
    have : n ≠ nextMem := by omega
    simp [this, h1.1, h1.2]
  curLt := by omega
  immLt := by intro k hk; have := h.immLt k hk; omega
  curNotImm := by
    intro _ hk
    have := h.immLt _ hk; omega
  immNodup := h.immNodup

/-- an append to the active WAL that turns its chunk list into the next protocol shape -/
theorem InvMem_curAppend {curHdr' : Bool} {mtxns' : List (Nat × List Txn)} {pts' : Nat}
    {pending pending' : List CEnt} {c : Chunk}
    (h : InvMem imm true curHdr cur nextMem mtxns pts pending Fm)
    (hshape : walChunks curHdr ((aget cur mtxns).getD []) pts pending ++ [c] =
      walChunks curHdr' ((aget cur mtxns').getD []) pts' pending')
    (hother : ∀ k, k ≠ cur → aget k mtxns' = aget k mtxns)
    (hok : TxnsOk ((aget cur mtxns').getD []))
    (hnh : curHdr' = false → (aget cur mtxns').getD [] = [] ∧ pending' = []) :
    InvMem imm true curHdr' cur nextMem mtxns' pts' pending'
      (fun n => if n = cur then (Fm cur).map (appendChunk c) else Fm n) :=
  { h with
    memNZ := by
      intro n f hf
      by_cases hn : n = cur
      · simp only [hn, if_true] at hf
        exact size_ne_zero_of_map_appendChunk hf
      · simp only [hn, if_false] at hf; exact h.memNZ n f hf
    memKnown := by
      intro n hn
      by_cases hn2 : n = cur
      · exact Or.inr ⟨rfl, hn2⟩
      · simp only [hn2, if_false] at hn; exact h.memKnown n hn
    immFiles := by
      intro k hk
      have hne : k ≠ cur := fun e => h.curNotImm rfl (e ▸ hk)
      simp only [hne, if_false]
      obtain ⟨f, hf, he⟩ := h.immFiles k hk
      refine ⟨f, hf, ?_⟩
      rw [he]; unfold entsOfMem; rw [hother k hne]
    curFile := by
      intro _
      obtain ⟨f, hf, hc⟩ := h.curFile rfl
      refine ⟨appendChunk c f, by simp [hf], ?_⟩
      simp only [appendChunk, hc]
      exact hshape
    curTxns := hok
    noHdr := hnh
    memFresh := by
      intro n hn
      have h1 := h.memFresh n hn
      have hne : n ≠ cur := by have := h.curLt; omega
      simp only [hne, if_false]
      exact ⟨h1.1, by rw [hother n hne]; exact h1.2⟩ }

theorem InvSst_mtxns {mtxns' : List (Nat × List Txn)}
    (h : InvSst R tset tcont imm mtxns fpc fsst nextSst kins kout Fs)
    (hsame : ∀ k ∈ imm, aget k mtxns' = aget k mtxns) :
    InvSst R tset tcont imm mtxns' fpc fsst nextSst kins kout Fs :=
  { h with
    flush2 := by
      intro k hk h2 h4
      have hm : k ∈ imm := List.mem_of_mem_head? hk
      have := h.flush2 k hk h2 h4
      unfold entsOfMem at this ⊢; rw [hsame k hm]; exact this
    flush5 := by
      intro k hk h5
      have hm : k ∈ imm := List.mem_of_mem_head? hk
      have := h.flush5 k hk h5
      unfold entsOfMem at this ⊢; rw [hsame k hm]; exact this }

theorem InvSst.fsst_listed (h : InvSst R tset tcont imm mtxns fpc fsst nextSst kins kout Fs) (hne : imm ≠ [])
    (h5 : 5 ≤ fpc) : (aget fsst tset).isSome :=
  (h.flush5 (imm.head hne) (List.head?_eq_some_head hne) h5).1

/-- with the flusher at rest `InvSst` says nothing about a table under construction -/
theorem InvSst_idle (h : InvSst R tset tcont imm mtxns fpc fsst nextSst kins kout Fs) (imm' : List Nat) (fsst' : Nat) :
    InvSst R tset tcont imm' mtxns 0 fsst' nextSst kins kout Fs :=
  { h with
    idle := fun _ => rfl
    fsstLt := by intro _ a; omega
    flush1 := by intro _ a; omega
    flush2 := by intro _ _ a _; omega
    flush5 := by intro _ _ a; omega }

/-- an update of the table file `id` that no live reader depends on -/
theorem InvSst_upd_file {kout' : List KOut} {nextSst' : Nat} (id : Nat) (v : Option Inode)
    (h : InvSst R tset tcont imm mtxns fpc fsst nextSst kins kout Fs)
    (hts : aget id tset = none) (hn : nextSst ≤ nextSst')
    (hfresh : id < nextSst' ∨ v = none)
    (hfl : imm ≠ [] → 1 ≤ fpc → fpc ≤ 4 → fsst ≠ id)
    (hids : kout'.map (·.id) = kout.map (·.id))
    (hents : kout'.map (·.ents) = kout.map (·.ents))
    (hfiles : ∀ o ∈ kout', o.fileOk (fun n => if n = id then v else Fs n)) :
    InvSst R tset tcont imm mtxns fpc fsst nextSst' kins kout' (fun n => if n = id then v else Fs n) :=
  { h with
    tables := by
      intro x hx
      have : x.1 ≠ id := (aget_none_iff id tset).mp hts x hx
      simp only [this, if_false]; exact h.tables x hx
    sstFresh := by
      intro n hn'
      have h1 := h.sstFresh n (Nat.le_trans hn hn')
      refine ⟨?_, h1.2⟩
      by_cases hnid : n = id
      · rcases hfresh with hf | hf
        · omega
        · simp [hnid, hf]
      · simp [hnid, h1.1]
    fsstLt := fun a b => Nat.lt_of_lt_of_le (h.fsstLt a b) hn
    flush1 := by
      intro h1 h2
      have : fsst ≠ id := hfl h1 (by omega) (by omega)
      simp only [this, if_false]; exact h.flush1 h1 h2
    flush2 := by
      intro k hk h2 h4
      have hi : imm ≠ [] := by intro e; simp [e] at hk
      have : fsst ≠ id := hfl hi (by omega) h4
      simp only [this, if_false]; exact h.flush2 k hk h2 h4
    koutLt := by
      intro o ho
      have : o.id ∈ kout'.map (·.id) := List.mem_map_of_mem ho
      rw [hids] at this
      obtain ⟨o2, ho2, he⟩ := List.mem_map.mp this
      rw [← he]; exact Nat.lt_of_lt_of_le (h.koutLt o2 ho2) hn
    koutNodup := by rw [hids]; exact h.koutNodup
    koutFiles := hfiles
    kview := by intro hk; rw [hents]; exact h.kview hk }

end region

variable {R : ViewRel} {s : PState} {F : KFs}

theorem Inv_pushImm (h : Inv R s F) (hg : Atom.pushImm.guard s = true) :
    Inv R (Atom.pushImm.rawEff s) (krun F (Atom.pushImm.rawOps s)) := by
  obtain ⟨ho, hp, _⟩ := Atom.guard_pushImm hg
  unfold Atom.rawOps Atom.rawEff
  simp only [krun_nil]
  exact { h with
    logic := by
      refine h.logic.of_lsm ?_
      rw [PState.lsmEnts_eq, PState.lsmEnts_eq s, PState.curT_open ho, PState.curT_closed rfl, immsEnts_push]
      simp only [txnsEnts, List.map_nil, List.flatten_nil, List.append_nil, List.append_assoc]
      exact R.refl _
    mem := by
      have hm := h.mem
      rw [ho, hp] at hm
      have := InvMem_pushImm hm
      rw [hp]; exact this
    sst := InvSst_imm_append _ h.sst }

theorem Inv_newMem (h : Inv R s F) (hg : Atom.newMem.guard s = true) :
    Inv R (Atom.newMem.rawEff s) (krun F (Atom.newMem.rawOps s)) := by
  obtain ⟨ho, hp⟩ := Atom.guard_newMem hg
  unfold Atom.rawOps Atom.rawEff
  simp only [krun_mkFile]
  refine Inv_upd_mem h _ _ ?_ rfl ?_ h.sst
  · refine h.logic.of_lsm ?_
    rw [PState.lsmEnts_eq, PState.lsmEnts_eq s, PState.curT_closed ho, PState.curT_open rfl]
    -- no transaction is recorded under the fresh fid
    simp only [(h.mem.memFresh s.nextMem (Nat.le_refl _)).2, Option.getD_none]
    exact R.refl _
  · have hm := h.mem
    rw [ho, hp] at hm
    rw [hp]; exact InvMem_newMem hm

theorem Inv_mhdr (h : Inv R s F) (hg : Atom.mhdr.guard s = true) :
    Inv R (Atom.mhdr.rawEff s) (krun F (Atom.mhdr.rawOps s)) := by
  obtain ⟨ho, hh⟩ := Atom.guard_mhdr hg
  unfold Atom.rawOps Atom.rawEff
  simp only [krun_append1]
  refine Inv_upd_mem h _ _ h.logic rfl ?_ h.sst
  have hm := h.mem
  rw [ho] at hm
  have hn := hm.noHdr hh
  rw [ho]
  exact InvMem_curAppend (mtxns' := s.mtxns) (pts' := s.pts) hm
    (by rw [hh, hn.1, hn.2]; simp [walChunks, txnsChunks]) (fun _ _ => rfl) hm.curTxns (by intro e; cases e)

theorem Inv_wput (h : Inv R s F) (e : CEnt) (hg : (Atom.wput e).guard s = true) :
    Inv R ((Atom.wput e).rawEff s) (krun F ((Atom.wput e).rawOps s)) := by
  obtain ⟨ho, hh⟩ := Atom.guard_wput hg
  unfold Atom.rawOps Atom.rawEff
  simp only [krun_append1]
  refine Inv_upd_mem h _ _ h.logic rfl ?_ h.sst
  have hm := h.mem
  rw [ho] at hm
  rw [ho]
  exact InvMem_curAppend (mtxns' := s.mtxns) (pts' := s.pts) hm
    (by rw [hh]; simp [walChunks, PState.pts]) (fun _ _ => rfl) hm.curTxns (by intro e; rw [hh] at e; cases e)

theorem Inv_fin (h : Inv R s F) (hg : Atom.fin.guard s = true) :
    Inv R (Atom.fin.rawEff s) (krun F (Atom.fin.rawOps s)) := by
  obtain ⟨t, hinf, ho, hh, hp, hne, hts⟩ := Atom.guard_fin hg
  have hpts : s.pts = t.ts := by simp [PState.pts, hinf]
  unfold Atom.rawEff
  simp only [hinf]
  unfold Atom.rawOps
  simp only [krun_append1]
  obtain ⟨htake, hlen⟩ := take_done_succ (hinf ▸ h.logic)
  have hl : PState.lsmEnts { s with mtxns := aset s.cur (s.memTxns s.cur ++ [t]) s.mtxns, pending := [],
                                    inflight := none, done := s.done + 1, curDirty := true } =
      s.lsmEnts ++ txnsEnts [t] := by
    rw [PState.lsmEnts_eq, PState.lsmEnts_eq s]
    simp only [PState.curT, ho, if_true, aget_aset, Option.getD_some, immsEnts_aset _ _ _ _ (h.mem.curNotImm ho),
      txnsEnts_append, List.append_assoc]
    rfl
  have hmk : ∀ k, k ≠ s.cur → aget k (aset s.cur (s.memTxns s.cur ++ [t]) s.mtxns) = aget k s.mtxns := by
    intro k hk
    rw [aget_aset]; simp [Ne.symm hk]
  have hmc : aget s.cur (aset s.cur (s.memTxns s.cur ++ [t]) s.mtxns) = some (s.memTxns s.cur ++ [t]) := by
    rw [aget_aset]; simp
  -- of the new `mtxns` only `hl`, `hmk` and `hmc` are used
  generalize aset s.cur (s.memTxns s.cur ++ [t]) s.mtxns = m' at hl hmk hmc ⊢
  refine Inv_upd_mem h _ _ ?_ rfl ?_ ?_
  · refine ⟨?_, ?_, ?_, ?_⟩
    · show R.r _ (txnsEnts (s.commits.take (s.done + 1)))
      rw [hl, htake, txnsEnts_append]
      exact R.app_congr _ _ _ _ h.logic.view (R.refl _)
    · show s.acked ≤ s.done + 1
      have := h.logic.acked_le; omega
    · show s.done + 1 ≤ s.commits.length
      omega
    · show s.done + 1 = s.commits.length
      omega
  · have hm := h.mem
    rw [ho] at hm
    have hshape : walChunks s.curHdr ((aget s.cur s.mtxns).getD []) s.pts s.pending ++ [Chunk.walFin s.pts] =
        walChunks s.curHdr ((aget s.cur (m')).getD []) 0 [] := by
      rw [hmc, hh, hp, hpts]
      simp [walChunks, txnsChunks, txnChunks, PState.memTxns, List.append_assoc]
    have hok : TxnsOk ((aget s.cur (m')).getD []) := by
      rw [hmc]
      intro x hx
      rcases List.mem_append.mp hx with h1 | h1
      · exact hm.curTxns x h1
      · have : x = t := by simpa using h1
        subst this; exact ⟨hts, hne⟩
    rw [ho]
    exact InvMem_curAppend hm hshape hmk hok
      (by intro e; rw [hh] at e; cases e)
  · exact InvSst_mtxns h.sst
      (fun k hk => hmk k (fun e => h.mem.curNotImm ho (e ▸ hk)))

def setStage (id st : Nat) (o : KOut) : KOut := if o.id == id then { o with stage := st } else o

@[simp] theorem setStage_id (id st : Nat) (o : KOut) : (setStage id st o).id = o.id := by
  unfold setStage; split <;> rfl
@[simp] theorem setStage_ents (id st : Nat) (o : KOut) : (setStage id st o).ents = o.ents := by
  unfold setStage; split <;> rfl
theorem setStage_stage (id st : Nat) (o : KOut) :
    (setStage id st o).stage = if o.id = id then st else o.stage := by
  unfold setStage
  by_cases h : o.id = id <;> simp [h]

theorem kout_map_id {g : KOut → KOut} (hg : ∀ o, (g o).id = o.id) (l : List KOut) : (l.map g).map (·.id) = l.map (·.id) := by
  simp [List.map_map, Function.comp_def, hg]
theorem kout_map_ents {g : KOut → KOut} (hg : ∀ o, (g o).ents = o.ents) (l : List KOut) :
    (l.map g).map (·.ents) = l.map (·.ents) := by
  simp [List.map_map, Function.comp_def, hg]

theorem fileOk_upd_ne {Fs : Nat → Option Inode} {id : Nat} {v : Option Inode} {o : KOut}
    (h : o.fileOk Fs) (hid : o.id ≠ id) : o.fileOk (fun n => if n = id then v else Fs n) := by
  have e : (fun n => if n = id then v else Fs n) o.id = Fs o.id := if_neg hid
  unfold KOut.fileOk
  rw [e]
  exact h

theorem fileOk_setStage_ne {Fs : Nat → Option Inode} {id st : Nat} {v : Option Inode} {o : KOut}
    (h : o.fileOk Fs) (hid : o.id ≠ id) : (setStage id st o).fileOk (fun n => if n = id then v else Fs n) := by
  have e : setStage id st o = o := by simp [setStage, hid]
  rw [e]
  exact fileOk_upd_ne h hid

/-- a compaction output advances to stage `st` with a write to its file: the other outputs keep their files -/
theorem Inv_kstage (h : Inv R s F) (id st : Nat) (v : Option Inode) (o : KOut)
    (ho : o ∈ s.kout) (hoid : o.id = id) (hfl : s.imm ≠ [] → 1 ≤ s.fpc → s.fpc ≤ 4 → s.fsst ≠ id)
    (hts : aget id s.tset = none)
    (hnew : (setStage id st o).fileOk (fun n => if n = id then v else sstView F n)) :
    Inv R { s with kout := s.kout.map (setStage id st) } (upd F (.sst id) v) := by
  refine Inv_upd_sst h _ _ h.logic rfl h.mem ?_
  apply InvSst_upd_file id _ h.sst hts (Nat.le_refl _) (Or.inl (hoid ▸ h.sst.koutLt o ho)) hfl
    (kout_map_id (setStage_id id st) _) (kout_map_ents (setStage_ents id st) _)
  intro o' ho'
  obtain ⟨o2, ho2, rfl⟩ := List.mem_map.mp ho'
  by_cases hid : o2.id = id
  · rw [eq_of_nodup_map _ _ h.sst.koutNodup o2 o ho2 ho (hid.trans hoid.symm)]
    exact hnew
  · exact fileOk_setStage_ne (h.sst.koutFiles o2 ho2) hid

theorem Inv_kmk (h : Inv R s F) (id : Nat) (hg : (Atom.kmk id).guard s = true) :
    Inv R ((Atom.kmk id).rawEff s) (krun F ((Atom.kmk id).rawOps s)) := by
  obtain ⟨⟨o, ho, hoid, _⟩, hfl, hts, _⟩ := guard_kout hg
  unfold Atom.rawOps Atom.rawEff
  simp only [krun_mkFile]
  refine Inv_kstage h id 1 _ o ho hoid hfl hts ⟨?_, ?_⟩
  · intro _; simp [hoid]
  · intro hs; rw [setStage_stage] at hs; simp [hoid] at hs

theorem Inv_kwrite (h : Inv R s F) (id : Nat) (hg : (Atom.kwrite id).guard s = true) :
    Inv R ((Atom.kwrite id).rawEff s) (krun F ((Atom.kwrite id).rawOps s)) := by
  obtain ⟨⟨o, ho, hoid, host⟩, hfl, hts, _⟩ := guard_kout hg
  have hfind : s.kout.find? (fun x => x.id == id) = some o := by
    rw [← hoid]; exact find?_key_of_mem KOut.id (List.pairwise_map.mp h.sst.koutNodup) ho
  unfold Atom.rawOps Atom.rawEff
  simp only [hfind, krun_append1]
  refine Inv_kstage h id 2 _ o ho hoid hfl hts ⟨?_, ?_⟩
  · intro hs; rw [setStage_stage] at hs; simp [hoid] at hs
  · intro _
    obtain ⟨f, hf, hc⟩ := (h.sst.koutFiles o ho).1 host
    have hf' : F (.sst id) = some f := hoid ▸ hf
    simp only [setStage_id, setStage_ents, hoid, if_true]
    exact ⟨appendChunk (.table o.ents) f, by simp [hf'], by simp [appendChunk, hc]⟩

theorem Inv_kdel (h : Inv R s F) (id : Nat) (hg : (Atom.kdel id).guard s = true) :
    Inv R ((Atom.kdel id).rawEff s) (krun F ((Atom.kdel id).rawOps s)) := by
  obtain ⟨hts, hfl, hk, _⟩ := Atom.guard_kdel hg
  unfold Atom.rawOps Atom.rawEff
  simp only [krun_delFile]
  refine Inv_upd_sst h _ _ h.logic rfl h.mem ?_
  apply InvSst_upd_file id _ h.sst hts (Nat.le_refl _) (Or.inr rfl) hfl rfl rfl
  exact fun o ho => fileOk_upd_ne (h.sst.koutFiles o ho) (hk o ho)

theorem applyMSet_creates (os : List KOut) (rest : List MChange) (t t' : List (Nat × Nat))
    (h : applyMSet t (os.map (fun o => MChange.create o.id o.level) ++ rest) = some t') :
    ∃ t1, applyMSet t1 rest = some t' ∧
      ∀ x, x ∈ t1 ↔ (∃ o ∈ os, x = (o.id, o.level)) ∨ x ∈ t := by
  induction os generalizing t with
  | nil => exact ⟨t, h, by simp⟩
  | cons o os ih =>
    dsimp only [List.map, List.cons_append, applyMSet, applyMChange] at h
    by_cases hs : (aget o.id t).isSome
    · simp [hs] at h
    · simp only [hs] at h
      obtain ⟨t1, h1, hm⟩ := ih _ h
      refine ⟨t1, h1, ?_⟩
      intro x
      have hnone : aget o.id t = none := by simpa using hs
      rw [hm, mem_aset_of_none _ _ _ _ hnone]
      simp only [List.mem_cons, exists_eq_or_imp]
      exact or_left_comm.trans or_assoc.symm

theorem applyMSet_deletes (ids : List Nat) (t t' : List (Nat × Nat))
    (h : applyMSet t (ids.map MChange.delete) = some t') :
    ∀ x, x ∈ t' ↔ x ∈ t ∧ x.1 ∉ ids := by
  induction ids generalizing t with
  | nil =>
    simp only [List.map, applyMSet] at h
    injection h with h; subst h; simp
  | cons id ids ih =>
    dsimp only [List.map, applyMSet, applyMChange] at h
    by_cases hs : (aget id t).isSome
    · simp only [hs, if_true] at h
      intro x
      rw [ih _ h, mem_aerase]
      simp only [List.mem_cons, not_or]
      constructor
      · rintro ⟨⟨h1, h2⟩, h3⟩; exact ⟨h1, h2, h3⟩
      · rintro ⟨h1, h2, h3⟩; exact ⟨⟨h1, h2⟩, h3⟩
    · simp [hs] at h

theorem aget_conts_of_nodup (l : List KOut) (hn : (l.map (·.id)).Nodup) (o : KOut) (ho : o ∈ l) :
    aget o.id (l.map (fun o => (o.id, o.ents))) = some o.ents := by
  induction l with
  | nil => simp at ho
  | cons x xs ih =>
    simp only [List.map, List.nodup_cons, List.mem_map, not_exists, not_and] at hn
    rcases List.mem_cons.mp ho with ho | ho
    · subst ho; simp [aget]
    · have : x.id ≠ o.id := fun e => hn.1 o ho e.symm
      simp [aget, this, ih hn.2 ho]

theorem aget_conts_none (l : List KOut) (id : Nat) (h : ∀ o ∈ l, o.id ≠ id) :
    aget id (l.map (fun o => (o.id, o.ents))) = none := by
  rw [aget_none_iff]
  intro x hx
  obtain ⟨o, ho, he⟩ := List.mem_map.mp hx
  subst he; exact h o ho

/-- the change set of a compaction: outputs in, inputs out, and the tables read as before (`kview`) -/
theorem kmset_facts (h : Inv R s F) (t' : List (Nat × Nat))
    (hk : s.kins ≠ [])
    (hstage : ∀ o ∈ s.kout, o.stage = 3 ∧ aget o.id s.tset = none)
    (happ : applyMSet s.tset (kmsetChanges s) = some t') :
    (∀ x, x ∈ t' ↔ (∃ o ∈ s.kout, x = (o.id, o.level)) ∨ (x ∈ s.tset ∧ x.1 ∉ s.kins)) ∧
    (∀ o ∈ s.kout, entsOfTable (s.kout.map (fun o => (o.id, o.ents)) ++ s.tcont) o.id = o.ents) ∧
    (∀ id, (aget id s.tset).isSome = true →
      entsOfTable (s.kout.map (fun o => (o.id, o.ents)) ++ s.tcont) id = entsOfTable s.tcont id) ∧
    R.r (tablesEnts (s.kout.map (fun o => (o.id, o.ents)) ++ s.tcont) t') (tablesEnts s.tcont s.tset) := by
  have hkoutNotIns : ∀ o ∈ s.kout, o.id ∉ s.kins := by
    intro o ho hin
    have := h.sst.kinsIn o.id hin
    rw [(hstage o ho).2] at this; cases this
  have hmem' : ∀ x, x ∈ t' ↔ (∃ o ∈ s.kout, x = (o.id, o.level)) ∨ (x ∈ s.tset ∧ x.1 ∉ s.kins) := by
    unfold kmsetChanges at happ
    obtain ⟨t1, h1, hm1⟩ := applyMSet_creates _ _ _ _ happ
    intro x
    rw [applyMSet_deletes _ _ _ h1 x, hm1]
    constructor
    · rintro ⟨h1 | h1, h2⟩
      · exact Or.inl h1
      · exact Or.inr ⟨h1, h2⟩
    · rintro (⟨o, ho, he⟩ | ⟨h1, h2⟩)
      · exact ⟨Or.inl ⟨o, ho, he⟩, by rw [he]; exact hkoutNotIns o ho⟩
      · exact ⟨Or.inr h1, h2⟩
  have hcontOut : ∀ o ∈ s.kout, entsOfTable (s.kout.map (fun o => (o.id, o.ents)) ++ s.tcont) o.id = o.ents := by
    intro o ho
    simp only [entsOfTable]
    rw [aget_append, aget_conts_of_nodup _ h.sst.koutNodup o ho]
    rfl
  have hcontOld : ∀ id, (aget id s.tset).isSome = true →
      entsOfTable (s.kout.map (fun o => (o.id, o.ents)) ++ s.tcont) id = entsOfTable s.tcont id := by
    intro id hid
    simp only [entsOfTable]
    rw [aget_append, aget_conts_none, Option.none_or]
    -- an output's id is not in the table set yet
    intro o ho e
    rw [← e, (hstage o ho).2] at hid
    cases hid
  refine ⟨hmem', hcontOut, hcontOld, ?_⟩
  -- both sides are the union of the untouched tables `keep` with the outputs resp. the inputs
  let keep := ((s.tset.filter (fun x => !s.kins.contains x.1)).map (fun x => entsOfTable s.tcont x.1)).flatten
  have e1 : R.r ((t'.map (fun x => entsOfTable (s.kout.map (fun o => (o.id, o.ents)) ++ s.tcont) x.1)).flatten)
      ((s.kout.map (·.ents)).flatten ++ keep) := by
    apply R.of_mem_iff
    intro e
    simp only [List.mem_append, mem_flatten_map, keep, List.mem_filter]
    constructor
    · rintro ⟨x, hx, he⟩
      rcases (hmem' x).mp hx with ⟨o, ho, hxe⟩ | ⟨h1, h2⟩
      · subst hxe; rw [hcontOut o ho] at he; exact Or.inl ⟨o, ho, he⟩
      · rw [hcontOld x.1 (aget_isSome_of_mem _ _ h1)] at he
        exact Or.inr ⟨x, ⟨h1, by simpa using h2⟩, he⟩
    · rintro (⟨o, ho, he⟩ | ⟨x, ⟨h1, h2⟩, he⟩)
      · exact ⟨(o.id, o.level), (hmem' _).mpr (Or.inl ⟨o, ho, rfl⟩), by rw [hcontOut o ho]; exact he⟩
      · exact ⟨x, (hmem' _).mpr (Or.inr ⟨h1, by simpa using h2⟩),
          by rw [hcontOld x.1 (aget_isSome_of_mem _ _ h1)]; exact he⟩
  have e2 : R.r ((s.kins.map (entsOfTable s.tcont)).flatten ++ keep)
      ((s.tset.map (fun x => entsOfTable s.tcont x.1)).flatten) := by
    apply R.of_mem_iff
    intro e
    simp only [List.mem_append, mem_flatten_map, keep, List.mem_filter]
    constructor
    · rintro (⟨id, hid, he⟩ | ⟨x, ⟨h1, _⟩, he⟩)
      · obtain ⟨lvl, hm⟩ := mem_of_aget_isSome (h.sst.kinsIn id hid)
        exact ⟨(id, lvl), hm, he⟩
      · exact ⟨x, h1, he⟩
    · rintro ⟨x, hx, he⟩
      by_cases hin : x.1 ∈ s.kins
      · exact Or.inl ⟨x.1, hin, he⟩
      · exact Or.inr ⟨x, ⟨hx, by simpa using hin⟩, he⟩
  exact R.trans _ _ _ e1 (R.trans _ _ _ (R.app_congr _ _ _ _ (h.sst.kview hk) (R.refl _)) e2)

theorem Inv_kmset (h : Inv R s F) (hg : Atom.kmset.guard s = true) :
    Inv R (Atom.kmset.rawEff s) (krun F (Atom.kmset.rawOps s)) := by
  obtain ⟨hk, hstage, _, _, _, ⟨t', happ⟩, hf5⟩ := Atom.guard_kmset hg
  unfold Atom.rawOps Atom.rawEff
  simp only [krun_append1, happ, Option.getD_some]
  obtain ⟨hmem', hcontOut, hcontOld, hT⟩ := kmset_facts h t' hk hstage happ
  generalize s.kout.map (fun o => (o.id, o.ents)) ++ s.tcont = tc at hcontOut hcontOld hT ⊢
  have hs := h.sst
  refine Inv_append_manifest h _ happ ?_ h.mem ?_
  · refine h.logic.of_lsm ?_
    rw [PState.lsmEnts_eq, PState.lsmEnts_eq s]
    exact R.app_congr _ _ _ _ (R.app_congr _ _ _ _ hT (R.refl _)) (R.refl _)
  · exact { hs with
      tables := by
        intro x hx
        rcases (hmem' x).mp hx with ⟨o, ho, hxe⟩ | ⟨h1, h2⟩
        · subst hxe
          rw [hcontOut o ho]
          exact (hs.koutFiles o ho).2 (by rw [(hstage o ho).1]; omega)
        · rw [hcontOld x.1 (aget_isSome_of_mem _ _ h1)]
          exact hs.tables x h1
      sstFresh := by
        intro n hn
        refine ⟨(hs.sstFresh n hn).1, ?_⟩
        rw [aget_none_iff]
        intro x hx
        rcases (hmem' x).mp hx with ⟨o, ho, hxe⟩ | ⟨h1, _⟩
        · subst hxe; have := hs.koutLt o ho; have hn' : s.nextSst ≤ n := hn; show o.id ≠ n; omega
        · exact (aget_none_iff n s.tset).mp (hs.sstFresh n hn).2 x h1
      flush5 := by
        intro k hk5 h5
        obtain ⟨h1, h2⟩ := hs.flush5 k hk5 h5
        have hi : s.imm ≠ [] := by intro e; simp [e] at hk5
        obtain ⟨lvl, hm⟩ := mem_of_aget_isSome h1
        have hin : (s.fsst, lvl) ∈ t' := (hmem' _).mpr (Or.inr ⟨hm, hf5 hi h5⟩)
        exact ⟨aget_isSome_of_mem _ _ hin, (hcontOld s.fsst h1).trans h2⟩
      koutLt := by intro o ho; cases ho
      koutNodup := List.nodup_nil
      koutFiles := by intro o ho; cases ho
      kview := by intro e; exact absurd rfl e
      kinsIn := by intro id hid; cases hid }

end Badger
