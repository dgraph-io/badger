import BadgerModel.Lsm
import BadgerProofs.Lemmas.Bytes
/-!
# `kvCmp` / `entCmp` is a strict total order on `(user key, version)` pairs

User key ascending (`cmpBytes`, a total order by `Lemmas/Bytes.lean`), then version descending.
-/
namespace Badger

theorem kvCmp_eq_then (k1 : Bytes) (v1 : Nat) (k2 : Bytes) (v2 : Nat) :
    kvCmp k1 v1 k2 v2 = (cmpBytes k1 k2).then (compare v2 v1) := by
  unfold kvCmp; cases cmpBytes k1 k2 <;> rfl

theorem kvCmp_lt_iff (k1 : Bytes) (v1 : Nat) (k2 : Bytes) (v2 : Nat) :
    kvCmp k1 v1 k2 v2 = .lt ↔ cmpBytes k1 k2 = .lt ∨ (k1 = k2 ∧ v2 < v1) := by
  rw [kvCmp_eq_then, Ordering.then_eq_lt, cmpBytes_eq_iff, Nat.compare_eq_lt]

theorem kvCmp_eq_iff (k1 : Bytes) (v1 : Nat) (k2 : Bytes) (v2 : Nat) :
    kvCmp k1 v1 k2 v2 = .eq ↔ k1 = k2 ∧ v1 = v2 := by
  rw [kvCmp_eq_then, Ordering.then_eq_eq, cmpBytes_eq_iff, Nat.compare_eq_eq, @eq_comm _ v2]

theorem kvCmp_swap (k1 : Bytes) (v1 : Nat) (k2 : Bytes) (v2 : Nat) :
    (kvCmp k1 v1 k2 v2).swap = kvCmp k2 v2 k1 v1 := by
  rw [kvCmp_eq_then, kvCmp_eq_then, Ordering.swap_then, cmpBytes_swap, Nat.compare_swap]

theorem kvCmp_refl (k : Bytes) (v : Nat) : kvCmp k v k v = .eq := (kvCmp_eq_iff _ _ _ _).mpr ⟨rfl, rfl⟩

theorem kvCmp_lt_trans {k1 k2 k3 : Bytes} {v1 v2 v3 : Nat}
    (h1 : kvCmp k1 v1 k2 v2 = .lt) (h2 : kvCmp k2 v2 k3 v3 = .lt) : kvCmp k1 v1 k3 v3 = .lt := by
  rw [kvCmp_lt_iff] at *
  rcases h1 with h1 | ⟨e1, h1⟩ <;> rcases h2 with h2 | ⟨e2, h2⟩
  · exact .inl (cmpBytes_lt_trans h1 h2)
  · subst e2; exact .inl h1
  · subst e1; exact .inl h2
  · subst e1; subst e2; exact .inr ⟨rfl, by omega⟩

theorem kvCmp_gt_iff_lt (k1 : Bytes) (v1 : Nat) (k2 : Bytes) (v2 : Nat) :
    kvCmp k1 v1 k2 v2 = .gt ↔ kvCmp k2 v2 k1 v1 = .lt := by
  rw [← kvCmp_swap k1 v1 k2 v2, Ordering.swap_eq_lt]

theorem kvCmp_gt_iff (k1 : Bytes) (v1 : Nat) (k2 : Bytes) (v2 : Nat) :
    kvCmp k1 v1 k2 v2 = .gt ↔ cmpBytes k1 k2 = .gt ∨ (k1 = k2 ∧ v1 < v2) := by
  rw [kvCmp_gt_iff_lt, kvCmp_lt_iff, cmpBytes_gt_iff_lt, @eq_comm _ k2 k1]

theorem kvCmp_lt_iff_gt (k1 : Bytes) (v1 : Nat) (k2 : Bytes) (v2 : Nat) :
    kvCmp k1 v1 k2 v2 = .lt ↔ kvCmp k2 v2 k1 v1 = .gt := by
  rw [← kvCmp_swap k1 v1 k2 v2, Ordering.swap_eq_gt]

theorem entCmp_lt_iff (a b : Ent) :
    entCmp a b = .lt ↔ cmpBytes a.key b.key = .lt ∨ (a.key = b.key ∧ b.ver < a.ver) :=
  kvCmp_lt_iff _ _ _ _

theorem entCmp_gt_iff (a b : Ent) :
    entCmp a b = .gt ↔ cmpBytes a.key b.key = .gt ∨ (a.key = b.key ∧ a.ver < b.ver) :=
  kvCmp_gt_iff _ _ _ _

theorem entCmp_eq_iff (a b : Ent) : entCmp a b = .eq ↔ a.key = b.key ∧ a.ver = b.ver :=
  kvCmp_eq_iff _ _ _ _

theorem entCmp_refl (a : Ent) : entCmp a a = .eq := kvCmp_refl _ _

theorem entCmp_swap (a b : Ent) : (entCmp a b).swap = entCmp b a := kvCmp_swap _ _ _ _

theorem entCmp_lt_trans {a b c : Ent} (h1 : entCmp a b = .lt) (h2 : entCmp b c = .lt) :
    entCmp a c = .lt := kvCmp_lt_trans h1 h2

theorem entCmp_gt_iff_lt (a b : Ent) : entCmp a b = .gt ↔ entCmp b a = .lt := kvCmp_gt_iff_lt _ _ _ _

theorem entCmp_lt_iff_gt (a b : Ent) : entCmp a b = .lt ↔ entCmp b a = .gt := kvCmp_lt_iff_gt _ _ _ _

theorem entCmp_gt_trans {a b c : Ent} (h1 : entCmp a b = .gt) (h2 : entCmp b c = .gt) :
    entCmp a c = .gt := by
  rw [entCmp_gt_iff_lt] at *; exact entCmp_lt_trans h2 h1

theorem entCmp_lt_irrefl (a : Ent) : entCmp a a ≠ .lt := by rw [entCmp_refl]; exact nofun

theorem entCmp_lt_asymm {a b : Ent} (h : entCmp a b = .lt) : entCmp b a ≠ .lt := by
  rw [← entCmp_swap a b, h]; exact nofun

theorem entCmp_congr_left {a b : Ent} (h : entCmp a b = .eq) (c : Ent) : entCmp a c = entCmp b c := by
  rw [entCmp_eq_iff] at h; unfold entCmp; rw [h.1, h.2]

theorem entCmp_congr_right {a b : Ent} (h : entCmp a b = .eq) (c : Ent) : entCmp c a = entCmp c b := by
  rw [entCmp_eq_iff] at h; unfold entCmp; rw [h.1, h.2]

theorem entCmp_lt_of_lt_of_eq {a b c : Ent} (h1 : entCmp a b = .lt) (h2 : entCmp b c = .eq) :
    entCmp a c = .lt := by rw [← entCmp_congr_right h2]; exact h1

theorem entCmp_lt_of_eq_of_lt {a b c : Ent} (h1 : entCmp a b = .eq) (h2 : entCmp b c = .lt) :
    entCmp a c = .lt := by rw [entCmp_congr_left h1]; exact h2

theorem entCmp_lt_same_key {a b : Ent} (hk : a.key = b.key) : entCmp a b = .lt ↔ b.ver < a.ver := by
  rw [entCmp_lt_iff]
  constructor
  · rintro (h | h)
    · rw [hk, cmpBytes_refl] at h; cases h
    · exact h.2
  · exact fun h => .inr ⟨hk, h⟩

theorem entCmp_lt_key_le {a b : Ent} (h : entCmp a b = .lt) : cmpBytes a.key b.key ≠ .gt := by
  rw [entCmp_lt_iff] at h
  rcases h with h | h
  · rw [h]; simp
  · rw [h.1, cmpBytes_refl]; simp

theorem entCmp_key_squeeze {a b c : Ent} (h1 : entCmp a b = .lt) (h2 : entCmp b c = .lt)
    (hk : a.key = c.key) : b.key = a.key := by
  have h1' := entCmp_lt_key_le h1
  have h2' := entCmp_lt_key_le h2
  rw [← hk] at h2'
  exact cmpBytes_antisymm h2' h1'

example : entCmp ⟨[1], 5, 0, 0, 0, []⟩ ⟨[1], 3, 0, 0, 0, []⟩ = .lt := by decide
example : entCmp ⟨[1], 5, 0, 0, 0, []⟩ ⟨[1, 0], 9, 0, 0, 0, []⟩ = .lt := by decide

end Badger
