import BadgerModel.Watermark
/-!
The pieces of the watermark `process` loop (`BadgerModel/Watermark.lean`), one at a time: the
`pending` map, the heap as a strictly sorted list, what the pop loop guarantees (`PopSpec`), the waiter
map and the list of waiters stored in it (`Waiters.flat`), the equality of the two notification paths on a
sorted waiter map, and what the map path keeps and wakes (`mem_notifyMap_*`). The loop invariant that
puts them together is in `Lemmas/WatermarkInv.lean`.

The database-level model has a watermark of its own (`Wm` in `BadgerModel/Mvcc.lean`, the state once the
channel is drained; lemmas in `Lemmas/WmMvcc.lean`). No theorem relates the two: the facts they share
(`doneUntil` never decreases and never passes an index with a positive count) are proved on each side.
-/
namespace Badger

@[simp] theorem Pending.set_same (p : Pending) (i : Nat) (v : Int) : p.set i v i = some v := by
  simp [Pending.set]

theorem Pending.set_other (p : Pending) (i j : Nat) (v : Int) (h : j ≠ i) : p.set i v j = p j := by
  simp [Pending.set, h]

@[simp] theorem Pending.del_same (p : Pending) (i : Nat) : p.del i i = none := by
  simp [Pending.del]

theorem Pending.del_other (p : Pending) (i j : Nat) (h : j ≠ i) : p.del i j = p j := by
  simp [Pending.del, h]

theorem Pending.val_set_same (p : Pending) (i : Nat) (v : Int) : (p.set i v).val i = v := by
  simp [Pending.val]

theorem Pending.val_set_other (p : Pending) (i j : Nat) (v : Int) (h : j ≠ i) :
    (p.set i v).val j = p.val j := by
  simp [Pending.val, Pending.set_other _ _ _ _ h]

theorem Pending.val_pos_isSome (p : Pending) (i : Nat) (h : p.val i > 0) : (p i).isSome := by
  unfold Pending.val at h
  cases hp : p i with
  | none => rw [hp] at h; simp at h
  | some v => rfl

theorem mem_heapPush (x y : Nat) (h : List Nat) : y ∈ heapPush x h ↔ y = x ∨ y ∈ h := by
  induction h with
  | nil => simp [heapPush]
  | cons z zs ih =>
    simp only [heapPush]
    split
    · simp
    · simp only [List.mem_cons, ih]
      exact or_left_comm

theorem heapPush_sorted (x : Nat) (h : List Nat) (hs : h.Pairwise (· < ·)) (hx : x ∉ h) :
    (heapPush x h).Pairwise (· < ·) := by
  induction h with
  | nil => simp [heapPush]
  | cons z zs ih =>
    have hz := List.pairwise_cons.mp hs
    simp only [List.mem_cons, not_or] at hx
    simp only [heapPush]
    split
    · rename_i hle
      refine List.pairwise_cons.mpr ⟨fun a ha => ?_, hs⟩
      rcases List.mem_cons.mp ha with rfl | ha
      · omega
      · have := hz.1 a ha; omega
    · rename_i hle
      refine List.pairwise_cons.mpr ⟨fun a ha => ?_, ih hz.2 hx.2⟩
      rcases (mem_heapPush x a zs).mp ha with rfl | ha
      · omega
      · exact hz.1 a ha

/-- What the pop loop guarantees, given a strictly sorted heap whose members are exactly the
    keys of `pending` and are all `≥ til`. -/
structure PopSpec (p : Pending) (h : List Nat) (t : Nat) (r : List Nat × Pending × Nat) : Prop where
  sorted : r.1.Pairwise (· < ·)
  sync : ∀ x, x ∈ r.1 ↔ (r.2.1 x).isSome
  ge : ∀ x ∈ r.1, r.2.2 ≤ x
  mono : t ≤ r.2.2
  headPos : ∀ x rest, r.1 = x :: rest → r.2.1.val x > 0
  keep : ∀ x ∈ r.1, r.2.1 x = p x
  sub : ∀ x ∈ r.1, x ∈ h
  popped : ∀ x ∈ h, x ∈ r.1 ∨ x ≤ r.2.2
  /-- either nothing was popped, or the watermark moved strictly below everything left -/
  strict : (r.1 = h ∧ r.2.2 = t) ∨ (∀ x ∈ r.1, r.2.2 < x)
  /-- the new watermark is the old one or a member of the old heap -/
  tilFrom : r.2.2 = t ∨ r.2.2 ∈ h
  /-- counts are untouched, except that entries with a count `≤ 0` may have been deleted -/
  vals : ∀ x, r.2.1.val x = p.val x ∨ (p.val x ≤ 0 ∧ r.2.1.val x = 0)

theorem popLoop_spec (p : Pending) (h : List Nat) (t : Nat)
    (hs : h.Pairwise (· < ·)) (hsync : ∀ x, x ∈ h ↔ (p x).isSome) (hge : ∀ x ∈ h, t ≤ x) :
    PopSpec p h t (popLoop p h t) := by
  induction h generalizing p t with
  | nil =>
    simp only [popLoop]
    exact ⟨hs, hsync, by simp, Nat.le_refl _, by simp, by simp, by simp, by simp, .inl ⟨rfl, rfl⟩, .inl rfl,
      fun x => .inl rfl⟩
  | cons m rest ih =>
    have hm := List.pairwise_cons.mp hs
    simp only [popLoop]
    split
    · rename_i hpos
      refine ⟨hs, hsync, hge, Nat.le_refl _, ?_, by simp, by simp, ?_, .inl ⟨rfl, rfl⟩, .inl rfl,
        fun x => .inl rfl⟩
      · intro x r e; cases e; exact hpos
      · intro x hx; exact .inl hx
    · rename_i hnpos
      have hsync' : ∀ x, x ∈ rest ↔ ((p.del m) x).isSome := by
        intro x
        by_cases hx : x = m
        · subst hx; simp
          intro hmem; have := hm.1 x hmem; omega
        · rw [Pending.del_other _ _ _ hx, ← hsync]; simp [hx]
      have hge' : ∀ x ∈ rest, m ≤ x := fun x hx => Nat.le_of_lt (hm.1 x hx)
      have r := ih (p.del m) m hm.2 hsync' hge'
      have hmt : t ≤ m := hge m (by simp)
      refine ⟨r.sorted, r.sync, r.ge, Nat.le_trans hmt r.mono, r.headPos, ?_, ?_, ?_, .inr ?_, .inr ?_, ?_⟩
      · intro x hx
        rw [r.keep x hx]
        have : x ≠ m := by
          intro e; subst e; have := hm.1 x (r.sub x hx); omega
        exact Pending.del_other _ _ _ this
      · intro x hx; exact List.mem_cons_of_mem _ (r.sub x hx)
      · intro x hx
        rcases List.mem_cons.mp hx with rfl | hx
        · exact .inr r.mono
        · exact r.popped x hx
      · rcases r.strict with ⟨e1, e2⟩ | hlt
        · intro x hx; rw [e2]; rw [e1] at hx; exact hm.1 x hx
        · exact hlt
      · rcases r.tilFrom with e | hmem
        · rw [e]; simp
        · exact List.mem_cons_of_mem _ hmem
      · intro x
        by_cases hx : x = m
        · subst hx
          have h0 : (p.del x).val x = 0 := by simp [Pending.val]
          right
          refine ⟨by omega, ?_⟩
          rcases r.vals x with e | ⟨_, e⟩
          · rw [e, h0]
          · exact e
        · have h0 : (p.del m).val x = p.val x := by simp [Pending.val, Pending.del_other _ _ _ hx]
          rcases r.vals x with e | ⟨e1, e2⟩
          · left; rw [e, h0]
          · right; exact ⟨by omega, e2⟩

def Waiters.Sorted (ws : Waiters) : Prop := ws.Pairwise (fun a b => a.1 < b.1)

theorem Waiters.mem_add (idx w : Nat) (ws : Waiters) (p : Nat × List Nat) (h : p ∈ Waiters.add idx w ws) :
    p.1 = idx ∨ p ∈ ws := by
  induction ws with
  | nil => simp [Waiters.add] at h; left; rw [h]
  | cons q rest ih =>
    obtain ⟨k, l⟩ := q
    simp only [Waiters.add] at h
    split at h
    · exact (List.mem_cons.mp h).imp_left fun e => by rw [e]
    · split at h
      · rename_i _ heq
        rcases List.mem_cons.mp h with rfl | h
        · exact .inl heq.symm
        · exact .inr (List.mem_cons_of_mem _ h)
      · rcases List.mem_cons.mp h with rfl | h
        · exact .inr (List.mem_cons_self ..)
        · exact (ih h).imp_right (List.mem_cons_of_mem _)

theorem Waiters.add_sorted (idx w : Nat) (ws : Waiters) (hs : ws.Sorted) : (Waiters.add idx w ws).Sorted := by
  induction ws with
  | nil => simp [Waiters.add, Waiters.Sorted]
  | cons q rest ih =>
    obtain ⟨k, l⟩ := q
    have hq := List.pairwise_cons.mp hs
    simp only [Waiters.add]
    split
    · rename_i hlt
      refine List.pairwise_cons.mpr ⟨fun a ha => ?_, hs⟩
      rcases List.mem_cons.mp ha with rfl | ha
      · exact hlt
      · exact Nat.lt_trans hlt (hq.1 a ha)
    · split
      · exact List.pairwise_cons.mpr hq
      · refine List.pairwise_cons.mpr ⟨fun a ha => ?_, ih hq.2⟩
        rcases Waiters.mem_add idx w rest a ha with e | hm
        · show k < a.1; omega
        · exact hq.1 a hm

/-- Flattened view: which (waiter, idx) pairs are stored. -/
def Waiters.flat (ws : Waiters) : List Wakeup := ws.flatMap (fun p => wakeAll p.1 p.2)

theorem WM.storedWaiters_eq (s : WM) : s.storedWaiters = s.waiters.flat := rfl

theorem mem_wakeAll (i : Nat) (l : List Nat) (k : Wakeup) : k ∈ wakeAll i l ↔ k.idx = i ∧ k.waiter ∈ l := by
  unfold wakeAll
  simp only [List.mem_map]
  constructor
  · rintro ⟨w, hw, rfl⟩; exact ⟨rfl, hw⟩
  · rintro ⟨e, hw⟩; exact ⟨k.waiter, hw, by cases k; simp at e ⊢; exact e.symm⟩

theorem Waiters.mem_flat (ws : Waiters) (k : Wakeup) :
    k ∈ ws.flat ↔ ∃ p ∈ ws, p.1 = k.idx ∧ k.waiter ∈ p.2 := by
  simp only [Waiters.flat, List.mem_flatMap, mem_wakeAll]
  exact exists_congr fun p => and_congr_right fun _ => and_congr_left' eq_comm

theorem Waiters.flat_cons (q : Nat × List Nat) (l : Waiters) :
    Waiters.flat (q :: l) = wakeAll q.1 q.2 ++ Waiters.flat l := by
  simp [Waiters.flat]

theorem wakeup_eq_iff (k : Wakeup) (w idx : Nat) : k = ⟨w, idx⟩ ↔ k.idx = idx ∧ k.waiter = w := by
  cases k; simp [and_comm]

theorem Waiters.mem_flat_add (idx w : Nat) (ws : Waiters) (k : Wakeup) :
    k ∈ (Waiters.add idx w ws).flat ↔ k = ⟨w, idx⟩ ∨ k ∈ ws.flat := by
  have hk := wakeup_eq_iff k w idx
  induction ws with
  | nil => simp [Waiters.add, mem_wakeAll, hk, Waiters.flat]
  | cons q rest ih =>
    obtain ⟨q1, q2⟩ := q
    simp only [Waiters.add]
    split
    · simp [Waiters.flat_cons, mem_wakeAll, hk]
    · split
      · rename_i _ heq
        subst heq
        simp only [Waiters.flat_cons, List.mem_append, mem_wakeAll, hk, List.mem_singleton]
        rw [and_or_left, or_assoc]
        exact or_left_comm
      · simp only [Waiters.flat_cons, List.mem_append, ih]
        exact or_left_comm

theorem lookup_none_of_lt (ws : Waiters) (lo : Nat) (h : ∀ p ∈ ws, lo < p.1) : ws.get lo = none :=
  List.lookup_eq_none_iff.mpr fun p hp => by have := h p hp; simp; omega

theorem del_of_lt (ws : Waiters) (lo : Nat) (h : ∀ p ∈ ws, lo < p.1) : ws.del lo = ws := by
  unfold Waiters.del
  apply List.filter_eq_self.mpr
  intro p hp
  have := h p hp
  simp; omega

/-- The first path written as the two filters of the second path (`til = lo + n - 1`). -/
theorem notifyRange_eq (ws : Waiters) (lo n : Nat) (hs : ws.Sorted) (hlo : ∀ p ∈ ws, lo ≤ p.1) :
    notifyRange ws lo n =
      (ws.filter (fun p => !(decide (p.1 < lo + n))),
       (ws.filter (fun p => decide (p.1 < lo + n))).flatMap (fun p => wakeAll p.1 p.2)) := by
  induction n generalizing ws lo with
  | zero =>
    simp only [notifyRange, Nat.add_zero]
    have h1 : ws.filter (fun p => !(decide (p.1 < lo))) = ws := by
      apply List.filter_eq_self.mpr
      intro p hp; have := hlo p hp; simp; omega
    have h2 : ws.filter (fun p => decide (p.1 < lo)) = [] := by
      apply List.filter_eq_nil_iff.mpr
      intro p hp; have := hlo p hp; simp; omega
    rw [h1, h2]; rfl
  | succ n ih =>
    cases ws with
    | nil =>
      simp only [notifyRange, Waiters.get, List.lookup]
      rw [ih [] (lo + 1) hs (by simp)]
      simp
    | cons q rest =>
      obtain ⟨k, l⟩ := q
      have hq := List.pairwise_cons.mp hs
      have hk : lo ≤ k := hlo (k, l) (by simp)
      by_cases hkl : k = lo
      · subst hkl
        have hrest : ∀ p ∈ rest, k + 1 ≤ p.1 := fun p hp => hq.1 p hp
        have hget : Waiters.get ((k, l) :: rest) k = some l := by
          simp [Waiters.get]
        have hdel : Waiters.del ((k, l) :: rest) k = rest := by
          rw [Waiters.del, List.filter_cons_of_neg (by simp)]
          exact del_of_lt rest k hq.1
        simp only [notifyRange, hget, hdel]
        rw [ih rest (k + 1) hq.2 hrest]
        have e : k + 1 + n = k + (n + 1) := by omega
        rw [e]
        simp
      · have hlt : lo < k := by omega
        have hall : ∀ p ∈ (k, l) :: rest, lo < p.1 := by
          intro p hp
          rcases List.mem_cons.mp hp with rfl | hp
          · exact hlt
          · have := hq.1 p hp; simp at this; omega
        have hget := lookup_none_of_lt _ lo hall
        simp only [notifyRange, hget]
        rw [ih ((k, l) :: rest) (lo + 1) hs (fun p hp => hall p hp)]
        have e : lo + 1 + n = lo + (n + 1) := by omega
        rw [e]

theorem notifyRange_eq_notifyMap (ws : Waiters) (d til : Nat) (hs : ws.Sorted)
    (hw : ∀ p ∈ ws, d < p.1) (hd : d ≤ til) :
    notifyRange ws (d + 1) (til - d) = notifyMap ws til := by
  rw [notifyRange_eq ws (d + 1) (til - d) hs hw, show d + 1 + (til - d) = til + 1 by omega]
  simp only [notifyMap, Nat.lt_add_one_iff]

theorem notify_eq_notifyMap (ws : Waiters) (d til : Nat) (hs : ws.Sorted)
    (hw : ∀ p ∈ ws, d < p.1) (hd : d ≤ til) : notify ws d til = notifyMap ws til := by
  unfold notify
  split
  · exact notifyRange_eq_notifyMap ws d til hs hw hd
  · rfl

theorem mem_notifyMap_kept (ws : Waiters) (til : Nat) (p : Nat × List Nat) :
    p ∈ (notifyMap ws til).1 ↔ p ∈ ws ∧ til < p.1 := by
  simp [notifyMap, List.mem_filter]

theorem mem_notifyMap_flat (ws : Waiters) (til : Nat) (k : Wakeup) :
    k ∈ (notifyMap ws til).1.flat ↔ k ∈ ws.flat ∧ til < k.idx := by
  simp only [Waiters.mem_flat, mem_notifyMap_kept]
  constructor
  · rintro ⟨p, ⟨hp, hlt⟩, e, hw⟩; exact ⟨⟨p, hp, e, hw⟩, e ▸ hlt⟩
  · rintro ⟨⟨p, hp, e, hw⟩, hlt⟩; exact ⟨p, ⟨hp, e ▸ hlt⟩, e, hw⟩

theorem mem_notifyMap_woke (ws : Waiters) (til : Nat) (k : Wakeup) :
    k ∈ (notifyMap ws til).2 ↔ k ∈ ws.flat ∧ k.idx ≤ til := by
  simp only [notifyMap, List.mem_flatMap, List.mem_filter, mem_wakeAll, Waiters.mem_flat, decide_eq_true_eq]
  constructor
  · rintro ⟨p, ⟨hp, hle⟩, e, hw⟩; exact ⟨⟨p, hp, e.symm, hw⟩, by omega⟩
  · rintro ⟨⟨p, hp, e, hw⟩, hle⟩; exact ⟨p, ⟨hp, by omega⟩, e.symm, hw⟩

end Badger
