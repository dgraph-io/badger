import BadgerModel.Backup
import BadgerProofs.Lemmas.StreamL
import BadgerProofs.Lemmas.Txn
/-!
# Lemmas for C24 (Backup / Load): the `KVLoader` loop (one equation per round, `load_spec`, `load_ok`),
`memPut` of a sorted batch into the empty memtable, which meta bits `Backup` touches (`strip_testBit`), and the
backup's producer loop as a `flatMap` over the live ones among the iterator's items (`bk`), key group by key group. Namespace `Badger.BL`.
-/
namespace Badger
namespace BL
open SO

theorem hasBit_false_iff (m b : Nat) : hasBit m b = false ↔ (m / b) % 2 = 0 := by
  unfold hasBit; simp

def estSum (th : Nat) (l : List Ent) : Nat := (l.map (loadEstimate th)).foldl (· + ·) 0

theorem foldl_add_init (l : List Nat) (a : Nat) : l.foldl (· + ·) a = a + l.foldl (· + ·) 0 := by
  induction l generalizing a with
  | nil => simp
  | cons x xs ih => simp only [List.foldl_cons]; rw [ih (a + x), ih (0 + x)]; omega

theorem estSum_snoc (th : Nat) (l : List Ent) (e : Ent) :
    estSum th (l ++ [e]) = estSum th l + loadEstimate th e := by
  unfold estSum
  rw [List.map_append, List.foldl_append]
  simp

def mk (d : Db) (m : List Ent) (t : Nat) : Db := { d with lsm := { d.lsm with mem := m }, nextTs := t }

/-- one `writeToLSM` step -/
def put (d : Db) : List Ent → Ent → List Ent := fun m e => memPut (d.lsmForm e) m

abbrev putAll (L m : List Ent) : List Ent := L.foldl (fun m e => memPut e m) m

theorem foldl_put_eq (d : Db) (kvs m : List Ent) : kvs.foldl (put d) m = putAll (kvs.map d.lsmForm) m := by
  unfold putAll put
  rw [List.foldl_map]

theorem mk_self (d : Db) : mk d d.lsm.mem d.nextTs = d := rfl
theorem mk_opts (d : Db) (m : List Ent) (t : Nat) : (mk d m t).opts = d.opts := rfl
theorem mk_mem (d : Db) (m : List Ent) (t : Nat) : (mk d m t).lsm.mem = m := rfl
theorem mk_imm (d : Db) (m : List Ent) (t : Nat) : (mk d m t).lsm.imm = d.lsm.imm := rfl
theorem mk_levels (d : Db) (m : List Ent) (t : Nat) : (mk d m t).lsm.levels = d.lsm.levels := rfl
theorem mk_nextTs (d : Db) (m : List Ent) (t : Nat) : (mk d m t).nextTs = t := rfl

theorem lsmForm_mk (d : Db) (m : List Ent) (t : Nat) : (mk d m t).lsmForm = d.lsmForm := rfl

/-- the loader invariant: the pending batch is below both limits of `sendToWriteCh` -/
def LInv (o : Opts) (l : KVLoader) : Prop :=
  l.entries.length < o.maxBatchCount ∧ l.entriesSize = estSum o.threshold l.entries ∧
  l.entriesSize < o.maxBatchSize

/-- `DB.Load` moves `nextTxnTs` above a loaded version: a running maximum of `version + 1` -/
def bump (t : Nat) (kv : Ent) : Nat := if t < kv.ver + 1 then kv.ver + 1 else t

/-- the loader after `Set(kv)` without a send -/
def push (o : Opts) (l : KVLoader) (kv : Ent) : KVLoader :=
  { entries := l.entries ++ [kv], entriesSize := l.entriesSize + loadEstimate o.threshold kv,
    totalSize := l.totalSize + loadEstimate o.threshold kv + kv.val.length }

theorem LInv.push {o : Opts} {l : KVLoader} (kv : Ent) (h2 : l.entriesSize = estSum o.threshold l.entries)
    (hc : l.entries.length + 1 < o.maxBatchCount)
    (hs : l.entriesSize + loadEstimate o.threshold kv < o.maxBatchSize) : LInv o (push o l kv) :=
  ⟨by rw [BL.push, List.length_append]; exact hc, by rw [BL.push, estSum_snoc, h2], hs⟩

/-- `Set(kv)` sends the pending batch first -/
def mustSend (o : Opts) (l : KVLoader) (kv : Ent) : Bool :=
  l.entries.length + 1 ≥ o.maxBatchCount || l.entriesSize + loadEstimate o.threshold kv ≥ o.maxBatchSize
    || l.totalSize ≥ flushThreshold

/-- `sendToWriteCh` answers `ErrTxnTooBig` -/
def tooBig (o : Opts) (l : KVLoader) : Bool :=
  l.entries.length ≥ o.maxBatchCount || estSum o.threshold l.entries ≥ o.maxBatchSize

theorem LInv.not_tooBig {o : Opts} {l : KVLoader} (h : LInv o l) : tooBig o l = false := by
  obtain ⟨h1, h2, h3⟩ := h
  unfold BL.tooBig
  simp
  omega

theorem loaderSend_mk (d : Db) (m : List Ent) (t : Nat) (l : KVLoader) :
    (mk d m t).loaderSend l =
      if tooBig d.opts l then none else some (mk d (l.entries.foldl (put d) m) t, {}) := rfl

theorem loaderSet_mk (d : Db) (m : List Ent) (t : Nat) (l : KVLoader) (kv : Ent) :
    (mk d m t).loaderSet l kv =
      match (if mustSend d.opts l kv then (mk d m t).loaderSend l else some (mk d m t, l)) with
      | none => none
      | some (d', l') => some (d', push d.opts l' kv) := rfl

/-- one round of the loop of `DB.Load`, on the only part of the state it changes -/
theorem loadKV_mk (d : Db) (m : List Ent) (t : Nat) (l : KVLoader) (kv : Ent) :
    (mk d m t).loadKV l kv =
      if mustSend d.opts l kv then
        if tooBig d.opts l then none
        else some (mk d (l.entries.foldl (put d) m) (bump t kv), push d.opts {} kv)
      else some (mk d m (bump t kv), push d.opts l kv) := by
  have hb : ∀ m', (if kv.ver ≥ (mk d m' t).nextTs then { mk d m' t with nextTs := kv.ver + 1 } else mk d m' t) =
      mk d m' (bump t kv) := fun m' => by
    show (if kv.ver ≥ t then _ else _) = _
    unfold bump
    by_cases hv : kv.ver ≥ t
    · rw [if_pos hv, if_pos (Nat.lt_succ_of_le hv)]; rfl
    · rw [if_neg hv, if_neg (mt Nat.le_of_lt_succ hv)]
  rw [Db.loadKV, loaderSet_mk, loaderSend_mk]
  cases mustSend d.opts l kv
  · exact congrArg (fun x => some (x, push d.opts l kv)) (hb m)
  · cases tooBig d.opts l
    · exact congrArg (fun x => some (x, push d.opts {} kv)) (hb _)
    · rfl

/-- a `Load` loop that succeeds has put every KV in order, the pending batch counted as put, and bumped
    `nextTxnTs` for each -/
theorem loadLoop_spec (d : Db) (rest : List Ent) : ∀ (m : List Ent) (t : Nat) (l : KVLoader) (d' : Db) (l' : KVLoader),
    (mk d m t).loadLoop l rest = (d', l', true) →
    ∃ m', d' = mk d m' (rest.foldl bump t) ∧
      l'.entries.foldl (put d) m' = (l.entries ++ rest).foldl (put d) m := by
  induction rest with
  | nil =>
    intro m t l d' l' h
    cases h
    exact ⟨m, rfl, by rw [List.append_nil]⟩
  | cons kv rest ih =>
    intro m t l d' l' h
    rw [Db.loadLoop, loadKV_mk] at h
    cases hs : mustSend d.opts l kv <;> cases hb : tooBig d.opts l <;>
      simp only [hs, hb, Bool.false_eq_true, if_false, if_true] at h
    case true.true => cases h   -- the pending batch must be sent and is over a limit (`ErrTxnTooBig`): `Load` fails
    all_goals   -- the entry joins the pending batch, or the batch is sent first: by induction
      obtain ⟨m', h1, h2⟩ := ih _ _ _ _ _ h
      exact ⟨m', h1, by rw [h2]; simp [push, List.foldl_append]⟩

/-- a successful `Load`: every KV put in order, `nextTxnTs` bumped for each, nothing else touched -/
theorem load_spec (d : Db) (kvs : List Ent) (h : (d.load kvs).2 = true) :
    (d.load kvs).1 = mk d (putAll (kvs.map d.lsmForm) d.lsm.mem) (kvs.foldl bump d.nextTs) := by
  rw [← foldl_put_eq]
  rcases hl : (mk d d.lsm.mem d.nextTs).loadLoop {} kvs with ⟨d1, l1, ok⟩
  rw [mk_self] at hl
  simp only [Db.load, hl] at h ⊢
  cases ok with
  | false => simp at h
  | true =>
    obtain ⟨m', rfl, h2⟩ := loadLoop_spec d kvs _ _ _ _ _ hl
    have h2' : l1.entries.foldl (put d) m' = kvs.foldl (put d) d.lsm.mem := h2
    by_cases hem : l1.entries.isEmpty = true
    · rw [List.isEmpty_iff.mp hem] at h2'
      simp [hem, ← h2']
    · simp only [hem, loaderSend_mk] at h ⊢
      cases hb : tooBig d.opts l1 <;> simp [hb, h2'] at h ⊢

theorem loadLoop_ok (d : Db) (hc : 2 ≤ d.opts.maxBatchCount) (rest : List Ent) :
    ∀ (m : List Ent) (t : Nat) (l : KVLoader), LInv d.opts l →
    (∀ e ∈ rest, loadEstimate d.opts.threshold e < d.opts.maxBatchSize) →
    ∃ d' l', (mk d m t).loadLoop l rest = (d', l', true) ∧ LInv d.opts l' := by
  induction rest with
  | nil => intro m t l hi _; exact ⟨_, _, rfl, hi⟩
  | cons kv rest ih =>
    intro m t l hi he
    have hkv := he kv (by simp)
    have hrest := fun e h => he e (List.mem_cons_of_mem _ h)
    rw [Db.loadLoop, loadKV_mk]
    by_cases hs : mustSend d.opts l kv = true
    · -- the pending batch is sent, `kv` starts a new one
      rw [if_pos hs, hi.not_tooBig]
      exact ih _ _ _ (LInv.push (l := {}) kv rfl hc (by show 0 + _ < _; omega)) hrest
    · rw [if_neg hs]
      simp only [mustSend, ge_iff_le, Bool.or_eq_true, decide_eq_true_eq] at hs
      exact ih _ _ _ (LInv.push kv hi.2.1 (by omega) (by omega)) hrest

theorem load_ok (d : Db) (kvs : List Ent) (hc : 2 ≤ d.opts.maxBatchCount)
    (he : ∀ e ∈ kvs, loadEstimate d.opts.threshold e < d.opts.maxBatchSize) : (d.load kvs).2 = true := by
  by_cases hk : kvs = []
  · subst hk; rfl
  -- some KV fits, so the size limit is positive and the empty loader satisfies the invariant
  obtain ⟨kv, hkv⟩ := List.exists_mem_of_ne_nil kvs hk
  have hi : LInv d.opts {} := ⟨by show 0 < _; omega, rfl, Nat.zero_lt_of_lt (he kv hkv)⟩
  obtain ⟨d1, l1, h1, h2⟩ := loadLoop_ok d hc kvs d.lsm.mem d.nextTs {} hi he
  rw [mk_self] at h1
  obtain ⟨m', rfl, -⟩ := loadLoop_spec d kvs _ _ _ _ _ (by rw [mk_self]; exact h1)
  simp only [Db.load, h1]
  by_cases hem : l1.entries.isEmpty = true
  · simp [hem]
  · simp [hem, loaderSend_mk, h2.not_tooBig]

def sameKV (x y : Ent) : Prop := x.key = y.key ∧ x.ver = y.ver

theorem elt_not_same {a b : Ent} (h : elt a b) : ¬ sameKV a b := by
  rintro ⟨hk, hv⟩
  have := elt_same_key_ver h hk
  omega

theorem elt_congr_right {a b b' : Ent} (h : sameKV b b') : elt a b ↔ elt a b' := by
  unfold elt; rw [h.1, h.2]

theorem sorted_distinct {L : List Ent} (h : SortedEnts L) : L.Pairwise (fun a b => ¬ sameKV a b) :=
  ((sorted_iff L).mp h).imp elt_not_same

/-- a sorted batch put into the empty memtable is the memtable: both are sorted, with the same members -/
theorem putAll_nil {L : List Ent} (hL : SortedEnts L) : putAll L [] = L :=
  sorted_ext (foldl_memPut_sorted sortedEnts_nil) hL fun _ =>
    ⟨fun h => (mem_foldl_memPut h).resolve_right List.not_mem_nil, mem_foldl_memPut_of_distinct (sorted_distinct hL)⟩

theorem sorted_lsmForm (d : Db) {l : List Ent} (h : SortedEnts l) : SortedEnts (l.map d.lsmForm) :=
  sorted_map (lsmForm_key d) (lsmForm_ver d) h

/-- a retention boundary: `Backup` stops after it -/
def bdry (now : Nat) (e : Ent) : Bool := deletedOrExpired e.emeta e.exp now || hasBit e.emeta bitDiscardEarlier

/-- the KV `Backup` emits for a version: transaction bits cleared, no value when dead -/
def strip (now : Nat) (e : Ent) : Ent :=
  { key := e.key, ver := e.ver, emeta := clearBit (clearBit e.emeta bitTxn) bitFinTxn,
    umeta := e.umeta, exp := e.exp, val := if deletedOrExpired e.emeta e.exp now then [] else e.val }

/-- `Backup` touches the two transaction bits only -/
theorem strip_testBit (now : Nat) (e : Ent) {j : Nat} (h6 : j ≠ 6) (h7 : j ≠ 7) :
    (strip now e).emeta.testBit j = e.emeta.testBit j := by
  show (clearBit (clearBit e.emeta bitTxn) bitFinTxn).testBit j = _
  rw [bitTxn_eq, bitFinTxn_eq, testBit_clearBit, testBit_clearBit, bne_iff_ne.mpr h6, bne_iff_ne.mpr h7,
    Bool.and_true, Bool.and_true]

/-- the delete marker written just below a discard-earlier version -/
def synth (e : Ent) : Ent :=
  { key := e.key, ver := verPred e.ver, emeta := bitDelete, umeta := 0, exp := 0, val := [] }

def emit (now : Nat) (e : Ent) : List Ent :=
  if hasBit e.emeta bitDiscardEarlier then [strip now e, synth e] else [strip now e]

theorem mem_emit {now : Nat} {e x : Ent} :
    x ∈ emit now e ↔ x = strip now e ∨ (hasBit e.emeta bitDiscardEarlier = true ∧ x = synth e) := by
  unfold emit
  split <;> simp [*]

theorem backupKtl_cons (since now : Nat) (e : Ent) (rest : List Ent) (hv : ¬ e.ver < since) :
    backupKtl since now e.key (e :: rest) =
      if bdry now e then some (emit now e) else (backupKtl since now e.key rest).map (emit now e ++ ·) := by
  rw [backupKtl, if_neg (by simp), if_neg hv]
  unfold bdry emit strip synth
  cases deletedOrExpired e.emeta e.exp now <;> cases hasBit e.emeta bitDiscardEarlier <;> rfl

/-- a version is emitted iff no boundary of the same key lies above it -/
def live (now : Nat) (whole : List Ent) (e : Ent) : Bool :=
  !(whole.any (fun x => x.key == e.key && decide (e.ver < x.ver) && bdry now x))

theorem live_iff (now : Nat) (whole : List Ent) (e : Ent) :
    live now whole e = true ↔ ∀ x ∈ whole, x.key = e.key → e.ver < x.ver → bdry now x = false := by
  unfold live
  simp only [Bool.not_eq_true', List.any_eq_false, Bool.and_eq_true, beq_iff_eq, decide_eq_true_eq,
    not_and, Bool.not_eq_true]
  exact forall₂_congr fun _ _ => and_imp

/-- the backup's KVs for the iterator items `items` -/
def bk (now : Nat) (items : List Ent) : List Ent :=
  (items.filter (live now items)).flatMap (emit now)

theorem live_append (now : Nat) (a b : List Ent) (x : Ent) :
    live now (a ++ b) x = (live now a x && live now b x) := by
  unfold live
  rw [List.any_append, Bool.not_or]

/-- the versions of other keys do not matter to `live` -/
theorem bk_append (now : Nat) (a b : List Ent) (h : ∀ x ∈ a, ∀ y ∈ b, x.key ≠ y.key) :
    bk now (a ++ b) = bk now a ++ bk now b := by
  have hl : ∀ x ∈ a, live now b x = true := fun x hx => (live_iff ..).mpr fun y hy hk => absurd hk.symm (h x hx y hy)
  have hr : ∀ x ∈ b, live now a x = true := fun x hx => (live_iff ..).mpr fun y hy hk => absurd hk (h y hy x hx)
  unfold bk
  rw [List.filter_append, List.flatMap_append]
  congr 2 <;> refine List.filter_congr fun x hx => ?_ <;> rw [live_append]
  · rw [hl x hx, Bool.and_true]
  · rw [hr x hx, Bool.true_and]

/-- among the versions of one key the newest is emitted, the others are if it is no boundary -/
theorem bk_group_cons (now : Nat) {e : Ent} {g : List Ent} (hs : SortedEnts (e :: g)) (hg : ∀ x ∈ g, x.key = e.key) :
    bk now (e :: g) = emit now e ++ if bdry now e then [] else bk now g := by
  have hlt := fun x hx => elt_same_key_ver ((sorted_cons.mp hs).1 x hx) (hg x hx).symm
  have he : live now (e :: g) e = true := (live_iff ..).mpr fun x hx _ hv => by
    rcases List.mem_cons.mp hx with rfl | hx
    · omega
    · have := hlt x hx; omega
  have hx : ∀ x ∈ g, live now (e :: g) x = (!bdry now e && live now g x) := fun x hx => by
    unfold live
    rw [List.any_cons, hg x hx, BEq.rfl, decide_eq_true (hlt x hx), Bool.not_or]
    rfl
  unfold bk
  rw [List.filter_cons, he, if_pos rfl, List.flatMap_cons, List.filter_congr hx]
  cases bdry now e <;> simp

/-- `KeyToList` of a backup on a key group of versions `≥ since` (followed by other keys) succeeds
    with `bk` of the group -/
theorem backupKtl_group (since now : Nat) (k : Bytes) (g rest : List Ent) (hs : SortedEnts g)
    (hg : ∀ x ∈ g, x.key = k) (hv : ∀ x ∈ g, since ≤ x.ver) (hr : ∀ y, rest.head? = some y → y.key ≠ k) :
    backupKtl since now k (g ++ rest) = some (bk now g) := by
  induction g with
  | nil =>
    cases rest with
    | nil => rfl
    | cons y r => simp [backupKtl, hr y rfl, bk]
  | cons e g ih =>
    obtain rfl := hg e (by simp)
    have hg' := fun x hx => hg x (List.mem_cons_of_mem _ hx)
    rw [List.cons_append, backupKtl_cons since now e _ (Nat.not_lt.mpr (hv e (by simp))),
      ih (sorted_cons.mp hs).2 hg' (fun x hx => hv x (List.mem_cons_of_mem _ hx)), bk_group_cons now hs hg']
    cases bdry now e <;> simp

theorem produceLoop_bk (since sinceTs now : Nat) (V : List Ent) (hs : SortedEnts V) (hv : ∀ e ∈ V, since ≤ e.ver) :
    produceLoop (backupCfg [] since sinceTs now) [] none V = bk now V := by
  refine SL.keyGroup_induction (P := fun V => SortedEnts V → (∀ e ∈ V, since ≤ e.ver) →
    produceLoop (backupCfg [] since sinceTs now) [] none V = bk now V) (fun _ _ => rfl)
    (fun e g rest hg hr ih hs hv => ?_) V (SL.keySorted_of_sorted hs) hs hv
  have hs' : SortedEnts ((e :: g) ++ rest) := hs
  obtain ⟨s1, s2, -⟩ := sorted_append.mp hs'
  rw [SL.produceLoop_group _ e g rest hg hr, ih s2 fun x hx => hv x (List.mem_cons_of_mem _ (List.mem_append_right _ hx)), SL.emitKey]
  show (backupKtl since now e.key ((e :: g) ++ rest)).getD [] ++ _ = bk now ((e :: g) ++ rest)
  rw [backupKtl_group since now e.key (e :: g) rest s1 (by simpa using hg) (fun x hx => hv x (List.mem_append_left _ hx))
    fun y hy => hr y (List.mem_of_mem_head? hy), bk_append now (e :: g) rest]
  · rfl
  · intro x hx y hy hxy
    exact hr y hy (hxy ▸ by simpa using (List.mem_cons.mp hx).elim (· ▸ rfl) (hg x))

theorem mem_bk {now : Nat} {items : List Ent} {x : Ent} :
    x ∈ bk now items ↔ ∃ e ∈ items, live now items e = true ∧ x ∈ emit now e := by
  simp only [bk, List.mem_flatMap, List.mem_filter, and_assoc]

theorem verPred_lt {v : Nat} (h : 1 ≤ v) : verPred v < v := by
  unfold verPred
  rw [if_neg (by simp; omega)]; omega

theorem verPred_eq {v : Nat} (h : 1 ≤ v) : verPred v = v - 1 := by
  unfold verPred
  rw [if_neg (by simp; omega)]

theorem emit_key {now : Nat} {e x : Ent} (h : x ∈ emit now e) : x.key = e.key := by
  rcases mem_emit.mp h with rfl | ⟨_, rfl⟩ <;> rfl

theorem emit_cases {now : Nat} {e x : Ent} (h : x ∈ emit now e) :
    x = strip now e ∨ (bdry now e = true ∧ x.ver = verPred e.ver) := by
  rcases mem_emit.mp h with rfl | ⟨hde, rfl⟩
  · exact .inl rfl
  · right; refine ⟨?_, rfl⟩
    unfold bdry; rw [hde]; simp

theorem emit_ver_le {now : Nat} {e x : Ent} (hv : 1 ≤ e.ver) (h : x ∈ emit now e) : x.ver ≤ e.ver := by
  rcases emit_cases h with rfl | ⟨_, h2⟩
  · exact Nat.le_refl _
  · rw [h2]; exact Nat.le_of_lt (verPred_lt hv)

theorem sorted_bk (now : Nat) (items : List Ent) (hs : SortedEnts items) (hv : ∀ e ∈ items, 1 ≤ e.ver) :
    SortedEnts (bk now items) := by
  rw [sorted_iff]
  unfold bk
  rw [List.pairwise_flatMap]
  constructor
  · intro a ha
    unfold emit
    split
    · simp only [List.pairwise_cons, List.mem_singleton, List.not_mem_nil, false_imp_iff, implies_true,
        List.Pairwise.nil, and_true, forall_eq]
      exact .inr ⟨rfl, verPred_lt (hv a (List.mem_filter.mp ha).1)⟩
    · simp
  · refine List.Pairwise.imp_of_mem ?_ (((sorted_iff _).mp hs).filter _)
    intro a b ha hb hab x hx y hy
    obtain ⟨hb, hlb⟩ := List.mem_filter.mp hb
    have hyv := emit_ver_le (hv b hb) hy
    unfold elt
    rw [emit_key hx, emit_key hy]
    refine hab.imp id fun ⟨hk, hvab⟩ => ⟨hk, ?_⟩
    rcases emit_cases hx with rfl | ⟨hb', _⟩
    · exact Nat.lt_of_le_of_lt hyv hvab
    · -- a boundary above `b` with its key: `b` would not be live
      rw [(live_iff now items b).mp hlb a (List.mem_filter.mp ha).1 hk hvab] at hb'
      cases hb'

end BL
end Badger
