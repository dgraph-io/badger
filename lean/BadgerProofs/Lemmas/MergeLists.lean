import BadgerModel.Merge
import BadgerProofs.Lemmas.IterOrder
import BadgerProofs.Lemmas.Lists
/-!
# List-level facts for C21: the two-way merge `mergeLists` of strictly sorted entry lists, and `mergeSpecG`

`mergeSpecG` (every entry of every input inserted, earliest input first) is the right fold of
`mergeLists` over the inputs (`mergeSpecG_cons`), which is the recursion of `FirstWith`.  Equations
between sorted lists (`mergeLists_assoc`, `mergeSpecG_reverse`) are decided by comparing members.
-/
namespace Badger

/-- strictly sorted by key under `cmp` (hence duplicate-free keys) -/
def SortedBy (cmp : Bytes → Bytes → Ordering) (l : List ItEntry) : Prop :=
  l.Pairwise (fun a b => cmp a.key b.key = .lt)

def keysOf (l : List ItEntry) : List Bytes := l.map ItEntry.key

@[simp] theorem keysOf_nil : keysOf [] = [] := rfl
@[simp] theorem keysOf_cons (a : ItEntry) (l : List ItEntry) : keysOf (a :: l) = a.key :: keysOf l := rfl
@[simp] theorem keysOf_append (a b : List ItEntry) : keysOf (a ++ b) = keysOf a ++ keysOf b := by
  simp [keysOf]
theorem mem_keysOf {k : Bytes} {l : List ItEntry} : k ∈ keysOf l ↔ ∃ e ∈ l, e.key = k := by
  simp [keysOf]
theorem key_mem_keysOf {e : ItEntry} {l : List ItEntry} (h : e ∈ l) : e.key ∈ keysOf l :=
  mem_keysOf.mpr ⟨e, h, rfl⟩

/-- Two-way merge; on equal keys the left entry is kept and the right one dropped. -/
def mergeLists (cmp : Bytes → Bytes → Ordering) : List ItEntry → List ItEntry → List ItEntry
  | [], r => r
  | a :: l, [] => a :: l
  | a :: l, b :: r =>
    match cmp a.key b.key with
    | .lt => a :: mergeLists cmp l (b :: r)
    | .eq => a :: mergeLists cmp l r
    | .gt => b :: mergeLists cmp (a :: l) r
termination_by l r => l.length + r.length

section
variable {cmp : Bytes → Bytes → Ordering}

@[simp] theorem mergeLists_nil_left (r : List ItEntry) : mergeLists cmp [] r = r := by
  simp [mergeLists]

@[simp] theorem mergeLists_nil_right (l : List ItEntry) : mergeLists cmp l [] = l := by
  cases l <;> simp [mergeLists]

theorem mergeLists_cons_lt {a b : ItEntry} {l r : List ItEntry} (h : cmp a.key b.key = .lt) :
    mergeLists cmp (a :: l) (b :: r) = a :: mergeLists cmp l (b :: r) := by
  rw [mergeLists]; simp [h]

theorem mergeLists_cons_eq {a b : ItEntry} {l r : List ItEntry} (h : cmp a.key b.key = .eq) :
    mergeLists cmp (a :: l) (b :: r) = a :: mergeLists cmp l r := by
  rw [mergeLists]; simp [h]

theorem mergeLists_cons_gt {a b : ItEntry} {l r : List ItEntry} (h : cmp a.key b.key = .gt) :
    mergeLists cmp (a :: l) (b :: r) = b :: mergeLists cmp (a :: l) r := by
  rw [mergeLists]; simp [h]

theorem SortedBy.tail {a : ItEntry} {l : List ItEntry} (h : SortedBy cmp (a :: l)) : SortedBy cmp l :=
  (List.pairwise_cons.mp h).2

theorem SortedBy.head_lt {a : ItEntry} {l : List ItEntry} (h : SortedBy cmp (a :: l)) :
    ∀ x ∈ l, cmp a.key x.key = .lt := (List.pairwise_cons.mp h).1

theorem SortedBy.nil : SortedBy cmp [] := List.Pairwise.nil

theorem SortedBy.lt_all (T : TotalCmp cmp) {a : ItEntry} {l : List ItEntry}
    (h : SortedBy cmp (a :: l)) {k : Bytes} (hk : cmp k a.key = .lt) :
    ∀ x ∈ a :: l, cmp k x.key = .lt :=
  List.forall_mem_cons.mpr ⟨hk, fun x hx => T.trans hk (h.head_lt x hx)⟩

theorem not_mem_keysOf_of_lt (T : TotalCmp cmp) {k : Bytes} {l : List ItEntry}
    (h : ∀ x ∈ l, cmp k x.key = .lt) : k ∉ keysOf l := by
  intro hm
  obtain ⟨e, he, rfl⟩ := mem_keysOf.mp hm
  exact T.lt_irrefl _ (h e he)

theorem mem_keysOf_mergeLists (T : TotalCmp cmp) {k : Bytes} {l r : List ItEntry} :
    k ∈ keysOf (mergeLists cmp l r) ↔ k ∈ keysOf l ∨ k ∈ keysOf r := by
  fun_induction mergeLists cmp l r with
  | case1 r => simp  -- left empty
  | case2 a l => simp  -- right empty
  | case3 a l b r hc ih =>  -- a.key < b.key
    simp only [keysOf_cons, List.mem_cons, ih]
    exact or_assoc.symm
  | case4 a l b r hc ih =>  -- equal keys
    simp only [keysOf_cons, List.mem_cons, ih, ← (T.eq_iff _ _).mp hc]
    exact or_or_distrib_left
  | case5 a l b r hc ih =>  -- a.key > b.key
    simp only [keysOf_cons, List.mem_cons, ih]
    exact or_left_comm

theorem SortedBy.key_not_mem (T : TotalCmp cmp) {a : ItEntry} {l : List ItEntry}
    (h : SortedBy cmp (a :: l)) : a.key ∉ keysOf l :=
  not_mem_keysOf_of_lt T h.head_lt

theorem mem_mergeLists_iff (T : TotalCmp cmp) {e : ItEntry} {l r : List ItEntry}
    (hl : SortedBy cmp l) (hr : SortedBy cmp r) :
    e ∈ mergeLists cmp l r ↔ e ∈ l ∨ (e ∈ r ∧ e.key ∉ keysOf l) := by
  fun_induction mergeLists cmp l r with
  | case1 r => simp  -- left empty
  | case2 a l => simp  -- right empty
  | case3 a l b r hc ih =>  -- a.key < b.key
    -- nothing on the right has the key of `a`
    have hne : ∀ x ∈ b :: r, x.key ≠ a.key :=
      fun x hx e => T.ne_of_lt (hr.lt_all T hc x hx) e.symm
    rw [List.mem_cons, ih hl.tail hr]
    simp only [keysOf_cons, List.mem_cons, not_or]
    rw [← or_assoc]
    exact or_congr_right (and_congr_right fun h =>
      (and_iff_right (hne e (List.mem_cons.mpr h))).symm)
  | case4 a l b r hc ih =>  -- equal keys
    -- `b` and only `b` on the right has the key of `a`
    have hk : a.key = b.key := (T.eq_iff _ _).mp hc
    have hne : ∀ x ∈ r, x.key ≠ a.key :=
      fun x hx e => T.ne_of_lt (hk ▸ hr.head_lt x hx) e.symm
    rw [List.mem_cons, ih hl.tail hr.tail]
    simp only [keysOf_cons, List.mem_cons, not_or]
    rw [← or_assoc]
    exact or_congr_right ⟨fun ⟨h, hp⟩ => ⟨.inr h, hne e h, hp⟩,
      fun ⟨h, hn, hp⟩ => ⟨h.resolve_left fun hb => hn (hb ▸ hk.symm), hp⟩⟩
  | case5 a l b r hc ih =>  -- a.key > b.key
    -- `b` has a key that the left does not have
    have hb : b.key ∉ keysOf (a :: l) :=
      not_mem_keysOf_of_lt T (hl.lt_all T ((T.gt_iff _ _).mp hc))
    rw [List.mem_cons, ih hl hr.tail, List.mem_cons (a := e) (l := r), or_left_comm]
    exact or_congr_right
      ⟨fun h => h.elim (fun hb' => ⟨.inl hb', hb' ▸ hb⟩) fun ⟨h, hp⟩ => ⟨.inr h, hp⟩,
        fun ⟨h, hp⟩ => h.elim .inl fun h => .inr ⟨h, hp⟩⟩

theorem sortedBy_mergeLists (T : TotalCmp cmp) {l r : List ItEntry} (hl : SortedBy cmp l)
    (hr : SortedBy cmp r) : SortedBy cmp (mergeLists cmp l r) := by
  fun_induction mergeLists cmp l r with
  | case1 r => exact hr  -- left empty
  | case2 a l => exact hl  -- right empty
  | case3 a l b r hc ih =>  -- a.key < b.key
    refine List.pairwise_cons.mpr ⟨?_, ih hl.tail hr⟩
    intro x hx
    rcases (mem_mergeLists_iff T hl.tail hr).mp hx with hx | ⟨hx, _⟩
    · exact hl.head_lt x hx
    · exact hr.lt_all T hc x hx
  | case4 a l b r hc ih =>  -- equal keys
    refine List.pairwise_cons.mpr ⟨?_, ih hl.tail hr.tail⟩
    intro x hx
    rcases (mem_mergeLists_iff T hl.tail hr.tail).mp hx with hx | ⟨hx, _⟩
    · exact hl.head_lt x hx
    · have := hr.head_lt x hx
      rwa [← (T.eq_iff _ _).mp hc] at this
  | case5 a l b r hc ih =>  -- a.key > b.key
    have hba : cmp b.key a.key = .lt := (T.gt_iff _ _).mp hc
    refine List.pairwise_cons.mpr ⟨?_, ih hl hr.tail⟩
    intro x hx
    rcases (mem_mergeLists_iff T hl hr.tail).mp hx with hx | ⟨hx, _⟩
    · exact hl.lt_all T hba x hx
    · exact hr.head_lt x hx

/-- In the equal-keys case dropping the right head first (what `fix` does) does not
    change the merge. -/
theorem mergeLists_drop_right_eq (T : TotalCmp cmp) {a b : ItEntry} {l r : List ItEntry}
    (hc : cmp a.key b.key = .eq) (hr : SortedBy cmp (b :: r)) :
    mergeLists cmp (a :: l) (b :: r) = mergeLists cmp (a :: l) r := by
  rw [mergeLists_cons_eq hc]
  cases r with
  | nil => simp
  | cons b' r' =>
    have : cmp a.key b'.key = .lt := by
      rw [(T.eq_iff _ _).mp hc]; exact hr.head_lt b' (by simp)
    rw [mergeLists_cons_lt this]

theorem dropWhile_lt_cons_of_lt {k : Bytes} (a : ItEntry) (l : List ItEntry) (h : cmp a.key k = .lt) :
    (a :: l).dropWhile (fun e => cmp e.key k == .lt) = l.dropWhile (fun e => cmp e.key k == .lt) :=
  List.dropWhile_cons_of_pos (by simp [h])

theorem dropWhile_lt_cons_of_not_lt {k : Bytes} (a : ItEntry) (l : List ItEntry) (h : cmp a.key k ≠ .lt) :
    (a :: l).dropWhile (fun e => cmp e.key k == .lt) = a :: l :=
  List.dropWhile_cons_of_neg (by simp [h])

/-- `Seek` commutes with merging. -/
theorem dropWhile_mergeLists (T : TotalCmp cmp) (k : Bytes) (l r : List ItEntry) :
    (mergeLists cmp l r).dropWhile (fun e => cmp e.key k == .lt) =
      mergeLists cmp (l.dropWhile (fun e => cmp e.key k == .lt))
        (r.dropWhile (fun e => cmp e.key k == .lt)) := by
  fun_induction mergeLists cmp l r with
  | case1 r => simp  -- left empty
  | case2 a l => simp  -- right empty
  | case3 a l b r hc ih =>  -- a.key < b.key
    by_cases ha : cmp a.key k = .lt
    · rw [dropWhile_lt_cons_of_lt a _ ha, ih, dropWhile_lt_cons_of_lt a l ha]
    · have hb : cmp b.key k ≠ .lt := fun hb => ha (T.trans hc hb)
      rw [dropWhile_lt_cons_of_not_lt a _ ha, dropWhile_lt_cons_of_not_lt a l ha, dropWhile_lt_cons_of_not_lt b r hb, mergeLists_cons_lt hc]
  | case4 a l b r hc ih =>  -- equal keys
    have hk : a.key = b.key := (T.eq_iff _ _).mp hc
    by_cases ha : cmp a.key k = .lt
    · have hb : cmp b.key k = .lt := hk ▸ ha
      rw [dropWhile_lt_cons_of_lt a _ ha, ih, dropWhile_lt_cons_of_lt a l ha, dropWhile_lt_cons_of_lt b r hb]
    · have hb : cmp b.key k ≠ .lt := hk ▸ ha
      rw [dropWhile_lt_cons_of_not_lt a _ ha, dropWhile_lt_cons_of_not_lt a l ha, dropWhile_lt_cons_of_not_lt b r hb, mergeLists_cons_eq hc]
  | case5 a l b r hc ih =>  -- a.key > b.key
    have hba : cmp b.key a.key = .lt := (T.gt_iff _ _).mp hc
    by_cases hb : cmp b.key k = .lt
    · rw [dropWhile_lt_cons_of_lt b _ hb, ih, dropWhile_lt_cons_of_lt b r hb]
    · have ha : cmp a.key k ≠ .lt := fun ha => hb (T.trans hba ha)
      rw [dropWhile_lt_cons_of_not_lt b _ hb, dropWhile_lt_cons_of_not_lt a l ha, dropWhile_lt_cons_of_not_lt b r hb, mergeLists_cons_gt hc]

theorem insertIfAbsent_eq_mergeLists (T : TotalCmp cmp) (e : ItEntry) (acc : List ItEntry) :
    insertIfAbsent cmp e acc = mergeLists cmp acc [e] := by
  induction acc with
  | nil => rw [mergeLists_nil_left, insertIfAbsent]
  | cons y ys ih =>
    rw [insertIfAbsent]
    cases hc : cmp e.key y.key with
    | lt => rw [mergeLists_cons_gt ((T.lt_iff _ _).mp hc), mergeLists_nil_right]
    | eq =>
      rw [mergeLists_cons_eq ((T.eq_iff _ _).mpr ((T.eq_iff _ _).mp hc).symm), mergeLists_nil_right]
    | gt => rw [mergeLists_cons_lt ((T.gt_iff _ _).mp hc), ← ih]

theorem sortedBy_insertIfAbsent (T : TotalCmp cmp) {e : ItEntry} {acc : List ItEntry}
    (hs : SortedBy cmp acc) : SortedBy cmp (insertIfAbsent cmp e acc) :=
  insertIfAbsent_eq_mergeLists T e acc ▸ sortedBy_mergeLists T hs (List.pairwise_singleton _ _)

theorem mergeLists_assoc (T : TotalCmp cmp) {a b c : List ItEntry} (ha : SortedBy cmp a)
    (hb : SortedBy cmp b) (hc : SortedBy cmp c) :
    mergeLists cmp (mergeLists cmp a b) c = mergeLists cmp a (mergeLists cmp b c) := by
  have hab := sortedBy_mergeLists T ha hb
  have hbc := sortedBy_mergeLists T hb hc
  apply pairwise_ext (fun _ _ => T.lt_asymm) (sortedBy_mergeLists T hab hc) (sortedBy_mergeLists T ha hbc)
  intro e
  rw [mem_mergeLists_iff T hab hc, mem_mergeLists_iff T ha hb, mem_mergeLists_iff T ha hbc,
    mem_mergeLists_iff T hb hc, mem_keysOf_mergeLists T]
  -- both sides say: in `a`, or in `b` with its key not in `a`, or in `c` with its key in neither
  grind

theorem sortedBy_foldl_insertIfAbsent (T : TotalCmp cmp) (l : List ItEntry) {acc : List ItEntry}
    (ha : SortedBy cmp acc) : SortedBy cmp (l.foldl (fun acc e => insertIfAbsent cmp e acc) acc) :=
  List.foldlRecOn _ _ ha fun _ h _ _ => sortedBy_insertIfAbsent T h

theorem foldl_insertIfAbsent (T : TotalCmp cmp) (l : List ItEntry) {acc : List ItEntry}
    (ha : SortedBy cmp acc) :
    l.foldl (fun acc e => insertIfAbsent cmp e acc) acc =
      mergeLists cmp acc (l.foldl (fun acc e => insertIfAbsent cmp e acc) []) := by
  induction l generalizing acc with
  | nil => exact (mergeLists_nil_right acc).symm
  | cons e l ih =>
    have he : SortedBy cmp [e] := List.pairwise_singleton _ _
    rw [List.foldl_cons, List.foldl_cons, ih (sortedBy_insertIfAbsent T ha),
      show insertIfAbsent cmp e [] = [e] from rfl, ih he, insertIfAbsent_eq_mergeLists T,
      mergeLists_assoc T ha he (sortedBy_foldl_insertIfAbsent T l .nil)]

/-- `x` occurs in the earliest input that has an entry with `x`'s key. -/
def FirstWith (x : ItEntry) : List (List ItEntry) → Prop
  | [] => False
  | l :: rest => x ∈ l ∨ (x.key ∉ keysOf l ∧ FirstWith x rest)

theorem firstWith_mem {x : ItEntry} {inputs : List (List ItEntry)} (h : FirstWith x inputs) :
    ∃ l ∈ inputs, x ∈ l := by
  induction inputs with
  | nil => exact absurd h (by simp [FirstWith])
  | cons l rest ih =>
    rcases h with h | ⟨_, h⟩
    · exact ⟨l, by simp, h⟩
    · obtain ⟨l', h1, h2⟩ := ih h
      exact ⟨l', List.mem_cons_of_mem _ h1, h2⟩

theorem sortedBy_mergeSpecG (T : TotalCmp cmp) (inputs : List (List ItEntry)) :
    SortedBy cmp (mergeSpecG cmp inputs) :=
  sortedBy_foldl_insertIfAbsent T _ .nil

/-- The spec splits like the balanced tree of `NewMergeIterator`. -/
theorem mergeSpecG_append (T : TotalCmp cmp) (a b : List (List ItEntry)) :
    mergeSpecG cmp (a ++ b) = mergeLists cmp (mergeSpecG cmp a) (mergeSpecG cmp b) := by
  unfold mergeSpecG
  rw [List.flatten_append, List.foldl_append]
  exact foldl_insertIfAbsent T _ (sortedBy_foldl_insertIfAbsent T _ .nil)

theorem mergeSpecG_singleton (T : TotalCmp cmp) (l : List ItEntry) (hl : SortedBy cmp l) :
    mergeSpecG cmp [l] = l := by
  unfold mergeSpecG
  rw [List.flatten_singleton]
  induction l with
  | nil => rfl
  | cons e l ih =>
    rw [List.foldl_cons, show insertIfAbsent cmp e [] = [e] from rfl,
      foldl_insertIfAbsent T l (List.pairwise_singleton _ _), ih hl.tail]
    cases l with
    | nil => exact mergeLists_nil_right _
    | cons b l => rw [mergeLists_cons_lt (hl.head_lt b List.mem_cons_self), mergeLists_nil_left]

/-- `mergeSpecG` folds the two-way merge over the inputs, from the right: the recursion of
    `FirstWith`. -/
theorem mergeSpecG_cons (T : TotalCmp cmp) (l : List ItEntry) (rest : List (List ItEntry))
    (hl : SortedBy cmp l) : mergeSpecG cmp (l :: rest) = mergeLists cmp l (mergeSpecG cmp rest) := by
  rw [← List.singleton_append, mergeSpecG_append T, mergeSpecG_singleton T l hl]

theorem mem_mergeSpecG (T : TotalCmp cmp) (inputs : List (List ItEntry))
    (hs : ∀ l ∈ inputs, SortedBy cmp l) (x : ItEntry) :
    x ∈ mergeSpecG cmp inputs ↔ FirstWith x inputs := by
  induction inputs with
  | nil => exact ⟨nofun, nofun⟩
  | cons l rest ih =>
    have hl := hs l List.mem_cons_self
    rw [mergeSpecG_cons T l rest hl, mem_mergeLists_iff T hl (sortedBy_mergeSpecG T rest),
      ih fun l' h => hs l' (List.mem_cons_of_mem _ h), and_comm]
    rfl

theorem sortedBy_reverse {l : List ItEntry} :
    SortedBy (fun a b => cmp b a) l.reverse ↔ SortedBy cmp l := by
  unfold SortedBy
  rw [List.pairwise_reverse]

theorem mergeSpecG_reverse (T : TotalCmp cmp) (inputs : List (List ItEntry))
    (hs : ∀ l ∈ inputs, SortedBy cmp l) :
    mergeSpecG (fun a b => cmp b a) (inputs.map List.reverse) = (mergeSpecG cmp inputs).reverse := by
  have hs' : ∀ l ∈ inputs.map List.reverse, SortedBy (fun a b => cmp b a) l := by
    intro l hl
    obtain ⟨l0, h0, rfl⟩ := List.mem_map.mp hl
    exact sortedBy_reverse.mpr (hs l0 h0)
  apply pairwise_ext (fun _ _ => T.flip.lt_asymm) (sortedBy_mergeSpecG T.flip _)
    (sortedBy_reverse.mpr (sortedBy_mergeSpecG T _))
  intro e
  rw [mem_mergeSpecG T.flip _ hs', List.mem_reverse, mem_mergeSpecG T _ hs]
  clear hs hs'
  induction inputs with
  | nil => simp [FirstWith]
  | cons l rest ih => simp [FirstWith, ih, keysOf]

end
end Badger
