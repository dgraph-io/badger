import BadgerProofs.Lemmas.WmMvcc
/-!
# Invariants of the transaction bookkeeping of `Db` in normal (non-managed) mode

`InvW w n ts` relates the read watermark `w`, the next timestamp `n` and the transaction table
`ts`: every transaction that has not yet released its read mark is counted in the watermark, so
`doneUntil` (= `discardAtOrBelow` in normal mode) cannot pass its read timestamp.
-/
namespace Badger
namespace DbL

/-- a transaction still holds its read mark -/
def isOpen (i : Nat) (t : TxnM) : Bool := !t.doneRead && t.readTs == i

def openCount (ts : List TxnM) (i : Nat) : Int := (ts.countP (isOpen i) : Int)

structure TxnOk (n : Nat) (t : TxnM) : Prop where
  lt : t.readTs < n
  doneDisc : t.doneRead = true → t.discarded = true
  keys : t.pending.Pairwise (fun a b => a.key ≠ b.key)
  vers : ∀ e ∈ t.pending, e.ver = 0
  nodups : t.dups = []

structure InvW (w : Wm) (n : Nat) (ts : List TxnM) : Prop where
  ok : WmL.Ok w
  untilLt : w.doneUntil < n
  pendLt : ∀ x ∈ w.pend, x.1 < n
  count : ∀ i, openCount ts i ≤ WmL.pendSum w.pend i
  txns : ∀ t ∈ ts, TxnOk n t

theorem TxnOk.mono {n m : Nat} {t : TxnM} (h : TxnOk n t) (hnm : n ≤ m) : TxnOk m t :=
  ⟨by have := h.lt; omega, h.doneDisc, h.keys, h.vers, h.nodups⟩

theorem InvW.mono {w : Wm} {n m : Nat} {ts : List TxnM} (h : InvW w n ts) (hnm : n ≤ m) : InvW w m ts :=
  ⟨h.ok, by have := h.untilLt; omega, fun x hx => by have := h.pendLt x hx; omega, h.count,
    fun t ht => (h.txns t ht).mono hnm⟩

/-- the table after `setTxn t'` -/
def replaced (ts : List TxnM) (t' : TxnM) : List TxnM := t' :: ts.filter (·.id != t'.id)

theorem forall_mem_replaced {P : TxnM → Prop} {ts : List TxnM} {t' : TxnM} (h : ∀ t ∈ ts, P t) (h' : P t') :
    ∀ x ∈ replaced ts t', P x := by
  intro x hx
  rcases List.mem_cons.mp hx with rfl | hx
  · exact h'
  · exact h x (List.mem_filter.mp hx).1

theorem isOpen_iff {i : Nat} {t : TxnM} : isOpen i t = true ↔ t.doneRead = false ∧ t.readTs = i := by
  simp [isOpen]

theorem openCount_replaced_le (ts : List TxnM) (t' : TxnM) (i : Nat) :
    openCount (replaced ts t') i ≤ (if isOpen i t' then 1 else 0) + openCount ts i := by
  unfold openCount replaced
  have := (List.filter_sublist (l := ts) (p := fun x => x.id != t'.id)).countP_le (p := isOpen i)
  rw [List.countP_cons]
  split <;> omega

theorem openCount_replaced_mem (ts : List TxnM) (t t' : TxnM) (i : Nat) (ht : t ∈ ts) (hid : t.id = t'.id) :
    openCount (replaced ts t') i + (if isOpen i t then 1 else 0) ≤ (if isOpen i t' then 1 else 0) + openCount ts i := by
  unfold openCount replaced
  rw [List.countP_cons, List.countP_eq_countP_filter_add ts (isOpen i) (fun x => x.id != t'.id)]
  by_cases ho : isOpen i t = true
  · have : 0 < List.countP (isOpen i) (ts.filter fun x => !(x.id != t'.id)) :=
      List.countP_pos_iff.mpr ⟨t, List.mem_filter.mpr ⟨ht, by simp [hid]⟩, ho⟩
    split <;> omega
  · split <;> omega

theorem InvW.until_le {w : Wm} {n : Nat} {ts : List TxnM} (h : InvW w n ts) {t : TxnM} (ht : t ∈ ts)
    (hopen : t.doneRead = false) : w.doneUntil ≤ t.readTs := by
  have h1 := h.count t.readTs
  have : 0 < ts.countP (isOpen t.readTs) := List.countP_pos_iff.mpr ⟨t, ht, isOpen_iff.mpr ⟨hopen, rfl⟩⟩
  apply WmL.doneUntil_le_of_pos h.ok
  unfold openCount at h1
  omega

theorem InvW.replace {w : Wm} {n : Nat} {ts : List TxnM} (h : InvW w n ts) {t t' : TxnM} (ht : t ∈ ts)
    (hid : t.id = t'.id) (hok : TxnOk n t') (hopen : ∀ i, isOpen i t' = true → isOpen i t = true) :
    InvW w n (replaced ts t') := by
  refine ⟨h.ok, h.untilLt, h.pendLt, fun i => ?_, forall_mem_replaced h.txns hok⟩
  have h1 := openCount_replaced_mem ts t t' i ht hid
  have h2 := h.count i
  by_cases ho : isOpen i t' = true
  · rw [if_pos ho, if_pos (hopen i ho)] at h1
    omega
  · rw [if_neg ho] at h1
    omega

/-- `begin` (`d = 1`) or `done` (`d = -1`) of index `idx`, with a table whose open count at `idx`
    moves by no more than `d` -/
theorem InvW.mark {w : Wm} {n : Nat} {ts ts' : List TxnM} (h : InvW w n ts) {idx : Nat} (d : Int)
    (hle : w.doneUntil ≤ idx) (hlt : idx < n)
    (hc : ∀ i, openCount ts' i ≤ openCount ts i + (if i = idx then d else 0))
    (ht : ∀ t ∈ ts', TxnOk n t) : InvW (w.bump idx d).advance n ts' := by
  have m := WmL.marked h.ok idx d hle
  refine ⟨m.ok, ?_, fun x hx => ?_, fun i => ?_, ht⟩
  · rcases m.src with e | e | ⟨x, hx, e⟩
    · exact Nat.lt_of_le_of_lt (Nat.le_of_eq e) h.untilLt
    · exact Nat.lt_of_le_of_lt (Nat.le_of_eq e) hlt
    · exact Nat.lt_of_le_of_lt (Nat.le_of_eq e) (h.pendLt x hx)
  · rcases m.mem x hx with h1 | h1
    · omega
    · exact h.pendLt x h1
  · exact Int.le_trans (hc i) (Int.le_trans (Int.add_le_add_right (h.count i) _) (m.sum i))

/-- `newTransaction`: a new transaction at `n - 1` takes a read mark -/
theorem InvW.begin {w : Wm} {n : Nat} {ts : List TxnM} (h : InvW w n ts) (t' : TxnM)
    (hrt : t'.readTs = n - 1) (hok : TxnOk n t') : InvW (w.begin (n - 1)) n (replaced ts t') := by
  refine h.mark 1 (Nat.le_sub_one_of_lt h.untilLt) (Nat.sub_lt (Nat.zero_lt_of_lt h.untilLt) Nat.one_pos)
    (fun i => ?_) (forall_mem_replaced h.txns hok)
  have h1 := openCount_replaced_le ts t' i
  by_cases ho : isOpen i t' = true
  · have : i = n - 1 := by rw [← hrt]; exact (isOpen_iff.mp ho).2.symm
    rw [if_pos ho] at h1
    rw [if_pos this]
    omega
  · rw [if_neg ho] at h1
    omega

theorem InvW.finish {w : Wm} {n : Nat} {ts : List TxnM} (h : InvW w n ts) {t t' : TxnM} (ht : t ∈ ts)
    (hid : t.id = t'.id) (hopen : t.doneRead = false) (hdone : t'.doneRead = true) (hok : TxnOk n t') :
    InvW (w.done t.readTs) n (replaced ts t') := by
  refine h.mark (-1) (h.until_le ht hopen) (h.txns t ht).lt (fun i => ?_) (forall_mem_replaced h.txns hok)
  have h1 := openCount_replaced_mem ts t t' i ht hid
  have ho' : ¬ isOpen i t' = true := fun ho => by rw [(isOpen_iff.mp ho).1] at hdone; cases hdone
  rw [if_neg ho'] at h1
  by_cases hi : i = t.readTs
  · rw [if_pos (isOpen_iff.mpr ⟨hopen, hi.symm⟩)] at h1
    rw [if_pos hi]
    omega
  · rw [if_neg hi]
    omega

/-- the state of `Open`: no transactions, everything below `n` done -/
theorem InvW.fresh {n : Nat} (hn : 0 < n) : InvW { pend := [], doneUntil := n - 1 } n [] :=
  ⟨⟨List.Pairwise.nil, List.forall_mem_nil _⟩, Nat.sub_lt hn Nat.one_pos, List.forall_mem_nil _,
    fun _ => Int.le_refl 0, List.forall_mem_nil _⟩

end DbL
end Badger
