import BadgerProofs.Lemmas.CrashStep
/-!
Preservation of `Inv` by the flusher, by the atoms that leave the files a kill sees as they are (the
syncs, whose operations `kstep` ignores, and `ack`, which has none) and by the start of a logical step;
which atom the flusher executes (`flushAtom_cases`), and the dispatch over atoms and scheduler choices
(`Inv_step`). The value-log atoms (`vput vtrunc vrot vhdr`), `zero`, `sync` and `syncDir` have no lemma
of their own: `Inv_atom` does them in place (`Inv_upd_vlog` of `CrashInv`, `Inv_ghost`, `Inv_ksync`).
-/
namespace Badger

variable {R : ViewRel} {s : PState} {F : KFs}

theorem Inv_flush0 (h : Inv R s F) (hi : s.imm ≠ []) :
    Inv R { s with fpc := 1, fsst := s.nextSst, nextSst := s.nextSst + 1 }
      (upd F (.sst s.nextSst) (some { chunks := [], size := .alloc })) := by
  refine Inv_upd_sst h _ _ h.logic rfl h.mem ?_
  have hs := h.sst
  have := InvSst_upd_file s.nextSst (some { chunks := [], size := .alloc }) (InvSst_idle hs s.imm s.nextSst)
    (hs.sstFresh _ (Nat.le_refl _)).2 (Nat.le_succ _) (Or.inl (Nat.lt_succ_self _)) (by intro _ a; omega) rfl rfl
    fun o ho => fileOk_upd_ne (hs.koutFiles o ho) (Nat.ne_of_lt (hs.koutLt o ho))
  exact { this with
    idle := fun e => absurd e hi
    fsstLt := fun _ _ => Nat.lt_succ_self _
    flush1 := fun _ _ => ⟨_, if_pos rfl, rfl⟩
    flush2 := by intro k _ (a : 2 ≤ 1); omega
    flush5 := by intro k _ (a : 5 ≤ 1); omega }

theorem Inv_flush1 (h : Inv R s F) (k : Nat) (rest : List Nat)
    (hi : s.imm = k :: rest) (hp : s.fpc = 1) (hts : aget s.fsst s.tset = none)
    (hko : ∀ o ∈ s.kout, o.id ≠ s.fsst) :
    Inv R { s with fpc := 2 }
      (upd F (.sst s.fsst) ((F (.sst s.fsst)).map (appendChunk (.table (s.memEnts k))))) := by
  refine Inv_upd_sst h _ _ h.logic rfl h.mem ?_
  have hs := h.sst
  have hne : s.imm ≠ [] := by rw [hi]; simp
  obtain ⟨f, hf, hc⟩ := hs.flush1 hne hp
  have := InvSst_upd_file s.fsst ((F (.sst s.fsst)).map (appendChunk (.table (s.memEnts k)))) (InvSst_idle hs s.imm s.fsst)
    hts (Nat.le_refl _) (Or.inl (hs.fsstLt hne (by omega))) (by intro _ a; omega) rfl rfl
    fun o ho => fileOk_upd_ne (hs.koutFiles o ho) (hko o ho)
  exact { this with
    idle := fun e => absurd e hne
    fsstLt := fun a _ => hs.fsstLt a (by omega)
    flush1 := by intro _ (a : 2 = 1); omega
    flush2 := by
      intro k' hk' _ _
      have : k' = k := by rw [hi] at hk'; simpa using hk'.symm
      subst this
      have hf' : F (.sst s.fsst) = some f := hf
      exact ⟨appendChunk (.table (s.memEnts k')) f, by simp [hf'], by simp [appendChunk, hc]; rfl⟩
    flush5 := by intro k' _ (a : 5 ≤ 2); omega }

/-- fpc moves inside 2..4 (msync of the table, directory fsync) or inside 5.. (fsync of the MANIFEST):
    within each band `InvSst` asks the same of the table under construction -/
theorem Inv_flushBand (h : Inv R s F) (p' : Nat)
    (hb : (2 ≤ s.fpc ∧ s.fpc ≤ 4 ∧ 2 ≤ p' ∧ p' ≤ 4) ∨ (5 ≤ s.fpc ∧ 5 ≤ p')) : Inv R { s with fpc := p' } F :=
  { h with
    sst := by
      have hs := h.sst
      have hne : s.imm ≠ [] := by intro e; have := hs.idle e; omega
      exact { hs with
        idle := by intro e; exact absurd e hne
        fsstLt := fun a _ => hs.fsstLt a (by omega)
        flush1 := by intro _ h1; have : p' = 1 := h1; omega
        flush2 := by intro k hk (a : 2 ≤ p') (b : p' ≤ 4); exact hs.flush2 k hk (by omega) (by omega)
        flush5 := by intro k hk (a : 5 ≤ p'); exact hs.flush5 k hk (by omega) } }

theorem Inv_flush4 (h : Inv R s F) (k : Nat) (rest : List Nat)
    (hi : s.imm = k :: rest) (hp : s.fpc = 4) (hts : aget s.fsst s.tset = none) :
    Inv R { s with fpc := 5, tset := aset s.fsst 0 s.tset, tcont := (s.fsst, s.memEnts k) :: s.tcont, mdirty := true }
      (upd F .manifest ((F .manifest).map (appendChunk (.mset [.create s.fsst 0])))) := by
  have hs := h.sst
  have hne : s.imm ≠ [] := by rw [hi]; simp
  have hhead : s.imm.head? = some k := by rw [hi]; rfl
  have hmemT : ∀ x, x ∈ aset s.fsst 0 s.tset ↔ x = (s.fsst, 0) ∨ x ∈ s.tset := fun x => mem_aset_of_none _ _ _ _ hts
  have hcontNew := entsOfTable_cons_self s.tcont s.fsst (s.memEnts k)
  have hcontOld : ∀ id, id ≠ s.fsst → entsOfTable ((s.fsst, s.memEnts k) :: s.tcont) id = entsOfTable s.tcont id :=
    fun _ => entsOfTable_cons_ne _ _
  have hflush := tablesEnts_flush s.tcont s.fsst (s.memEnts k) s.tset hts
  generalize (s.fsst, s.memEnts k) :: s.tcont = tc at hcontNew hcontOld hflush ⊢
  refine Inv_append_manifest h [.create s.fsst 0] (by simp [applyMSet, applyMChange, hts]) ?_ h.mem ?_
  · refine h.logic.of_lsm ?_
    rw [PState.lsmEnts_eq, PState.lsmEnts_eq s, hflush]
    exact R.app_congr _ _ _ _ (base_flush R _ _ _ (hi ▸ List.mem_cons_self)) (R.refl _)
  · exact { hs with
      tables := by
        intro x hx
        rcases (hmemT x).mp hx with hx | hx
        · subst hx
          rw [hcontNew]
          exact hs.flush2 k hhead (by omega) (by omega)
        · rw [hcontOld _ ((aget_none_iff _ _).mp hts x hx)]
          exact hs.tables x hx
      sstFresh := by
        intro n hn
        have h1 := hs.sstFresh n hn
        refine ⟨h1.1, ?_⟩
        have : s.fsst ≠ n := by have := hs.fsstLt hne (by omega); have hn' : s.nextSst ≤ n := hn; omega
        rw [aget_aset]; simp [this, h1.2]
      idle := by intro e; exact absurd e hne
      fsstLt := fun a _ => hs.fsstLt a (by omega)
      flush1 := by intro _ h1; exact absurd h1 (by show ¬ 5 = 1; omega)
      flush2 := by intro k' _ _ h4; exact absurd h4 (by show ¬ 5 ≤ 4; omega)
      flush5 := by
        intro k' hk' _
        have : k' = k := by rw [hi] at hk'; simpa using hk'.symm
        subst this
        refine ⟨?_, ?_⟩
        · show (aget s.fsst (aset s.fsst 0 s.tset)).isSome = true
          rw [aget_aset]; simp
        · exact hcontNew
      kview := by
        intro hk
        have := hs.kview hk
        have e : s.kins.map (entsOfTable tc) = s.kins.map (entsOfTable s.tcont) := by
          apply List.map_congr_left
          intro id hid
          apply hcontOld
          intro e2
          have := hs.kinsIn id hid
          rw [e2, hts] at this; cases this
        rw [e]; exact this
      kinsIn := by
        intro id hid
        rw [aget_aset]
        by_cases e : s.fsst = id
        · simp [e]
        · simp [e, hs.kinsIn id hid] }

theorem Inv_flushDel (h : Inv R s F) (k : Nat) (rest : List Nat)
    (hi : s.imm = k :: rest)
    (hcov : ∀ e ∈ s.memEnts k, e ∈ tablesEnts s.tcont s.tset) :
    Inv R { s with imm := rest, fpc := 0, pendU := (k, s.fsst) :: s.pendU } (upd F (.mem k) none) := by
  have hm := h.mem
  have hnd : k ∉ rest ∧ rest.Nodup := by have := hm.immNodup; rw [hi] at this; simpa using this
  have hsub : ∀ n ∈ rest, n ∈ s.imm := fun n hn => hi ▸ List.mem_cons_of_mem _ hn
  refine Inv_upd_mem h _ _ ?_ rfl ?_ ?_
  · refine h.logic.of_lsm ?_
    rw [PState.lsmEnts_eq, PState.lsmEnts_eq s, hi]
    exact R.app_congr _ _ _ _ (base_flushDel R rest hcov) (R.refl _)
  · have hkc : s.curOpen = true → k ≠ s.cur := by
      intro ho e; exact hm.curNotImm ho (by rw [hi, ← e]; simp)
    exact { hm with
      memNZ := by
        intro n f hf
        by_cases hn : n = k
        · simp [hn] at hf
        · simp only [hn, if_false] at hf; exact hm.memNZ n f hf
      memKnown := by
        intro n hn
        by_cases hnk : n = k
        · simp [hnk] at hn
        · simp only [hnk, if_false] at hn
          rcases hm.memKnown n hn with h1 | h1
          · rw [hi] at h1
            rcases List.mem_cons.mp h1 with h1 | h1
            · exact absurd h1 hnk
            · exact Or.inl h1
          · exact Or.inr h1
      immFiles := by
        intro k' hk'
        have : k' ≠ k := fun e => hnd.1 (e ▸ hk')
        simp only [this, if_false]
        exact hm.immFiles k' (hsub k' hk')
      curFile := by
        intro ho
        have : s.cur ≠ k := fun e => hkc ho e.symm
        simp only [this, if_false]
        exact hm.curFile ho
      memFresh := by
        intro n hn
        have h1 := hm.memFresh n hn
        by_cases hnk : n = k <;> simp [hnk, h1.1, h1.2]
        exact hnk ▸ h1.2
      immLt := fun k' hk' => hm.immLt k' (hsub k' hk')
      curNotImm := fun ho hin => hm.curNotImm ho (hsub _ hin)
      immNodup := hnd.2 }
  · exact InvSst_idle h.sst rest s.fsst

theorem Inv_wq (h : Inv R s F) (w : List Atom) :
    Inv R { s with wq := w } F := ⟨h.logic, h.manifest, h.mem, h.sst, h.vlogNZ⟩

theorem Inv_ghost (h : Inv R s F) (cd de md kd : Bool)
    (td : List (Nat × Nat)) (pu : List (Nat × Nat)) :
    Inv R { s with curDirty := cd, curDurEntry := de, mdirty := md, tsetD := td, kdir := kd, pendU := pu } F :=
  ⟨h.logic, h.manifest, h.mem, h.sst, h.vlogNZ⟩

theorem Inv_ack (h : Inv R s F) (hg : Atom.ack.guard s = true) :
    Inv R (Atom.ack.rawEff s) (krun F (Atom.ack.rawOps s)) :=
  { h with logic := ⟨h.logic.view, (Atom.guard_ack hg).1, h.logic.done_le, h.logic.infl⟩ }

theorem Inv_commitStart (h : Inv R s F) (t : Txn) (w : List Atom) (n : Nat)
    (hinf : s.inflight = none) (hp : s.pending = []) :
    Inv R { s with wq := w, nextTs := n, commits := s.commits ++ [t], inflight := some t } F :=
  { h with
    logic := by
      have hl := h.logic
      have hd : s.done = s.commits.length := by have := hl.infl; simp only [hinf] at this; exact this
      refine ⟨?_, hl.acked_le, ?_, ?_⟩
      · show R.r s.lsmEnts (txnsEnts ((s.commits ++ [t]).take s.done))
        rw [List.take_append_of_le_length hl.done_le]; exact hl.view
      · show s.done ≤ (s.commits ++ [t]).length
        simp; omega
      · show s.commits ++ [t] = (s.commits ++ [t]).take s.done ++ [t]
        rw [hd]; simp
    mem := by
      have hm := h.mem
      rw [hp] at hm ⊢
      -- with no record pending the shape of the WAL does not mention the timestamp in flight
      exact { hm with curFile := hm.curFile } }

theorem nodup_range_add (n k : Nat) : ((List.range n).map (· + k)).Nodup := by
  have h : (List.range n).Pairwise (· ≠ ·) := List.nodup_range
  exact List.Pairwise.map _ (fun a b (hab : a ≠ b) => by show a + k ≠ b + k; omega) h

/-- the outputs a compaction is set up with: numbered by `ids`, holding what `outs` says -/
theorem kout_zip (ids : List Nat) (outs : List (Nat × List CEnt)) (h : ids.length = outs.length) :
    ((ids.zip outs).map (fun (id, o) => ({ id := id, level := o.1, ents := o.2 } : KOut))).map (·.id) = ids ∧
    ((ids.zip outs).map (fun (id, o) => ({ id := id, level := o.1, ents := o.2 } : KOut))).map (·.ents) =
      outs.map (·.2) := by
  constructor
  · rw [List.map_map]
    exact List.map_fst_zip (Nat.le_of_eq h)
  · have := congrArg (List.map (fun p : Nat × List CEnt => p.2)) (List.map_snd_zip (Nat.le_of_eq h.symm))
    rw [List.map_map] at this ⊢
    exact this

theorem Inv_compactStart (h : Inv R s F) (w : List Atom)
    (ins : List Nat) (outs : List (Nat × List CEnt))
    (hins : ∀ id ∈ ins, (aget id s.tset).isSome = true)
    (hR : R.r (outs.map (·.2)).flatten (ins.map s.tableEnts).flatten) :
    Inv R { s with wq := w, nextSst := s.nextSst + outs.length, kins := ins, kdir := false,
                   kout := (((List.range outs.length).map (· + s.nextSst)).zip outs).map
                     (fun (id, o) => { id := id, level := o.1, ents := o.2 }) } F :=
  { h with
    sst := by
      have hs := h.sst
      obtain ⟨hids, hents⟩ := kout_zip ((List.range outs.length).map (· + s.nextSst)) outs (by simp)
      dsimp only
      exact { hs with
        sstFresh := by intro n hn; have hn' : s.nextSst + outs.length ≤ n := hn; exact hs.sstFresh n (by omega)
        fsstLt := by intro a b; have := hs.fsstLt a b; show s.fsst < s.nextSst + outs.length; omega
        koutLt := by
          intro o ho
          have : o.id ∈ (List.range outs.length).map (· + s.nextSst) := by rw [← hids]; exact List.mem_map_of_mem ho
          obtain ⟨i, hi, he⟩ := List.mem_map.mp this
          have := List.mem_range.mp hi
          show o.id < s.nextSst + outs.length
          omega
        koutNodup := by rw [hids]; exact nodup_range_add _ _
        koutFiles := by
          intro o ho
          obtain ⟨x, _, he⟩ := List.mem_map.mp ho
          have : o.stage = 0 := by rw [← he]
          constructor <;> intro h1 <;> omega
        kview := by intro _; rw [hents]; exact hR
        kinsIn := hins } }

/-- `s2` agrees with `s1` on everything `Inv` mentions (it may differ in the writer's program and
    in the durability bookkeeping: `curDirty curDurEntry mdirty tsetD kdir pendU wq …`). Nothing below uses it. -/
structure CoreEq (s1 s2 : PState) : Prop where
  imm : s2.imm = s1.imm
  curOpen : s2.curOpen = s1.curOpen
  curHdr : s2.curHdr = s1.curHdr
  cur : s2.cur = s1.cur
  nextMem : s2.nextMem = s1.nextMem
  mtxns : s2.mtxns = s1.mtxns
  inflight : s2.inflight = s1.inflight
  pending : s2.pending = s1.pending
  fpc : s2.fpc = s1.fpc
  fsst : s2.fsst = s1.fsst
  nextSst : s2.nextSst = s1.nextSst
  tset : s2.tset = s1.tset
  tcont : s2.tcont = s1.tcont
  kins : s2.kins = s1.kins
  kout : s2.kout = s1.kout
  commits : s2.commits = s1.commits
  done : s2.done = s1.done
  acked : s2.acked = s1.acked

def syncStage (id : Nat) (o : KOut) : KOut := if o.id == id && o.stage == 2 then { o with stage := 3 } else o

@[simp] theorem syncStage_id (id : Nat) (o : KOut) : (syncStage id o).id = o.id := by
  unfold syncStage; split <;> rfl
@[simp] theorem syncStage_ents (id : Nat) (o : KOut) : (syncStage id o).ents = o.ents := by
  unfold syncStage; split <;> rfl
theorem syncStage_stage (id : Nat) (o : KOut) :
    ((syncStage id o).stage = 1 → o.stage = 1) ∧ (2 ≤ (syncStage id o).stage → 2 ≤ o.stage) := by
  unfold syncStage
  split
  · rename_i h
    have : o.stage = 2 := by simp at h; exact h.2
    constructor
    · intro h1; simp at h1
    · intro _; omega
  · exact ⟨fun h1 => h1, fun h1 => h1⟩

theorem Inv_ksync (h : Inv R s F) (id : Nat) :
    Inv R { s with kout := s.kout.map (syncStage id) } F :=
  { h with
    sst := by
      have hs := h.sst
      exact { hs with
        koutLt := by
          intro o ho
          obtain ⟨o2, ho2, he⟩ := List.mem_map.mp ho
          subst he; simp only [syncStage_id]; exact hs.koutLt o2 ho2
        koutNodup := by rw [kout_map_id (syncStage_id id)]; exact hs.koutNodup
        koutFiles := by
          intro o ho
          obtain ⟨o2, ho2, he⟩ := List.mem_map.mp ho
          subst he
          have hst := syncStage_stage id o2
          constructor
          · intro h1; simp only [syncStage_id]; exact (hs.koutFiles o2 ho2).1 (hst.1 h1)
          · intro h1; simp only [syncStage_id, syncStage_ents]; exact (hs.koutFiles o2 ho2).2 (hst.2 h1)
        kview := by intro hk; rw [kout_map_ents (syncStage_ents id)]; exact hs.kview hk } }

theorem flushAtom_cases {motive : List FsOp → PState → Prop} (s : PState)
    (del : ∀ k rest, s.imm = k :: rest → (s.memEnts k = [] ∨ 6 ≤ s.fpc) →
      motive (delFile (.mem k)) { s with imm := rest, fpc := 0, pendU := (k, s.fsst) :: s.pendU })
    (f0 : s.imm ≠ [] → s.fpc = 0 →
      motive (mkFile (.sst s.nextSst)) { s with fpc := 1, fsst := s.nextSst, nextSst := s.nextSst + 1 })
    (f1 : ∀ k rest, s.imm = k :: rest → s.fpc = 1 → aget s.fsst s.tset = none →
      (∀ o ∈ s.kout, o.id ≠ s.fsst) → aget s.fsst s.tsetD = none →
      motive [.append (.sst s.fsst) (.table (s.memEnts k))] { s with fpc := 2 })
    (f2 : s.imm ≠ [] → s.fpc = 2 →
      motive [.sync (.sst s.fsst)] { s with fpc := if s.cfg.dirSyncFix then 3 else 4 })
    (f3 : s.imm ≠ [] → s.fpc = 3 → motive [.syncDir] { (Atom.rawEff s .syncDir) with fpc := 4 })
    (f4 : ∀ k rest, s.imm = k :: rest → s.fpc = 4 → aget s.fsst s.tset = none → s.mdirty = false →
      motive [.append .manifest (.mset [.create s.fsst 0])]
        { s with fpc := 5, tset := aset s.fsst 0 s.tset, tcont := (s.fsst, s.memEnts k) :: s.tcont, mdirty := true })
    (f5 : s.imm ≠ [] → s.fpc = 5 →
      motive [.sync .manifest] { s with fpc := 6, mdirty := false, tsetD := s.tset })
    (ops : List FsOp) (s' : PState) (hf : flushAtom s = some (ops, s')) : motive ops s' := by
  have hne : ∀ {k rest}, s.imm = k :: rest → s.imm ≠ [] := fun hi e => by rw [e] at hi; cases hi
  revert hf
  -- the branches that answer `none` go with `cases hf`
  fun_cases flushAtom s <;> intro hf <;> cases hf
  case case2 k rest hi _ hE => exact del k rest hi (Or.inl (by simpa using hE))  -- empty memtable
  case case3 k rest hi _ _ hp => exact f0 (hne hi) hp  -- fpc = 0
  case case4 k rest hi _ _ hp hg =>  -- fpc = 1, guard holds
    refine f1 k rest hi hp (by simpa using hg.1.1) (fun o ho e => ?_) (by simpa using hg.2)
    have h2 := hg.1.2
    rw [List.any_eq_true.mpr ⟨o, ho, by simp [e]⟩] at h2
    cases h2
  case case6 k rest hi _ _ hp => exact f2 (hne hi) hp  -- fpc = 2
  case case7 k rest hi _ _ hp => exact f3 (hne hi) hp  -- fpc = 3
  case case8 k rest hi _ _ hp hg => exact f4 k rest hi hp (by simpa using hg.1) (by simpa using hg.2)  -- fpc = 4, guard holds
  case case10 k rest hi _ _ hp => exact f5 (hne hi) hp  -- fpc = 5
  case case11 k rest hi _ _ h0 h1 h2 h3 h4 h5 =>  -- fpc ≥ 6
    exact del k rest hi (Or.inr (by simp only [imp_false] at h0 h1 h2 h3 h4 h5; omega))

theorem Inv_atom (h : Inv R s F) (a : Atom) :
    Inv R (a.eff s) (krun F (a.ops s)) := by
  refine a.guarded (motive := fun ops s' => Inv R s' (krun F ops)) h fun hg => ?_
  cases a with
  | sync p =>
    dsimp only [Atom.rawOps, Atom.rawEff, krun_sync1]
    cases p with
    | mem fid =>
      show Inv R (if fid = s.cur ∧ s.curOpen = true then _ else s) _
      split
      · exact Inv_ghost h false s.curDurEntry s.mdirty s.kdir s.tsetD s.pendU
      · exact h
    | manifest => exact Inv_ghost h s.curDirty s.curDurEntry false s.kdir s.tset s.pendU
    | sst id => exact Inv_ksync h id
    | _ => exact h
  | syncDir => exact Inv_ghost h s.curDirty _ s.mdirty _ s.tsetD []
  | zero p => exact h
  | vput k v =>
    simp only [Atom.rawOps, Atom.rawEff, krun_append1]
    exact Inv_upd_vlog h s.vfid _ (fun _ => size_ne_zero_of_map_appendChunk) _ _ _
  | vtrunc =>
    simp only [Atom.rawOps, Atom.rawEff, krun_truncate1]
    refine Inv_upd_vlog h s.vfid _ (fun f hf => ?_) s.vfid s.vcount s.vchunks
    obtain ⟨f0, _, rfl⟩ := Option.map_eq_some_iff.mp hf
    exact truncChunks_size_ne_zero _ (Atom.guard_vtrunc hg) _
  | vrot =>
    simp only [Atom.rawOps, Atom.rawEff, krun_mkFile]
    exact Inv_upd_vlog h (s.vfid + 1) _ (fun f hf => by cases hf; simp) _ _ _
  | vhdr =>
    simp only [Atom.rawOps, Atom.rawEff, krun_append1]
    exact Inv_upd_vlog h s.vfid _ (fun _ => size_ne_zero_of_map_appendChunk) s.vfid s.vcount _
  | pushImm => exact Inv_pushImm h hg
  | newMem => exact Inv_newMem h hg
  | mhdr => exact Inv_mhdr h hg
  | wput e => exact Inv_wput h e hg
  | fin => exact Inv_fin h hg
  | ack => exact Inv_ack h hg
  | kmk id => exact Inv_kmk h id hg
  | kwrite id => exact Inv_kwrite h id hg
  | kmset => exact Inv_kmset h hg
  | kdel id => exact Inv_kdel h id hg

theorem Inv_flushAtom (h : Inv R s F) {s' : PState} {ops : List FsOp} (hf : flushAtom s = some (ops, s')) :
    Inv R s' (krun F ops) := by
  refine flushAtom_cases (motive := fun ops s' => Inv R s' (krun F ops)) s ?_ ?_ ?_ ?_ ?_ ?_ ?_ ops s' hf
  · intro k rest hi hd
    rw [krun_delFile]
    refine Inv_flushDel h k rest hi fun e he => ?_
    rcases hd with hd | hd
    · rw [hd] at he; cases he
    · -- the table the memtable was flushed to is in the MANIFEST
      obtain ⟨h5a, h5b⟩ := h.sst.flush5 k (by rw [hi]; rfl) (by omega)
      exact mem_tablesEnts _ _ _ e h5a (h5b ▸ he)
  · intro hne _
    rw [krun_mkFile]
    exact Inv_flush0 h hne
  · intro k rest hi hp hts hko _
    rw [krun_append1]
    exact Inv_flush1 h k rest hi hp hts hko
  · intro _ hp
    exact Inv_flushBand h _ (Or.inl ⟨by omega, by omega, by split <;> omega, by split <;> omega⟩)
  · intro _ hp
    exact Inv_ghost (Inv_flushBand h 4 (Or.inl (by omega))) s.curDirty _ s.mdirty _ s.tsetD _
  · intro k rest hi hp hts _
    rw [krun_append1]
    exact Inv_flush4 h k rest hi hp hts
  · intro _ hp
    exact Inv_ghost (Inv_flushBand h 6 (Or.inr (by omega))) s.curDirty s.curDurEntry false s.kdir s.tset s.pendU

theorem Inv_step (R : ViewRel) (s : PState) (F : KFs) (h : Inv R s F) (x : Sched) (hx : SchedHistOk R s [x]) :
    Inv R (s.step x).2 (krun F (s.step x).1) := by
  -- the cases not named are the steps that are not enabled: nothing happens
  fun_cases PState.step s x
  case case1 ents rot hc t =>  -- commit, enabled
    exact Inv_commitStart h _ _ _ (Option.isNone_iff_eq_none.mp hc.2.1) (by simpa using hc.2.2.1)
  case case3 => exact Inv_wq h _  -- flushReq, enabled
  case case5 ins outs hc ids => exact Inv_compactStart h _ ins outs (List.all_eq_true.mp hc.2.2.2.2.2.1) hx.1  -- compact, enabled
  case case8 a rest hw => exact Inv_wq (Inv_atom h a) rest  -- a writer atom
  case case9 ops s' hf => exact Inv_flushAtom h hf  -- a flusher atom
  all_goals exact h

end Badger
