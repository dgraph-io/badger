import BadgerModel.Merge
import BadgerProofs.Lemmas.MergeLists
/-!
# Cursors over sorted lists (`IterSpec`), and one `MergeIterator` level over arbitrary children

`IterSpec ops cmp all`: the iterator with method table `ops` behaves as a cursor over the list
`all` (entries in *iteration order*, strictly sorted under `cmp`): there is a relation
`R s L` ("state `s` is positioned with remaining entries `L`") that every method respects.
What a consumer sees of such a cursor (`cur`, `collect`, `run`) follows from `R` alone
(`IterSpec.cur_eq`, `collect_eq`; `run_R`: `R` simulates the iterator by the list machine
`IterOp.onList`, so two cursors over one list agree after any calls); `Sat` packs an iterator value
with its spec.  `sourceSpec`: the model's leaf iterator `Source` is such a cursor, over its items in
iteration order (`dirList`).

`mergeIterSpec`: if both children of a `MergeIterator` satisfy `IterSpec` (for `allA`, `allB`)
then so does the `MergeIterator`, for `mergeLists cmp allA allB`.  Children are arbitrary,
in particular other `MergeIterator`s, so nesting depth is unbounded.
-/
namespace Badger

structure IterSpec {σ : Type} (ops : IterOps σ) (cmp : Bytes → Bytes → Ordering)
    (all : List ItEntry) where
  R : σ → List ItEntry → Prop
  sorted_all : SortedBy cmp all
  R_sorted : ∀ {s L}, R s L → SortedBy cmp L
  rewind : ∀ {s L}, R s L → R (ops.rewind s) all
  seek : ∀ {s L} (k : Bytes), R s L → R (ops.seek k s) (all.dropWhile (fun e => cmp e.key k == .lt))
  next : ∀ {s e L}, R s (e :: L) → R (ops.next s) L
  next_nil : ∀ {s}, R s [] → R (ops.next s) []
  valid : ∀ {s L}, R s L → ops.valid s = !L.isEmpty
  key : ∀ {s e L}, R s (e :: L) → ops.key s = e.key
  value : ∀ {s e L}, R s (e :: L) → ops.value s = e.val

/-- the entries in iteration order -/
def dirList (rev : Bool) (l : List ItEntry) : List ItEntry := if rev then l.reverse else l

theorem sortedBy_dirList {items : List ItEntry} {rev : Bool} :
    SortedBy (dcmp rev) (dirList rev items) ↔ SortedBy compareKeys items := by
  cases rev
  · rw [dcmp_false]; rfl
  · rw [dcmp_true]; exact sortedBy_reverse

theorem mem_dirList {rev : Bool} {l : List ItEntry} {e : ItEntry} (h : e ∈ dirList rev l) : e ∈ l := by
  cases rev
  · exact h
  · exact List.mem_reverse.mp h

theorem SortedBy.sublist {cmp : Bytes → Bytes → Ordering} {l l' : List ItEntry}
    (h : SortedBy cmp l) (hs : l'.Sublist l) : SortedBy cmp l' :=
  List.Pairwise.sublist hs h

def sourceSpec (items : List ItEntry) (rev : Bool) (hs : SortedBy compareKeys items) :
    IterSpec Source.ops (dcmp rev) (dirList rev items) where
  R s L := s = ⟨items, rev, L⟩ ∧ SortedBy (dcmp rev) L
  sorted_all := sortedBy_dirList.mpr hs
  R_sorted h := h.2
  rewind := by
    rintro _ L ⟨rfl, _⟩
    exact ⟨rfl, sortedBy_dirList.mpr hs⟩
  seek := by
    rintro _ L k ⟨rfl, _⟩
    exact ⟨rfl, (sortedBy_dirList.mpr hs).sublist (List.dropWhile_sublist _)⟩
  next := by
    rintro _ e L ⟨rfl, h⟩
    exact ⟨rfl, h.tail⟩
  next_nil := by
    rintro _ ⟨rfl, h⟩
    exact ⟨rfl, h⟩
  valid := by
    rintro _ L ⟨rfl, _⟩
    rfl
  key := by
    rintro _ e L ⟨rfl, _⟩
    rfl
  value := by
    rintro _ e L ⟨rfl, _⟩
    rfl

/-- `it`, in its current (fresh) state, is a cursor over `all` positioned at the end. -/
def Sat (cmp : Bytes → Bytes → Ordering) (it : AnyIter) (all : List ItEntry) : Prop :=
  ∃ S : IterSpec it.ops cmp all, S.R it.st []

/-- what a call does to the entries still to come of a cursor over `all` -/
def IterOp.onList (cmp : Bytes → Bytes → Ordering) (all L : List ItEntry) : IterOp → List ItEntry
  | .rewind => all
  | .seek k => all.dropWhile (fun e => cmp e.key k == .lt)
  | .next => L.tail

section Generic
variable {σ : Type} {o : IterOps σ} {cmp : Bytes → Bytes → Ordering} {all : List ItEntry}

theorem IterSpec.cur_eq (S : IterSpec o cmp all) {s : σ} {L : List ItEntry} (h : S.R s L) :
    o.cur s = L.head? := by
  unfold IterOps.cur
  cases L with
  | nil => simp [S.valid h]
  | cons e L => simp [S.valid h, S.key h, S.value h]

theorem IterSpec.apply_R (S : IterSpec o cmp all) {s : σ} {L : List ItEntry} (h : S.R s L)
    (op : IterOp) : S.R (o.apply s op) (op.onList cmp all L) := by
  cases op with
  | rewind => exact S.rewind h
  | seek k => exact S.seek k h
  | next =>
    cases L with
    | nil => exact S.next_nil h
    | cons e L => exact S.next h

/-- `R` is a simulation of the iterator by the list machine `IterOp.onList`. -/
theorem IterSpec.run_R (S : IterSpec o cmp all) {s : σ} {L : List ItEntry} (h : S.R s L)
    (ops : List IterOp) : S.R (o.run s ops) (ops.foldl (fun L op => op.onList cmp all L) L) := by
  induction ops generalizing s L with
  | nil => exact h
  | cons op ops ih => exact ih (S.apply_R h op)

theorem IterSpec.collect_eq (S : IterSpec o cmp all) {s : σ} {L : List ItEntry} (h : S.R s L)
    (n : Nat) : o.collect n s = L.take n := by
  induction n generalizing s L with
  | zero => simp [IterOps.collect]
  | succ n ih =>
    cases L with
    | nil => simp [IterOps.collect, S.valid h]
    | cons e L => simp [IterOps.collect, S.valid h, S.key h, S.value h, ih (S.next h)]

omit σ o in
theorem IterOp.onList_nexts (L : List ItEntry) (n : Nat) :
    (List.replicate n IterOp.next).foldl (fun L op => op.onList cmp all L) L = L.drop n := by
  induction n generalizing L with
  | zero => rfl
  | succ n ih => rw [List.replicate_succ, List.foldl_cons, ih]; exact List.drop_tail.symm ▸ rfl

theorem IterSpec.valid_after_nexts (S : IterSpec o cmp all) {s : σ} {L : List ItEntry}
    (h : S.R s L) (n : Nat) :
    o.valid (o.run s (List.replicate n .next)) = decide (n < L.length) := by
  rw [S.valid (S.run_R h _), IterOp.onList_nexts, Bool.eq_iff_iff]
  simp [Nat.not_le]

end Generic

section
variable {cmp : Bytes → Bytes → Ordering} {it : AnyIter} {all : List ItEntry} (h : Sat cmp it all)
include h

theorem Sat.rewind_collect (hist : List IterOp) (n : Nat) :
    ((it.run hist).rewind).collect n = all.take n := by
  obtain ⟨S, hR⟩ := h
  exact S.collect_eq (S.rewind (S.run_R hR hist)) n

theorem Sat.seek_collect (hist : List IterOp) (k : Bytes) (n : Nat) :
    ((it.run hist).seek k).collect n = (all.dropWhile (fun e => cmp e.key k == .lt)).take n := by
  obtain ⟨S, hR⟩ := h
  exact S.collect_eq (S.seek k (S.run_R hR hist)) n
end

section Level
variable {α β : Type} {A : IterOps α} {B : IterOps β} {cmp : Bytes → Bytes → Ordering}
  {allA allB : List ItEntry}

/-- the cached `valid`/`key` of a node agree with a child positioned at `L` -/
def NodeOK {σ : Type} (n : MNode σ) (L : List ItEntry) : Prop :=
  n.valid = !L.isEmpty ∧ ∀ e L', L = e :: L' → n.key = e.key

theorem nodeOK_setKey {σ : Type} {o : IterOps σ} {all : List ItEntry} (S : IterSpec o cmp all)
    (n : MNode σ) {L : List ItEntry} (h : S.R n.iter L) : NodeOK (n.setKey o) L := by
  unfold MNode.setKey NodeOK
  cases L with
  | nil => simp [S.valid h]
  | cons e L' => simp [S.valid h, S.key h]

@[simp] theorem setKey_iter {σ : Type} (o : IterOps σ) (n : MNode σ) : (n.setKey o).iter = n.iter := rfl

/-- `small` points to the node that comes first in iteration order; heads differ. -/
def Fixed (cmp : Bytes → Bytes → Ordering) (sl : Bool) : List ItEntry → List ItEntry → Prop
  | [], [] => True
  | _ :: _, [] => sl = true
  | [], _ :: _ => sl = false
  | a :: _, b :: _ => (sl = true ∧ cmp a.key b.key = .lt) ∨ (sl = false ∧ cmp a.key b.key = .gt)

structure Pre (SA : IterSpec A cmp allA) (SB : IterSpec B cmp allB) (rev : Bool)
    (m : MergeSt α β) (Ll Lr : List ItEntry) : Prop where
  hl : SA.R m.left.iter Ll
  hr : SB.R m.right.iter Lr
  nl : NodeOK m.left Ll
  nr : NodeOK m.right Lr
  hrev : m.reverse = rev

def MergeR (SA : IterSpec A cmp allA) (SB : IterSpec B cmp allB) (rev : Bool)
    (m : MergeSt α β) (L : List ItEntry) : Prop :=
  ∃ Ll Lr, Pre SA SB rev m Ll Lr ∧ Fixed cmp m.smallLeft Ll Lr ∧ m.curKey = m.smallKey ∧
    L = mergeLists cmp Ll Lr

/-- `fix` with the two direction-dependent arms folded into one comparison under `dcmp`. -/
theorem fix_eq (m : MergeSt α β) :
    MergeSt.fix A B m =
      if !m.biggerValid then m
      else if !m.smallValid then m.swapSmall
      else match dcmp m.reverse m.smallKey m.biggerKey with
        | .eq =>
          let m' := { m with right := m.right.next B }
          if !m'.smallLeft then m'.swapSmall else m'
        | .lt => m
        | .gt => m.swapSmall := by
  unfold MergeSt.fix dcmp
  cases m.reverse
  · rfl
  · rw [← compareKeys_total.swap m.smallKey m.biggerKey]
    cases compareKeys m.smallKey m.biggerKey <;> rfl

variable (T : TotalCmp cmp) (SA : IterSpec A cmp allA) (SB : IterSpec B cmp allB) (rev : Bool)
  (hcmp : cmp = dcmp rev)
include T hcmp

/-- `fix` re-establishes `Fixed` from any position of `small`, without changing the merge. -/
theorem fix_spec {m : MergeSt α β} {Ll Lr : List ItEntry} (hp : Pre SA SB rev m Ll Lr) :
    ∃ Ll' Lr', Pre SA SB rev (MergeSt.fix A B m) Ll' Lr' ∧
      Fixed cmp (MergeSt.fix A B m).smallLeft Ll' Lr' ∧
      mergeLists cmp Ll' Lr' = mergeLists cmp Ll Lr ∧
      (MergeSt.fix A B m).curKey = m.curKey := by
  obtain ⟨left, right, sl, ck, rv⟩ := m
  have hrev : rv = rev := hp.hrev
  subst hrev
  have nlv : left.valid = !Ll.isEmpty := hp.nl.1
  have nrv : right.valid = !Lr.isEmpty := hp.nr.1
  -- `fix` only changes `smallLeft` and, for equal keys, moves `right`
  have keep : ∀ sl', Pre SA SB rv ⟨left, right, sl', ck, rv⟩ Ll Lr :=
    fun _ => ⟨hp.hl, hp.hr, hp.nl, hp.nr, rfl⟩
  cases Ll with
  | nil =>
    cases Lr with
    | nil =>
      have hfix : MergeSt.fix A B ⟨left, right, sl, ck, rv⟩ = ⟨left, right, sl, ck, rv⟩ := by
        rw [fix_eq]
        cases sl <;> simp [MergeSt.biggerValid, nlv, nrv]
      rw [hfix]
      exact ⟨[], [], keep _, trivial, rfl, rfl⟩
    | cons b r =>
      have hfix : MergeSt.fix A B ⟨left, right, sl, ck, rv⟩ = ⟨left, right, false, ck, rv⟩ := by
        rw [fix_eq]
        cases sl <;> simp [MergeSt.biggerValid, MergeSt.smallValid, MergeSt.swapSmall, nlv, nrv]
      rw [hfix]
      exact ⟨[], b :: r, keep _, rfl, rfl, rfl⟩
  | cons a l =>
    cases Lr with
    | nil =>
      have hfix : MergeSt.fix A B ⟨left, right, sl, ck, rv⟩ = ⟨left, right, true, ck, rv⟩ := by
        rw [fix_eq]
        cases sl <;> simp [MergeSt.biggerValid, MergeSt.smallValid, MergeSt.swapSmall, nlv, nrv]
      rw [hfix]
      exact ⟨a :: l, [], keep _, rfl, rfl, rfl⟩
    | cons b r =>
      have hlk : left.key = a.key := hp.nl.2 a l rfl
      have hrk : right.key = b.key := hp.nr.2 b r rfl
      -- `fix` evaluated with both children valid: it compares `small`'s key with the other one
      -- (`h1` if `small` is the left node, `h2` if the right one) and swaps on `gt`, so `small` ends
      -- on the smaller head, whichever it pointed to; on equal keys `right` steps over its copy and
      -- `small` is the left node
      have hfix : ∀ o m', cmp a.key b.key = o → cmp b.key a.key = o.swap →
          (match o with
            | .lt => (⟨left, right, true, ck, rv⟩ : MergeSt α β)
            | .eq => ⟨left, right.next B, true, ck, rv⟩
            | .gt => ⟨left, right, false, ck, rv⟩) = m' →
          MergeSt.fix A B ⟨left, right, sl, ck, rv⟩ = m' := by
        rintro o m' h1 h2 rfl
        rw [fix_eq]
        cases sl <;> cases o <;>
          simp [MergeSt.biggerValid, MergeSt.smallValid, MergeSt.smallKey, MergeSt.biggerKey,
            MergeSt.swapSmall, nlv, nrv, hlk, hrk, ← hcmp, h1, h2, Ordering.swap] at h2 ⊢
      cases hc : cmp a.key b.key with
      | lt =>
        rw [hfix _ _ hc ((T.lt_iff _ _).mp hc) rfl]
        exact ⟨a :: l, b :: r, keep _, .inl ⟨rfl, hc⟩, rfl, rfl⟩
      | gt =>
        rw [hfix _ _ hc ((T.gt_iff _ _).mp hc) rfl]
        exact ⟨a :: l, b :: r, keep _, .inr ⟨rfl, hc⟩, rfl, rfl⟩
      | eq =>
        rw [hfix _ _ hc ((T.eq_iff _ _).mp hc ▸ hc) rfl]
        refine ⟨a :: l, r, ⟨hp.hl, SB.next hp.hr, hp.nl, nodeOK_setKey SB _ (SB.next hp.hr), rfl⟩, ?_,
          (mergeLists_drop_right_eq T hc (SB.R_sorted hp.hr)).symm, rfl⟩
        cases r with
        | nil => rfl
        | cons b' r' =>
          exact .inl ⟨rfl, (T.eq_iff _ _).mp hc ▸ (SB.R_sorted hp.hr).head_lt b' List.mem_cons_self⟩

omit T hcmp in
theorem Fixed.cases {sl : Bool} {Ll Lr : List ItEntry} (hf : Fixed cmp sl Ll Lr) :
    (Ll = [] ∧ Lr = []) ∨
    (sl = true ∧ ∃ a l, Ll = a :: l ∧ mergeLists cmp Ll Lr = a :: mergeLists cmp l Lr) ∨
    (sl = false ∧ ∃ b r, Lr = b :: r ∧ mergeLists cmp Ll Lr = b :: mergeLists cmp Ll r) := by
  cases Ll with
  | nil =>
    cases Lr with
    | nil => exact .inl ⟨rfl, rfl⟩
    | cons b r => exact .inr (.inr ⟨hf, b, r, rfl, by simp⟩)
  | cons a l =>
    cases Lr with
    | nil => exact .inr (.inl ⟨hf, a, l, rfl, by simp⟩)
    | cons b r =>
      rcases hf with ⟨h, hc⟩ | ⟨h, hc⟩
      · exact .inr (.inl ⟨h, a, l, rfl, mergeLists_cons_lt hc⟩)
      · exact .inr (.inr ⟨h, b, r, rfl, mergeLists_cons_gt hc⟩)

omit T hcmp in
/-- In a fixed state the `small` node shows the head of the merge. -/
theorem small_head {m : MergeSt α β} {Ll Lr : List ItEntry} (hp : Pre SA SB rev m Ll Lr)
    (hf : Fixed cmp m.smallLeft Ll Lr) :
    m.smallValid = !(mergeLists cmp Ll Lr).isEmpty ∧
    ∀ e L, mergeLists cmp Ll Lr = e :: L →
      m.smallKey = e.key ∧ MergeSt.value A B m = e.val := by
  unfold MergeSt.smallValid MergeSt.smallKey MergeSt.value
  rcases hf.cases with ⟨rfl, rfl⟩ | ⟨hsl, a, l, rfl, hm⟩ | ⟨hsl, b, r, rfl, hm⟩
  · rw [mergeLists_nil_left]
    refine ⟨?_, fun e L he => nomatch he⟩
    cases m.smallLeft
    · exact hp.nr.1
    · exact hp.nl.1
  · rw [hsl, hm]
    refine ⟨hp.nl.1, ?_⟩
    rintro e L ⟨⟩
    exact ⟨hp.nl.2 _ _ rfl, SA.value hp.hl⟩
  · rw [hsl, hm]
    refine ⟨hp.nr.1, ?_⟩
    rintro e L ⟨⟩
    exact ⟨hp.nr.2 _ _ rfl, SB.value hp.hr⟩

omit T hcmp in
/-- `mi.small.next()` in a fixed state pops the head of the merge. -/
theorem smallNext_pre {m : MergeSt α β} {Ll Lr : List ItEntry} {e : ItEntry} {L : List ItEntry}
    (hp : Pre SA SB rev m Ll Lr) (hf : Fixed cmp m.smallLeft Ll Lr)
    (hm : mergeLists cmp Ll Lr = e :: L) :
    ∃ Ll' Lr', Pre SA SB rev (MergeSt.smallNext A B m) Ll' Lr' ∧ mergeLists cmp Ll' Lr' = L ∧
      (MergeSt.smallNext A B m).curKey = m.curKey := by
  unfold MergeSt.smallNext
  rcases hf.cases with ⟨rfl, rfl⟩ | ⟨hsl, a, l, rfl, hm'⟩ | ⟨hsl, b, r, rfl, hm'⟩
  · rw [mergeLists_nil_left] at hm
    nomatch hm
  · rw [hsl]
    exact ⟨l, Lr, ⟨SA.next hp.hl, hp.hr, nodeOK_setKey SA _ (SA.next hp.hl), hp.nr, hp.hrev⟩,
      (List.cons.inj (hm'.symm.trans hm)).2, rfl⟩
  · rw [hsl]
    exact ⟨Ll, r, ⟨hp.hl, SB.next hp.hr, hp.nl, nodeOK_setKey SB _ (SB.next hp.hr), hp.hrev⟩,
      (List.cons.inj (hm'.symm.trans hm)).2, rfl⟩

omit T hcmp in
theorem nextLoop_of_not_cond {m : MergeSt α β} (h : m.loopCond = false) (n : Nat) :
    MergeSt.nextLoop A B n m = m := by
  cases n <;> simp [MergeSt.nextLoop, h]

omit T hcmp in
theorem mergeR_setCurrent {m : MergeSt α β} {Ll Lr : List ItEntry} (hp : Pre SA SB rev m Ll Lr)
    (hf : Fixed cmp m.smallLeft Ll Lr) :
    MergeR SA SB rev m.setCurrent (mergeLists cmp Ll Lr) :=
  ⟨Ll, Lr, ⟨hp.hl, hp.hr, hp.nl, hp.nr, hp.hrev⟩, hf, rfl, rfl⟩

/-- One call of `Next` in a positioned state: the loop body runs exactly once and the loop
    is left through its own condition. -/
theorem nextLoop_cons {m : MergeSt α β} {e : ItEntry} {L : List ItEntry}
    (h : MergeR SA SB rev m (e :: L)) (n : Nat) :
    ∃ Ll Lr, Pre SA SB rev (MergeSt.nextLoop A B (n + 1) m) Ll Lr ∧
      Fixed cmp (MergeSt.nextLoop A B (n + 1) m).smallLeft Ll Lr ∧
      mergeLists cmp Ll Lr = L ∧ (MergeSt.nextLoop A B (n + 1) m).loopCond = false := by
  obtain ⟨Ll, Lr, hp, hf, hck, hL⟩ := h
  have hsorted : SortedBy cmp (e :: L) := by
    rw [hL]; exact sortedBy_mergeLists T (SA.R_sorted hp.hl) (SB.R_sorted hp.hr)
  have sh := small_head SA SB rev hp hf
  rw [← hL] at sh
  have hcond : m.loopCond = true := by
    unfold MergeSt.loopCond
    rw [sh.1, hck]; simp
  obtain ⟨Ll1, Lr1, hp1, hm1, hck1⟩ := smallNext_pre SA SB rev hp hf hL.symm
  obtain ⟨Ll2, Lr2, hp2, hf2, hm2, hck2⟩ := fix_spec T SA SB rev hcmp hp1
  have hstep : MergeSt.nextLoop A B (n + 1) m =
      MergeSt.nextLoop A B n (MergeSt.fix A B (MergeSt.smallNext A B m)) := by
    simp [MergeSt.nextLoop, hcond]
  have hexit : (MergeSt.fix A B (MergeSt.smallNext A B m)).loopCond = false := by
    have sh2 := small_head SA SB rev hp2 hf2
    rw [hm2, hm1] at sh2
    unfold MergeSt.loopCond
    cases L with
    | nil => simp [sh2.1]
    | cons x L' =>
      have hk := (sh2.2 x L' rfl).1
      have hlt := hsorted.head_lt x (by simp)
      have hne : x.key ≠ e.key := fun h => T.lt_irrefl _ (h ▸ hlt)
      rw [hk, hck2, hck1, hck, (sh.2 e (x :: L') rfl).1]
      simp [hne]
  rw [hstep, nextLoop_of_not_cond hexit]
  exact ⟨Ll2, Lr2, hp2, hf2, hm2.trans hm1, hexit⟩

/-- **C21 core**: a `MergeIterator` whose children are cursors over `allA`, `allB`
    (strictly sorted in iteration order) is a cursor over `mergeLists cmp allA allB`. -/
def mergeIterSpec : IterSpec (MergeSt.ops A B) cmp (mergeLists cmp allA allB) where
  R := MergeR SA SB rev
  sorted_all := sortedBy_mergeLists T SA.sorted_all SB.sorted_all
  R_sorted := by
    rintro m L ⟨Ll, Lr, hp, _, _, rfl⟩
    exact sortedBy_mergeLists T (SA.R_sorted hp.hl) (SB.R_sorted hp.hr)
  rewind := by
    rintro m L ⟨Ll, Lr, hp, _, _, _⟩
    have hp1 : Pre SA SB rev { m with left := m.left.rewind A, right := m.right.rewind B }
        allA allB :=
      ⟨SA.rewind hp.hl, SB.rewind hp.hr, nodeOK_setKey SA _ (SA.rewind hp.hl),
        nodeOK_setKey SB _ (SB.rewind hp.hr), hp.hrev⟩
    obtain ⟨Ll2, Lr2, hp2, hf2, hm2, _⟩ := fix_spec T SA SB rev hcmp hp1
    rw [← hm2]
    exact mergeR_setCurrent SA SB rev hp2 hf2
  seek := by
    rintro m L k ⟨Ll, Lr, hp, _, _, _⟩
    have hp1 : Pre SA SB rev { m with left := m.left.seek A k, right := m.right.seek B k }
        (allA.dropWhile (fun e => cmp e.key k == .lt))
        (allB.dropWhile (fun e => cmp e.key k == .lt)) :=
      ⟨SA.seek k hp.hl, SB.seek k hp.hr, nodeOK_setKey SA _ (SA.seek k hp.hl),
        nodeOK_setKey SB _ (SB.seek k hp.hr), hp.hrev⟩
    obtain ⟨Ll2, Lr2, hp2, hf2, hm2, _⟩ := fix_spec T SA SB rev hcmp hp1
    rw [dropWhile_mergeLists T, ← hm2]
    exact mergeR_setCurrent SA SB rev hp2 hf2
  next := by
    intro m e L h
    obtain ⟨Ll, Lr, hp, hf, hm, _⟩ := nextLoop_cons T SA SB rev hcmp h (MergeSt.size A B m)
    rw [← hm]
    exact mergeR_setCurrent SA SB rev hp hf
  next_nil := by
    rintro m ⟨Ll, Lr, hp, hf, hck, hL⟩
    have sh := small_head SA SB rev hp hf
    rw [← hL] at sh
    have hcond : m.loopCond = false := by unfold MergeSt.loopCond; simp [sh.1]
    show MergeR SA SB rev (MergeSt.next A B m) []
    unfold MergeSt.next
    rw [nextLoop_of_not_cond hcond, hL]
    exact mergeR_setCurrent SA SB rev hp hf
  valid := by
    rintro m L ⟨Ll, Lr, hp, hf, _, rfl⟩
    exact (small_head SA SB rev hp hf).1
  key := by
    rintro m e L ⟨Ll, Lr, hp, hf, _, hL⟩
    exact ((small_head SA SB rev hp hf).2 e L hL.symm).1
  value := by
    rintro m e L ⟨Ll, Lr, hp, hf, _, hL⟩
    exact ((small_head SA SB rev hp hf).2 e L hL.symm).2

/-- The freshly constructed `MergeIterator` (`small = &left`, zero nodes). -/
theorem mergeR_init {a : α} {b : β} (ha : SA.R a []) (hb : SB.R b []) :
    (mergeIterSpec T SA SB rev hcmp).R
      { left := ⟨false, [], a⟩, right := ⟨false, [], b⟩, smallLeft := true, curKey := [],
        reverse := rev } [] :=
  ⟨[], [], ⟨ha, hb, ⟨rfl, by simp⟩, ⟨rfl, by simp⟩, rfl⟩, by simp [Fixed], rfl, by simp⟩

end Level
end Badger
