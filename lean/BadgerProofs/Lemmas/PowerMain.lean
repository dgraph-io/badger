import BadgerProofs.Lemmas.PowerStep2
import BadgerProofs.Lemmas.CrashMain
/-!
From `PInv` to the power-loss theorem: the freshly opened database satisfies it, every history
preserves it, and every power-loss image of a state satisfying it is recovered to a commit
prefix that holds every acknowledged commit.
-/
namespace Badger

theorem QOk_Q0 : QOk Q0 := by
  intro p
  cases p with
  | mem n | vlog n =>
    by_cases h : n = 1
    · simp only [Q0, h, if_true]; exact PVOk_linked _ _ (by decide) (by decide)
    · simp only [Q0, h, if_false]; exact PVOk_default
  | manifest | keyRegistry => exact PVOk_linked _ _ (by decide) (by decide)
  | _ => exact PVOk_default

theorem PInv_init (R : ViewRel) (c : Cfg) (hfix : c.dirSyncFix = true) (hsw : c.syncWrites = true) :
    PInv R { cfg := c } Q0 where
  fix := hfix
  sw := hsw
  qok := QOk_Q0
  core := {
    man := ⟨rfl, ⟨[], .tight, rfl, rfl⟩, ⟨[], .tight, rfl, rfl⟩, fun _ => rfl⟩
    sst := {
      tables := by intro id h; simp [aget] at h
      dLt := by intro n _; rfl
      fl3 := by intro k hk; cases hk
      fl4 := by intro h; exact absurd rfl h
      fl6 := by intro h; exact absurd rfl h
      kout3 := by intro o ho; cases ho
      kdirOk := by intro h; cases h }
    mem := {
      immP := by intro k hk; cases hk
      curP := by
        intro _
        refine ⟨{ chunks := [], size := .alloc }, 0, rfl, Nat.le_refl _, rfl, fun _ => rfl,
          Nat.le_refl _, fun _ => rfl, ?_⟩
        intro h; simp [memQ, Q0] at h
      deadP := by
        intro n _ h2
        have : n ≠ 1 := fun e => h2 ⟨rfl, e⟩
        left
        simp [memQ, Q0, this]
      pend := by intro x hx; cases hx }
    logic := ⟨Nat.le_refl _, rfl, R.refl _, R.refl _⟩ }

theorem exec_pinv (R : ViewRel) (m : MState) (h : List Sched) (hwf : m.fs.WF2)
    (hI : Inv R m.p (fvOf m.fs.quad)) (hP : PInv R m.p m.fs.quad) (hok : SchedHistOk R m.p h) :
    (m.exec h).fs.WF2 ∧ Inv R (m.exec h).p (fvOf (m.exec h).fs.quad) ∧ PInv R (m.exec h).p (m.exec h).fs.quad :=
  have := exec_quad R (PInv R) (fun s Q hI hP x => (PInv_step R s Q hI hP x).1) m h hwf hI hok
  ⟨this.1, this.2.1, this.2.2 hP⟩

theorem init_pinv (R : ViewRel) (c : Cfg) (hfix : c.dirSyncFix = true) (hsw : c.syncWrites = true) :
    (MState.init c).fs.WF2 ∧ Inv R (MState.init c).p (fvOf (MState.init c).fs.quad) ∧
      PInv R (MState.init c).p (MState.init c).fs.quad := by
  have hfs : (MState.init c).fs = fs0 := init_fs
  rw [hfs, fs0_quad]
  exact ⟨fs0_WF2, Inv_init R c, PInv_init R c hfix hsw⟩

theorem take_add_of_link {α : Type} (l c : List α) (d b j : Nat) (hb : b ≤ d) (hd : d ≤ l.length)
    (hlink : l.take d = l.take b ++ c) (hj : b + j ≤ d) : l.take (b + j) = l.take b ++ c.take j := by
  have h1 : (l.take d).take (b + j) = l.take (b + j) := by
    rw [List.take_take]; congr 1; omega
  rw [← h1, hlink, List.take_append]
  have hlen : (l.take b).length = b := by rw [List.length_take]; omega
  rw [hlen, List.take_of_length_le (by omega)]
  congr 2; omega

/-! `P` is a directory a power loss can leave: under every name one of the four candidates of `Q`. -/

section image
variable {R : ViewRel} {s : PState} {Q : QFs} {P : KFs}
  (hI : Inv R s (fvOf Q)) (hP : PInv R s Q)
  (h4 : ∀ p, P p = (Q p).fv ∨ P p = (Q p).fd ∨ P p = (Q p).dv ∨ P p = (Q p).dd)

include hP h4 in
/-- the content under a name is that of its inode in the directory, unless the durable directory binds
    the name differently -/
theorem image_cand (p : Path) :
    (P p = (Q p).fv ∨ P p = (Q p).fd) ∨ ((Q p).lk = false ∧ (P p = (Q p).dv ∨ P p = (Q p).dd)) := by
  have hv := hP.qok p
  cases hl : (Q p).lk with
  | false => rcases h4 p with h | h | h | h
             · exact Or.inl (Or.inl h)
             · exact Or.inl (Or.inr h)
             · exact Or.inr ⟨rfl, Or.inl h⟩
             · exact Or.inr ⟨rfl, Or.inr h⟩
  | true => rcases h4 p with h | h | h | h
            · exact Or.inl (Or.inl h)
            · exact Or.inl (Or.inr h)
            · exact Or.inl (Or.inl (h.trans (hv.lkv hl)))
            · exact Or.inl (Or.inr (h.trans (hv.lkd hl)))

include hP h4 in
theorem image_cand_linked (p : Path) (hl : (Q p).lk = true) : P p = (Q p).fv ∨ P p = (Q p).fd :=
  (image_cand hP h4 p).resolve_right fun h => by rw [hl] at h; cases h.1

include hP h4 in
theorem image_manifest : ∃ T, (T = s.tset ∨ T = s.tsetD) ∧ ManifestOk P T := by
  have hm := hP.core.man
  rcases image_cand_linked hP h4 .manifest hm.lk with h | h
  · obtain ⟨sets, sz, hf, hr⟩ := hm.vol
    exact ⟨s.tset, Or.inl rfl, sets, sz, h.trans hf, hr⟩
  · obtain ⟨sets, sz, hf, hr⟩ := hm.dur
    exact ⟨s.tsetD, Or.inr rfl, sets, sz, h.trans hf, hr⟩

include hP h4 in
theorem image_tables {T : List (Nat × Nat)} (hT : T = s.tset ∨ T = s.tsetD) :
    ∀ x ∈ T, ∃ f, P (.sst x.1) = some f ∧ f.chunks = [.table (entsOfTable s.tcont x.1)] := by
  intro x hx
  have hsome : (aget x.1 s.tset).isSome = true ∨ (aget x.1 s.tsetD).isSome = true := by
    rcases hT with e | e <;> subst e
    · exact Or.inl (aget_isSome_of_mem _ _ hx)
    · exact Or.inr (aget_isSome_of_mem _ _ hx)
  obtain ⟨hl, ⟨f, hf, hc⟩, ⟨g, hg, hgc⟩⟩ := hP.core.sst.tables x.1 hsome
  rcases image_cand_linked hP h4 (.sst x.1) hl with h | h
  · exact ⟨f, h.trans hf, hc⟩
  · exact ⟨g, h.trans hg, hgc⟩

include hP h4 in
theorem image_zero (p : Path) (f : Inode) (hf : P p = some f) : f.size = .zero → f.chunks = [] := by
  have hv := hP.qok p
  rcases h4 p with h | h | h | h
  · exact hv.z1 f (h ▸ hf)
  · exact hv.z2 f (h ▸ hf)
  · exact hv.z3 f (h ▸ hf)
  · exact hv.z4 f (h ▸ hf)

include hI hP h4 in
theorem image_imm : ∀ k ∈ s.imm, ∃ f, P (.mem k) = some f ∧ (replayLog f.chunks).ents = entsOfMem s.mtxns k := by
  intro k hk
  obtain ⟨hl, g, hg, hgr⟩ := hP.core.mem.immP k hk
  obtain ⟨f, hf, hfr⟩ := hI.mem.immFiles k hk
  rcases image_cand_linked hP h4 (.mem k) hl with h | h
  · exact ⟨f, h.trans hf, hfr⟩
  · exact ⟨g, h.trans hg, hgr⟩

include hI hP h4 in
/-- an unlinked WAL whose name is still durable holds nothing beyond the table it was flushed to -/
theorem image_dead {T : List (Nat × Nat)} (hT : T = s.tset ∨ T = s.tsetD) (n : Nat) (f : Inode)
    (h1 : n ∉ s.imm) (h2 : ¬ (s.curOpen = true ∧ n = s.cur)) (hf : P (.mem n) = some f) :
    ∀ e ∈ (replayLog f.chunks).ents, e ∈ tablesEnts s.tcont T := by
  intro e he
  obtain ⟨hfv, hfd⟩ := fv_dead hI hP.qok n h1 h2
  have hdv : (Q (.mem n)).dv = some f ∨ (Q (.mem n)).dd = some f := by
    rcases image_cand hP h4 (.mem n) with (h | h) | ⟨_, h | h⟩
    · rw [h, hfv] at hf; cases hf
    · rw [h, hfd] at hf; cases hf
    · exact Or.inl (h ▸ hf)
    · exact Or.inr (h ▸ hf)
  rcases hP.core.mem.deadP n h1 h2 with ⟨a, b⟩ | ⟨⟨t, ht⟩, hcont⟩
  · have a' : (Q (.mem n)).dv = none := a
    have b' : (Q (.mem n)).dd = none := b
    rw [a', b'] at hdv
    rcases hdv with h | h <;> cases h
  · obtain ⟨_, _, _, d⟩ := hP.core.mem.pend (n, t) ht
    obtain ⟨d1, d2, d3⟩ := d e (hcont f hdv e he)
    refine mem_tablesEnts _ _ t e ?_ d3
    rcases hT with e | e <;> subst e
    · exact d1
    · exact d2

include hI hP h4 in
/-- the active memtable: `P` holds a prefix of its complete transactions that contains every
    acknowledged one -/
theorem image_cur : ∃ j, j ≤ s.curT.length ∧ s.acked + s.curT.length ≤ s.done + j ∧
    (s.curOpen = true → ∀ e, (∃ f, P (.mem s.cur) = some f ∧ e ∈ (replayLog f.chunks).ents) ↔
      e ∈ txnsEnts (s.curT.take j)) := by
  cases ho : s.curOpen with
  | false =>
    rw [PState.curT_closed ho]
    exact ⟨0, Nat.le_refl _, by have := hI.logic.acked_le; simp; omega, fun e => by cases e⟩
  | true =>
    rw [PState.curT_open ho]
    obtain ⟨g, jd, hg, h2, h3, _, h5, _, h7⟩ := hP.core.mem.curP ho
    obtain ⟨f, hf, (hfr : _ = txnsEnts ((aget s.cur s.mtxns).getD []))⟩ := hI.mem.curReplay ho
    rcases image_cand hP h4 (.mem s.cur) with (h | h) | ⟨hl, h⟩
    · refine ⟨((aget s.cur s.mtxns).getD []).length, Nat.le_refl _, ?_, fun _ e => ?_⟩
      · have := hI.logic.acked_le; omega
      · rw [List.take_length, ← hfr]; exact exists_file_iff (h.trans hf) e
    · exact ⟨jd, h2, h5, fun _ e => by rw [← h3]; exact exists_file_iff (h.trans hg) e⟩
    · -- the name is not durable yet: nothing is found, and nothing in this WAL is acknowledged
      obtain ⟨a, b, c⟩ := h7 hl
      have hn : P (.mem s.cur) = none := by rcases h with h | h <;> rw [h] <;> assumption
      refine ⟨0, Nat.zero_le _, by omega, fun _ e => ⟨?_, ?_⟩⟩
      · rintro ⟨f0, hf0, _⟩
        rw [hn] at hf0; cases hf0
      · intro he; simp [txnsEnts] at he

end image

theorem power_recover (R : ViewRel) (s : PState) (fs : Fs) (hI : Inv R s (fvOf fs.quad)) (hP : PInv R s fs.quad)
    (kd : Path → Bool) (ks : Nat → Bool) :
    ∃ r, recover false (crashPowerWith fs kd ks) = .ok r ∧
      ∃ k, s.acked ≤ k ∧ k ≤ s.commits.length ∧ R.r r.entries (txnsEnts (s.commits.take k)) := by
  have h4 := crashPowerWith_file fs kd ks
  obtain ⟨T, hT, hMan⟩ := image_manifest hP h4
  obtain ⟨r, hr, hri, _⟩ := recover_ok false (crashPowerWith fs kd ks) T (entsOfTable s.tcont) hMan
    (image_tables hP h4 hT) (fun n f hf => ⟨rfl, image_zero hP h4 (.mem n) f hf⟩) fun _ _ _ _ => rfl
  obtain ⟨j, hj1, hj2, hj3⟩ := image_cur hI hP h4
  have hl := hP.core.logic
  refine ⟨r, hr, s.done - s.curT.length + j, ?_, ?_, ?_⟩
  · have := hl.curLe; omega
  · have := hl.curLe; have := hI.logic.done_le; omega
  · -- the entries found read like the base plus the surviving prefix of the active memtable
    have hset : ∀ e, e ∈ r.entries ↔
        e ∈ (tablesEnts s.tcont T ++ immsEnts s.mtxns s.imm) ++ txnsEnts (s.curT.take j) := by
      intro e
      rw [hri]
      refine mem_files_ents _ s.mtxns s.imm s.curOpen s.cur _ _ (image_imm hI hP h4) hj3 (fun ho => ?_)
        (image_dead hI hP h4 hT) e
      simp [PState.curT, ho, txnsEnts]
    have hbase : R.r (tablesEnts s.tcont T ++ immsEnts s.mtxns s.imm)
        (txnsEnts (s.commits.take (s.done - s.curT.length))) := by
      rcases hT with e | e <;> subst e
      · exact hl.baseV
      · exact hl.baseD
    have htake := take_add_of_link s.commits s.curT s.done (s.done - s.curT.length) j (Nat.sub_le _ _)
      hI.logic.done_le hl.link (by have := hl.curLe; omega)
    rw [htake, txnsEnts_append]
    exact R.trans _ _ _ (R.of_mem_iff _ _ hset) (R.app_congr _ _ _ _ hbase (R.refl _))

end Badger
