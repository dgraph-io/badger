import BadgerModel.Header
import BadgerProofs.Lemmas.Varint
/-!
The entry header: `DecodeFrom` on an encoding, and `Decode` agrees with `DecodeFrom` wherever that
succeeds (`headerDecode_of_decodeFrom`), which gives its round trip (`C20_header_roundtrip`, in `Props/C20Enc`).
-/
namespace Badger

theorem sliceFrom_append_length (a b : Bytes) (i : Int) (h : i = a.length) :
    sliceFrom (a ++ b) i = some b := by
  subst h
  unfold sliceFrom
  rw [if_neg (by simp; omega)]
  simp

/-- The slices `header.Decode` takes behind `meta`, `userMeta` and no, one or two fields
    (`ValueStruct.Decode` takes the second). -/
theorem sliceFrom_hdr0 (m um : UInt8) (r : Bytes) : sliceFrom (m :: um :: r) 2 = some r :=
  sliceFrom_append_length [m, um] r 2 rfl

theorem sliceFrom_hdr1 (m um : UInt8) (a r : Bytes) :
    sliceFrom (m :: um :: (a ++ r)) (2 + (a.length : Int)) = some r :=
  sliceFrom_append_length (m :: um :: a) r _ (by rw [List.length_cons, List.length_cons]; omega)

theorem sliceFrom_hdr2 (m um : UInt8) (a b r : Bytes) :
    sliceFrom (m :: um :: (a ++ (b ++ r))) (2 + (a.length : Int) + (b.length : Int)) = some r := by
  have := sliceFrom_append_length (m :: um :: (a ++ b)) r (2 + (a.length : Int) + (b.length : Int))
    (by rw [List.length_cons, List.length_cons, List.length_append]; omega)
  rwa [List.cons_append, List.cons_append, List.append_assoc] at this

/-- A header over the Go field types. -/
def Header.WF (h : Header) : Prop := h.klen < 2 ^ 32 ∧ h.vlen < 2 ^ 32 ∧ h.expiresAt < 2 ^ 64

theorem headerEncode_length (h : Header) :
    (headerEncode h).length =
      2 + (putUvarint h.klen).length + (putUvarint h.vlen).length + (putUvarint h.expiresAt).length := by
  simp [headerEncode]; omega

theorem headerEncode_append (h : Header) (rest : Bytes) :
    headerEncode h ++ rest = h.metaB :: h.userMeta ::
      (putUvarint h.klen ++ (putUvarint h.vlen ++ (putUvarint h.expiresAt ++ rest))) := by
  simp [headerEncode]

theorem headerDecodeFrom_encode (h : Header) (rest : Bytes)
    (hk : h.klen < 2 ^ 64) (hv : h.vlen < 2 ^ 64) (he : h.expiresAt < 2 ^ 64) :
    headerDecodeFrom (headerEncode h ++ rest) =
      .ok ({ h with klen := h.klen % 2 ^ 32, vlen := h.vlen % 2 ^ 32 }, rest) := by
  rw [headerEncode_append]
  simp only [headerDecodeFrom, readByte, readUvarint_put h.klen _ hk,
    readUvarint_put h.vlen _ hv, readUvarint_put h.expiresAt _ he]

theorem headerDecodeFrom_headerEncode (h : Header) (rest : Bytes) (wf : h.WF) :
    headerDecodeFrom (headerEncode h ++ rest) = .ok (h, rest) := by
  obtain ⟨hk, hv, he⟩ := wf
  rw [headerDecodeFrom_encode h rest (Nat.lt_trans hk (by decide)) (Nat.lt_trans hv (by decide)) he,
    Nat.mod_eq_of_lt hk,
    Nat.mod_eq_of_lt hv]

/-- `Decode` and `DecodeFrom` agree wherever `DecodeFrom` succeeds: when it returns, having consumed
    `a`, `Decode` returns the same header and the count `len(a)`. -/
theorem headerDecode_of_decodeFrom {b r : Bytes} {h : Header} (hd : headerDecodeFrom b = .ok (h, r)) :
    ∃ a, b = a ++ r ∧ headerDecode b = some (h, (a.length : Int)) := by
  match b with
  | [] => cases hd
  | [_] => cases hd
  | m :: um :: w =>
    simp only [headerDecodeFrom, readByte] at hd
    split at hd
    · cases hd
    next klen r2 h1 =>
    split at hd
    · cases hd
    next vlen r3 h2 =>
    split at hd
    · cases hd
    next exp r4 h3 =>
    obtain ⟨rfl, rfl⟩ := Prod.mk.inj (Except.ok.inj hd)
    obtain ⟨a3, rfl, u3⟩ := uvarint_of_read h3
    obtain ⟨a2, rfl, u2⟩ := uvarint_of_read h2
    obtain ⟨a1, rfl, u1⟩ := uvarint_of_read h1
    refine ⟨m :: um :: (a1 ++ (a2 ++ a3)), by simp, ?_⟩
    simp only [headerDecode, sliceFrom_hdr0, u1, sliceFrom_hdr1, u2, sliceFrom_hdr2, u3,
      List.length_cons, List.length_append]
    congr 2
    omega

end Badger
