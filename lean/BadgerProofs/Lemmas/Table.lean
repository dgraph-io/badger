import BadgerModel.Table
import BadgerProofs.Lemmas.BlockSeek
/-!
Builder side of C18: the block under construction equals the block specification (`blockData`,
`blockOffs`); `Add` cuts the input into the blocks `cutFrom`; a finished block reads back through
`parseBlock`, and a file laid out as the stored blocks with their index satisfies `TableOK`
(`stored_tableOK`), however the blocks were cut. Last, no assertion of the builder fires on an input
below 2 GiB (`addAll_total`).
-/
namespace Badger.Tbl
open Badger

def specBlock (es : List Entry) : BBlock :=
  { data := blockData es, baseKey := baseOf es, entryOffsets := (blockOffs es).map u32 }

theorem specBlock_nil : specBlock [] = {} := rfl

theorem blockData_append (e0 : Entry) (r : List Entry) (e : Entry) :
    blockData (e0 :: (r ++ [e])) = blockData (e0 :: r) ++ entryChunk e0.key e := by
  simp [blockData, chunks_append]

theorem blockOffs_append (e0 : Entry) (r : List Entry) (e : Entry) :
    blockOffs (e0 :: (r ++ [e])) = blockOffs (e0 :: r) ++ [(blockData (e0 :: r)).length] := by
  unfold blockOffs blockData
  rw [chunks_append, offsFrom_append]; simp

theorem addEntry_eq {cur c : BBlock} {e : Entry} (h : cur.addEntry e.key e.vs = some c) :
    c = { data := cur.data ++ entryChunk cur.baseKey e,
          baseKey := if cur.baseKey.length = 0 then e.key else cur.baseKey,
          entryOffsets := cur.entryOffsets ++ [u32 cur.data.length] } := by
  -- the two `y.AssertTrue` branches return `none`; what is left is the record
  revert h
  fun_cases BBlock.addEntry cur e.key e.vs <;> intro h <;> cases h
  simp only [entryChunk, List.append_assoc]; rfl

theorem addEntry_spec (es : List Entry) (e : Entry) (hb : es = [] ∨ baseOf es ≠ [])
    (cur : BBlock) (h : (specBlock es).addEntry e.key e.vs = some cur) :
    cur = specBlock (es ++ [e]) := by
  rw [addEntry_eq h]
  cases es with
  | nil => simp [specBlock, blockData, blockOffs, chunks, baseOf, offsFrom]
  | cons e0 r =>
    have hne : ¬ (e0.key.length = 0) := by
      rcases hb with hb | hb
      · cases hb
      · intro h0; apply hb; simpa [baseOf] using List.eq_nil_of_length_eq_zero h0
    simp only [specBlock, List.cons_append, blockData_append, blockOffs_append, baseOf,
      List.map_append, List.map_cons, List.map_nil, hne, if_false]

theorem addEntries_spec : ∀ (es pre : List Entry) (cur : BBlock), (∀ e ∈ pre ++ es, e.key ≠ []) →
    (specBlock pre).addEntries es = some cur → cur = specBlock (pre ++ es) := by
  intro es
  induction es with
  | nil => intro pre cur _ h; simp only [BBlock.addEntries, Option.some.injEq] at h; simp [← h]
  | cons e es ih =>
    intro pre cur hk h
    simp only [BBlock.addEntries] at h
    cases hadd : (specBlock pre).addEntry e.key e.vs with
    | none => simp [hadd] at h
    | some c =>
      simp only [hadd] at h
      have hb : pre = [] ∨ baseOf pre ≠ [] := by
        cases pre with
        | nil => exact Or.inl rfl
        | cons e0 r => exact Or.inr (by simpa [baseOf] using hk e0 (by simp))
      have hc := addEntry_spec pre e hb c hadd
      subst hc
      have := ih (pre ++ [e]) cur (by simpa using hk) h
      simpa using this

theorem u32_of_lt {n : Nat} (h : n < 4294967296) : u32 n = n := Nat.mod_eq_of_lt h

theorem u32_le (n : Nat) : u32 n ≤ n := Nat.mod_le _ _

theorem blockOffs_map_u32 (es : List Entry) (h : (blockData es).length < 4294967296) :
    (blockOffs es).map u32 = blockOffs es := by
  refine (List.map_congr_left (g := id) fun x hx => u32_of_lt ?_).trans (List.map_id _)
  have := offsFrom_le 0 (chunks es) x hx
  unfold blockData at h
  show x < 4294967296
  omega

theorem finish_length (cksum : Bytes → Bytes) (cur : BBlock) :
    (cur.finish cksum).length = cur.data.length + 4 * cur.entryOffsets.length + 4 +
      (cksum (cur.data ++ u32sLE cur.entryOffsets ++ beBytes (u32 cur.entryOffsets.length) 4)).length + 4 := by
  simp [BBlock.finish, u32sLE_length]; omega

/-- `parseBlock` peels `data ++ offs ++ cnt ++ ck ++ lenb` from the back; the `have`s are its
    `take` / `drop` equations and the bounds its branches test. -/
theorem parseBlock_parts (chk : Bool) (verify : Bytes → Bytes → Bool)
    (data offs cnt ck lenb : Bytes) (n : Nat)
    (hcnt : cnt.length = 4) (hlenb : lenb.length = 4) (hn : beNat cnt = n)
    (hoffs : offs.length = n * 4) (hl : beNat lenb = ck.length)
    (hver : verify (data ++ offs ++ cnt) ck = true) :
    parseBlock chk verify (data ++ offs ++ cnt ++ ck ++ lenb) =
      .ok ⟨data ++ offs ++ cnt, ck, data.length, bytesToU32s offs⟩ := by
  have hA : (data ++ offs ++ cnt).length = data.length + n * 4 + 4 := by
    rw [List.length_append, List.length_append, hoffs, hcnt]
  have hDO : (data ++ offs).length = (data ++ offs ++ cnt).length - 4 := by
    rw [hA, List.length_append, hoffs]; rfl
  have d3 : List.drop ((data ++ offs ++ cnt).length - 4) (data ++ offs ++ cnt) = cnt :=
    List.drop_left' hDO
  have t3 : List.take ((data ++ offs ++ cnt).length - 4) (data ++ offs ++ cnt) = data ++ offs :=
    List.take_left' hDO
  have d4 : List.drop data.length (data ++ offs) = offs := List.drop_left' rfl
  generalize data ++ offs ++ cnt = A at *
  have hd : (A ++ ck ++ lenb).length = A.length + ck.length + 4 := by
    rw [List.length_append, List.length_append, hlenb]
  have e2 : List.drop (A.length + ck.length) (A ++ ck ++ lenb) = lenb :=
    List.drop_left' (List.length_append ..)
  have t1 : List.take A.length (A ++ ck ++ lenb) = A := by
    rw [List.append_assoc]; exact List.take_left' rfl
  have t2 : List.take (A.length + ck.length) (A ++ ck ++ lenb) = A ++ ck :=
    List.take_left' (List.length_append ..)
  have d2 : List.drop A.length (A ++ ck) = ck := List.drop_left' rfl
  have t4 : List.take (A.length - 4) (A ++ ck ++ lenb) = List.take (A.length - 4) A := by
    rw [List.append_assoc]; exact List.take_append_of_le_length (Nat.sub_le ..)
  have ⟨e4, e7, c1, c2, c3, c4, c5⟩ : A.length - 4 + 4 = A.length ∧ A.length - 4 - n * 4 = data.length ∧
      ¬ (A.length + ck.length + 4 < 4) ∧ ¬ (ck.length > A.length + ck.length + 4) ∧
      ¬ (A.length + ck.length < ck.length) ∧ ¬ (A.length < 4) ∧ ¬ (A.length - 4 < n * 4) := by omega
  unfold parseBlock
  simp only [hd, Nat.add_sub_cancel, e2, hl, e4, t1, t2, d2, d3, hn, e7, t4, t3, d4, c1, c2, c3, c4, c5,
    if_false, hver, Bool.not_true, Bool.and_false, Bool.false_eq_true]

def finishedOf (env : Env) (g : List Entry) : BBlock × Bytes :=
  (specBlock g, (specBlock g).finish env.cksum)

def maxVersionOf (es : List Entry) : Nat := es.foldl (fun m e => if parseTs e.key > m then parseTs e.key else m) 0

structure BuilderInv (env : Env) (b : Builder) (done : List (List Entry)) (cur : List Entry) : Prop where
  cur_eq : b.cur = specBlock cur
  blocks : b.blockList = done.map (finishedOf env)
  done_ne : ∀ g ∈ done, g ≠ []
  base_ok : cur = [] ∨ baseOf cur ≠ []
  hashes : b.keyHashes = (done.flatten ++ cur).map (fun e => env.hash (parseKey e.key))
  maxv : b.maxVersion = maxVersionOf (done.flatten ++ cur)

theorem specBlock_offs_length (es : List Entry) : (specBlock es).entryOffsets.length = es.length := by
  simp [specBlock]

theorem maxVersionOf_append (es : List Entry) (e : Entry) :
    maxVersionOf (es ++ [e]) =
      if parseTs e.key > maxVersionOf es then parseTs e.key else maxVersionOf es := by
  simp [maxVersionOf, List.foldl_append]

theorem maxVersionOf_spec (es : List Entry) :
    (∀ e ∈ es, parseTs e.key ≤ maxVersionOf es) ∧
      (maxVersionOf es = 0 ∨ ∃ e ∈ es, parseTs e.key = maxVersionOf es) :=
  (foldl_max_spec (fun e => parseTs e.key) es 0).2

theorem maxVersionOf_ge (es : List Entry) : ∀ e ∈ es, parseTs e.key ≤ maxVersionOf es :=
  (maxVersionOf_spec es).1

theorem maxVersionOf_mem (es : List Entry) (hne : es ≠ []) :
    ∃ e ∈ es, maxVersionOf es = parseTs e.key := by
  rcases (maxVersionOf_spec es).2 with h | ⟨e, he, h⟩
  · obtain ⟨e0, r, rfl⟩ := List.exists_cons_of_ne_nil hne
    have := maxVersionOf_ge (e0 :: r) e0 (by simp)
    exact ⟨e0, by simp, by omega⟩
  · exact ⟨e, he, h.symm⟩

theorem addHelper_inv {env : Env} {b b' : Builder} {done : List (List Entry)} {cur : List Entry}
    (inv : BuilderInv env b done cur) (e : Entry) (hk : e.key ≠ [])
    (h : b.addHelper env e.key e.vs 0 = some b') :
    BuilderInv env b' done (cur ++ [e]) := by
  unfold Builder.addHelper at h
  cases hadd : b.cur.addEntry e.key e.vs with
  | none => simp [hadd] at h
  | some c =>
    simp only [hadd, Option.some.injEq] at h
    rw [inv.cur_eq] at hadd
    have hc := addEntry_spec cur e inv.base_ok c hadd
    subst h
    refine ⟨hc, inv.blocks, inv.done_ne, ?_, ?_, ?_⟩
    · right
      cases cur with
      | nil => simpa [baseOf] using hk
      | cons e0 r =>
        rcases inv.base_ok with h | h
        · cases h
        · simpa [baseOf] using h
    · simp [inv.hashes]
    · show (if parseTs e.key > b.maxVersion then parseTs e.key else b.maxVersion) = _
      rw [inv.maxv, ← List.append_assoc, maxVersionOf_append]

theorem finishBlock_inv {env : Env} {b : Builder} {done : List (List Entry)} {cur : List Entry}
    (inv : BuilderInv env b done cur) (hne : cur ≠ []) :
    BuilderInv env ({ (b.finishBlock env) with cur := {} } : Builder) (done ++ [cur]) [] := by
  have hnz : ¬ (b.cur.entryOffsets.length = 0) := by
    rw [inv.cur_eq, specBlock_offs_length]
    exact fun h => hne (List.eq_nil_of_length_eq_zero h)
  unfold Builder.finishBlock
  rw [if_neg hnz]
  refine ⟨rfl, ?_, ?_, Or.inl rfl, ?_, ?_⟩
  · simp [inv.blocks, inv.cur_eq, finishedOf]
  · intro g hg
    rcases List.mem_append.mp hg with hg | hg
    · exact inv.done_ne g hg
    · rw [List.mem_singleton.mp hg]; exact hne
  · simp [inv.hashes]
  · simp [inv.maxv]

theorem finishBlock_nil {env : Env} {b : Builder} {done : List (List Entry)}
    (inv : BuilderInv env b done []) : b.finishBlock env = b := by
  unfold Builder.finishBlock
  have : b.cur.entryOffsets.length = 0 := by rw [inv.cur_eq, specBlock_offs_length]; rfl
  simp [this]

/-- How `Add` cuts a run of entries into blocks, `cur` being the open block: it is closed in front of an
    entry for which `shouldFinishBlock` says so. -/
def cutFrom (o : Opts) : List Entry → List Entry → List (List Entry)
  | cur, [] => [cur]
  | cur, e :: es =>
    if shouldFinishBlock o.blockSize o.encrypt (specBlock cur) e.key e.vs = some true then cur :: cutFrom o [e] es
    else cutFrom o (cur ++ [e]) es

theorem cutFrom_flatten (o : Opts) : ∀ es cur : List Entry, (cutFrom o cur es).flatten = cur ++ es := by
  intro es cur
  fun_induction cutFrom o cur es <;> simp [*]

theorem add_inv {env : Env} {o : Opts} {b b' : Builder} {done : List (List Entry)} {cur : List Entry}
    (inv : BuilderInv env b done cur) (e : Entry) (hk : e.key ≠ [])
    (h : b.add env o e.key e.vs 0 = some b') :
    ∃ fin, shouldFinishBlock o.blockSize o.encrypt (specBlock cur) e.key e.vs = some fin ∧
      BuilderInv env b' (if fin then done ++ [cur] else done) (if fin then [e] else cur ++ [e]) := by
  unfold Builder.add at h
  simp only [Bool.false_eq_true, if_false] at h
  cases hs : shouldFinishBlock o.blockSize o.encrypt b.cur e.key e.vs with
  | none => simp [hs] at h
  | some fin =>
    refine ⟨fin, inv.cur_eq ▸ hs, ?_⟩
    cases fin with
    | false =>
      simp only [hs] at h
      exact addHelper_inv inv e hk h
    | true =>
      simp only [hs] at h
      have hne : cur ≠ [] := by
        intro hc
        simp [shouldFinishBlock, inv.cur_eq, specBlock_offs_length, hc] at hs
      simpa using addHelper_inv (finishBlock_inv inv hne) e hk h

theorem addAll_inv {env : Env} {o : Opts} : ∀ (es : List Entry) {b b' : Builder}
    {done : List (List Entry)} {cur : List Entry},
    BuilderInv env b done cur → (∀ e ∈ es, e.key ≠ []) → (cur ≠ [] ∨ es ≠ []) →
    Builder.addAll env o b es = some b' →
    BuilderInv env ({ (b'.finishBlock env) with cur := {} } : Builder) (done ++ cutFrom o cur es) [] := by
  intro es
  induction es with
  | nil =>
    intro b b' done cur inv _ hne h
    cases h
    exact finishBlock_inv inv (hne.resolve_right fun h => h rfl)
  | cons e es ih =>
    intro b b' done cur inv hk _ h
    simp only [Builder.addAll] at h
    cases hadd : b.add env o e.key e.vs 0 with
    | none => simp [hadd] at h
    | some b1 =>
      simp only [hadd] at h
      obtain ⟨fin, hfin, inv1⟩ := add_inv inv e (hk e (by simp)) hadd
      have := ih inv1 (fun x hx => hk x (by simp [hx])) (Or.inl (by cases fin <;> simp)) h
      cases fin <;> simpa [cutFrom, hfin] using this

/-- What the iterators need to know about an opened table: block `j` reads back as the
    specification block of the `j`-th group of entries. -/
structure TableOK (env : Env) (t : TableCore) (G : List (List Entry)) : Prop where
  nb : t.offsetsLength = G.length
  blocks : ∀ (j : Nat) g, G[j]? = some g → ∃ b, t.block env (j : Int) = .ok b ∧
      slice b.data 0 b.entriesIndexStart = some (blockData g) ∧ b.entryOffsets = blockOffs g ∧
      env.verify b.data b.checksum = true
  keys : ∀ (j : Nat) g, G[j]? = some g → ∃ ko, t.file.index.offsets[j]? = some ko ∧ ko.key = baseOf g
  wf : ∀ g ∈ G, BlockWF g

theorem TableOK.ne {env : Env} {t : TableCore} {G : List (List Entry)} (ok : TableOK env t G) :
    ∀ g ∈ G, g ≠ [] :=
  fun g hg => (ok.wf g hg).ne_nil

theorem blockOffsets_length (start : Nat) (st : List (Bytes × Bytes)) :
    (blockOffsets start st).length = st.length := by
  induction st generalizing start with
  | nil => rfl
  | cons p rest ih => obtain ⟨k, s⟩ := p; simp [blockOffsets, ih]

theorem blockOffsets_eq (st : List (Bytes × Bytes)) : ∀ (s j : Nat) (p : Bytes × Bytes), st[j]? = some p →
    s + (st.map (·.2)).flatten.length < 4294967296 →
    (blockOffsets s st)[j]? = some ⟨p.1, s + ((st.map (·.2)).take j).flatten.length, p.2.length⟩ := by
  induction st with
  | nil => intro s j p h; simp at h
  | cons q rest ih =>
    intro s j p h hsz
    rw [List.map_cons, List.flatten_cons, List.length_append] at hsz
    rw [blockOffsets, u32_of_lt (show q.2.length < 4294967296 by omega), u32_of_lt (by omega)]
    cases j with
    | zero => cases h; simp
    | succ j =>
      rw [List.getElem?_cons_succ, ih (s + q.2.length) j p h (by omega), List.map_cons, List.take_succ_cons,
        List.flatten_cons, List.length_append, Nat.add_assoc]

theorem blockOffsets_get (st : List (Bytes × Bytes)) (j : Nat) (p : Bytes × Bytes) (h : st[j]? = some p)
    (hsz : (st.map (·.2)).flatten.length < 4294967296) :
    ∃ ko, (blockOffsets 0 st)[j]? = some ko ∧ ko.key = p.1 ∧
      ko.offset + ko.len ≤ (st.map (·.2)).flatten.length ∧
      ((st.map (·.2)).flatten.drop ko.offset).take ko.len = p.2 := by
  have hp : (st.map (·.2))[j]? = some p.2 := by rw [List.getElem?_map, h]; rfl
  refine ⟨_, blockOffsets_eq st 0 j p h (by omega), rfl, ?_, ?_⟩
  · show 0 + _ + p.2.length ≤ _
    rw [flatten_split hp, Nat.zero_add, List.length_append, List.length_append]; omega
  · rw [flatten_split hp, Nat.zero_add, List.drop_left, List.take_left]

theorem storeAll_eq (env : Env) (o : Opts) (bl : List (BBlock × Bytes)) (i : Nat) :
    storeAll env o i bl = (bl.zipIdx i).map fun x => (x.1.1.baseKey, storeBlock env o x.2 x.1.2) := by
  induction bl generalizing i with
  | nil => rfl
  | cons x rest ih => obtain ⟨bb, bytes⟩ := x; simp [storeAll, ih]

theorem storeAll_get (env : Env) (o : Opts) (bl : List (BBlock × Bytes)) (i j : Nat) (q : BBlock × Bytes)
    (h : bl[j]? = some q) : (storeAll env o i bl)[j]? = some (q.1.baseKey, storeBlock env o (i + j) q.2) := by
  simp [storeAll_eq, h]

theorem storeAll_length (env : Env) (o : Opts) (bl : List (BBlock × Bytes)) (i : Nat) :
    (storeAll env o i bl).length = bl.length := by
  simp [storeAll_eq]

def entriesSize (es : List Entry) : Nat :=
  (es.map (fun e => 4 + e.key.length + (encVS e.vs).length)).sum

theorem entryChunk_length_le (base : Bytes) (e : Entry) :
    (entryChunk base e).length ≤ 4 + e.key.length + (encVS e.vs).length := by
  unfold entryChunk
  simp only [List.length_append, hdr_length]
  split
  · omega
  · have : (keyDiff e.key base).length ≤ e.key.length := by simp [keyDiff]
    omega

theorem flatten_map_length_le {α : Type} (l : List α) (f : α → Bytes) (g : α → Nat)
    (h : ∀ x, (f x).length ≤ g x) : (l.map f).flatten.length ≤ (l.map g).sum := by
  induction l with
  | nil => simp
  | cons x xs ih =>
    have := h x
    simp only [List.map_cons, List.flatten_cons, List.length_append, List.sum_cons]
    omega

theorem blockData_length_le (g : List Entry) : (blockData g).length ≤ entriesSize g := by
  cases g with
  | nil => simp [blockData, chunks]
  | cons e0 r =>
    have h0 := entryChunk_length_le [] e0
    have := flatten_map_length_le r (entryChunk e0.key) _ (entryChunk_length_le e0.key)
    simp only [blockData, chunks, List.flatten_cons, List.length_append, entriesSize, List.map_cons,
      List.sum_cons]
    omega

theorem entriesSize_append (a b : List Entry) : entriesSize (a ++ b) = entriesSize a + entriesSize b := by
  simp [entriesSize]

theorem entriesSize_mem_flatten {G : List (List Entry)} {g : List Entry} (h : g ∈ G) :
    entriesSize g ≤ entriesSize G.flatten ∧ g.length ≤ G.flatten.length := by
  induction G with
  | nil => simp at h
  | cons x xs ih =>
    simp only [List.flatten_cons, entriesSize_append, List.length_append]
    rcases List.mem_cons.mp h with h | h
    · subst h; omega
    · have := ih h; omega

theorem parse_specBlock (cksum : Bytes → Bytes) (verify : Bytes → Bytes → Bool) (chk : Bool)
    (hv : ∀ d, verify d (cksum d) = true) (es : List Entry)
    (hsize : ((specBlock es).finish cksum).length < 4294967296) :
    (blockData es).length < 4294967296 ∧
    ∃ b, parseBlock chk verify ((specBlock es).finish cksum) = .ok b ∧
      slice b.data 0 b.entriesIndexStart = some (blockData es) ∧ b.entryOffsets = blockOffs es ∧
      verify b.data b.checksum = true := by
  rw [finish_length] at hsize
  have hdl : (blockData es).length < 4294967296 := by
    have e2 : (specBlock es).data.length = (blockData es).length := rfl
    omega
  refine ⟨hdl, _, parseBlock_parts chk verify (specBlock es).data (u32sLE (specBlock es).entryOffsets) _ _ _
    (specBlock es).entryOffsets.length (beBytes_length ..) (beBytes_length ..) ?_ ?_ ?_ (hv _), ?_,
    (bytesToU32s_u32sLE _ fun x hx => ?_).trans (blockOffs_map_u32 es hdl), hv _⟩
  · rw [u32_of_lt (by omega)]; exact beNat_beBytes4 _ (by omega)
  · rw [u32sLE_length, Nat.mul_comm]
  · rw [u32_of_lt (by omega)]; exact beNat_beBytes4 _ (by omega)
  · rw [List.append_assoc]; exact slice_prefix _ _ _ rfl
  · obtain ⟨y, _, rfl⟩ := List.mem_map.mp hx
    exact Nat.mod_lt _ (by decide)

/-- `Table.block(j)` undoes `handleBlock`. -/
theorem block_of_stored {env : Env} (hl : env.Lawful) (t : TableCore) (j : Nat) (ko : BlockOffset)
    (bytes : Bytes) (hko : t.file.index.offsets[j]? = some ko)
    (hbound : ko.offset + ko.len ≤ t.file.data.length)
    (hraw : (t.file.data.drop ko.offset).take ko.len = storeBlock env t.o j bytes) :
    t.block env (j : Int) = parseBlock (t.o.chkMode == 2 || t.o.chkMode == 3) env.verify bytes := by
  have h1 : ¬ ((j : Int) < 0) := by omega
  have h2 : ¬ (j ≥ t.offsetsLength) := Nat.not_le.mpr (lt_of_getElem?_some hko)
  have h3 : ¬ (ko.offset > t.file.data.length) := by omega
  have h4 : ¬ (t.file.data.length - ko.offset < ko.len) := by omega
  have h16 : ∀ b, ¬ ((env.enc j b).length < 16) := fun b => Nat.not_lt.mpr (hl.enc_len j b)
  unfold TableCore.block
  simp only [h1, if_false, Int.toNat_natCast, h2, hko, h3, h4, hraw, storeBlock]
  cases t.o.encrypt <;> cases t.o.compress <;> simp [h16, hl.dec_enc, hl.decomp_comp]

theorem stored_tableOK {env : Env} (hl : env.Lawful) {o : Opts} {G : List (List Entry)} {tf : TableFile}
    (K : Nat) (hK : ∀ d, (env.cksum d).length ≤ K)
    (hne : ∀ g ∈ G, g ≠ []) (hkeys : ∀ g ∈ G, ∀ e ∈ g, e.key ≠ [] ∧ e.key.length ≤ 65531)
    (hraw : entriesSize G.flatten + 4 * G.flatten.length + 8 + K < 4294967296)
    {st : List (Bytes × Bytes)} (hst : st = storeAll env o 0 (G.map (finishedOf env)))
    (hd : tf.data = (st.map (·.2)).flatten) (hoff : tf.index.offsets = blockOffsets 0 st)
    (hdata : tf.data.length < 4294967296) :
    TableOK env ⟨o, tf⟩ G := by
  have hidx : ∀ (j : Nat) g, G[j]? = some g →
      ∃ ko, tf.index.offsets[j]? = some ko ∧ ko.key = baseOf g ∧ ko.offset + ko.len ≤ tf.data.length ∧
        (tf.data.drop ko.offset).take ko.len = storeBlock env o j ((specBlock g).finish env.cksum) := by
    intro j g hg
    have hj : st[j]? = some (baseOf g, storeBlock env o (0 + j) ((specBlock g).finish env.cksum)) :=
      hst ▸ storeAll_get env o _ 0 j _ (show (G.map (finishedOf env))[j]? = _ by rw [List.getElem?_map, hg]; rfl)
    rw [hd] at hdata ⊢
    rw [hoff]
    rw [Nat.zero_add] at hj
    exact blockOffsets_get _ j _ hj hdata
  have hfin : ∀ g ∈ G, ((specBlock g).finish env.cksum).length < 4294967296 := by
    intro g hg
    have hsz := entriesSize_mem_flatten hg
    have hbd := blockData_length_le g
    have hc := hK ((specBlock g).data ++ u32sLE (specBlock g).entryOffsets ++
      beBytes (u32 (specBlock g).entryOffsets.length) 4)
    have e1 : (specBlock g).entryOffsets.length = g.length := specBlock_offs_length g
    have e2 : (specBlock g).data.length = (blockData g).length := rfl
    rw [finish_length]; omega
  refine ⟨?_, ?_, ?_, ?_⟩
  · simp [TableCore.offsetsLength, hoff, hst, blockOffsets_length, storeAll_length]
  · intro j g hg
    obtain ⟨ko, hko, _, hbound, hraw'⟩ := hidx j g hg
    rw [block_of_stored hl _ j ko _ hko hbound hraw']
    exact (parse_specBlock env.cksum env.verify _ hl.verify_cksum g
      (hfin g (List.mem_of_getElem? hg))).2
  · intro j g hg
    obtain ⟨ko, hko, hkey, _⟩ := hidx j g hg
    exact ⟨ko, hko, hkey⟩
  · intro g hg
    refine ⟨?_, fun e he => (hkeys g hg e he).2,
      (parse_specBlock env.cksum env.verify true hl.verify_cksum g (hfin g hg)).1⟩
    obtain ⟨e0, r, rfl⟩ := List.exists_cons_of_ne_nil (hne g hg)
    exact (hkeys _ hg e0 (by simp)).1

theorem builderInv_init (env : Env) : BuilderInv env {} [] [] :=
  ⟨rfl, rfl, by simp, Or.inl rfl, rfl, rfl⟩

theorem done_eq {env : Env} {o : Opts} {b : Builder} {tf : TableFile} (hd : b.done env o = some tf) :
    tf.data = ((storeAll env o 0 (b.finishBlock env).blockList).map (·.2)).flatten ∧
    tf.index.offsets = blockOffsets 0 (storeAll env o 0 (b.finishBlock env).blockList) ∧
    tf.index.keyCount = u32 (b.finishBlock env).keyHashes.length ∧
    tf.index.maxVersion = (b.finishBlock env).maxVersion ∧
    tf.index.bloom = (if o.bloom then env.mkFilter (b.finishBlock env).keyHashes else []) := by
  unfold Builder.done at hd
  simp only at hd
  split at hd
  · cases hd
  · cases hd
    exact ⟨rfl, rfl, rfl, rfl, rfl⟩

theorem build_tableOK {env : Env} (hl : env.Lawful) {o : Opts} {es : List Entry} {tf : TableFile}
    (K : Nat) (hK : ∀ d, (env.cksum d).length ≤ K) (hne : es ≠ [])
    (hkeys : ∀ e ∈ es, e.key ≠ [] ∧ e.key.length ≤ 65531)
    (hraw : entriesSize es + 4 * es.length + 8 + K < 4294967296)
    (hb : buildTable env o es = some (some tf)) (hdata : tf.data.length < 4294967296) :
    TableOK env ⟨o, tf⟩ (cutFrom o [] es) ∧
      tf.index.keyCount = u32 es.length ∧ tf.index.maxVersion = maxVersionOf es ∧
      tf.index.bloom = (if o.bloom then env.mkFilter (es.map (fun e => env.hash (parseKey e.key))) else []) := by
  unfold buildTable at hb
  cases hadd : Builder.addAll env o {} es with
  | none => simp [hadd] at hb
  | some b =>
    simp only [hadd, Option.some.injEq] at hb
    have inv := addAll_inv es (builderInv_init env) (fun e he => (hkeys e he).1) (Or.inr hne) hadd
    have hG := cutFrom_flatten o es []
    rw [List.nil_append] at inv hG
    have hkeys' : ∀ g ∈ cutFrom o [] es, ∀ e ∈ g, e.key ≠ [] ∧ e.key.length ≤ 65531 :=
      fun g hg e he => hkeys e (hG ▸ List.mem_flatten.mpr ⟨g, hg, he⟩)
    obtain ⟨hd, hoff, h1, h2, h3⟩ := done_eq hb
    have hok := stored_tableOK hl K hK inv.done_ne hkeys' (by rw [hG]; exact hraw) (congrArg _ inv.blocks) hd hoff hdata
    have hkh : (b.finishBlock env).keyHashes = es.map (fun e => env.hash (parseKey e.key)) := by
      rw [← hG, ← List.append_nil (cutFrom o [] es).flatten]; exact inv.hashes
    have hmv : (b.finishBlock env).maxVersion = maxVersionOf es := by
      rw [← hG, ← List.append_nil (cutFrom o [] es).flatten]; exact inv.maxv
    exact ⟨hok, by rw [h1, hkh, List.length_map], by rw [h2, hmv], by rw [h3, hkh]⟩

theorem addEntry_total (cur : BBlock) (key : Bytes) (v : VS) (hk : key.length ≤ 65531) :
    ∃ c, cur.addEntry key v = some c := by
  unfold BBlock.addEntry
  have h1 : (if cur.baseKey.length = 0 then key else keyDiff key cur.baseKey).length ≤ key.length := by
    split
    · exact Nat.le_refl _
    · simp [keyDiff]
  have h2 : key.length - (if cur.baseKey.length = 0 then key else keyDiff key cur.baseKey).length ≤ 65535 := by omega
  have h3 : (if cur.baseKey.length = 0 then key else keyDiff key cur.baseKey).length ≤ 65535 := by omega
  simp only [h2, h3, not_true_eq_false, if_false]
  exact ⟨_, rfl⟩

theorem addHelper_total (env : Env) (b : Builder) (key : Bytes) (v : VS) (vpLen : Nat)
    (hk : key.length ≤ 65531) : ∃ b', b.addHelper env key v vpLen = some b' := by
  unfold Builder.addHelper
  obtain ⟨c, hc⟩ := addEntry_total b.cur key v hk
  rw [hc]
  exact ⟨_, rfl⟩

/-- Every `uint32` estimate is at most the exact sum. -/
theorem shouldFinishBlock_total (blockSize : Nat) (encrypt : Bool) (cur : BBlock) (key : Bytes) (v : VS)
    (h : 2 * cur.data.length + key.length + encodedSize v + 4 * cur.entryOffsets.length + 64 < 4294967296) :
    ∃ r, shouldFinishBlock blockSize encrypt cur key v = some r := by
  unfold shouldFinishBlock
  split
  · exact ⟨_, rfl⟩
  · split
    · rename_i h1
      have := u32_le ((u32 cur.entryOffsets.length + 1) * 4 + 4 + 8 + 4)
      have := u32_le cur.entryOffsets.length
      omega
    · extract_lets eos est est'
      split
      · rename_i h2
        have e1 := u32_le ((cur.entryOffsets.length + 1) * 4 + 4 + 8 + 4)
        have e2 := u32_le cur.data.length
        have e3 := u32_le key.length
        have e4 := u32_le (u32 cur.data.length + 6 + u32 key.length + encodedSize v + eos)
        have e5 : est' ≤ est + 16 := by
          show (if encrypt = true then u32 (est + 16) else est) ≤ est + 16
          split
          · exact u32_le _
          · exact Nat.le_add_right _ _
        have : est ≤ u32 cur.data.length + 6 + u32 key.length + encodedSize v + eos := e4
        have : eos ≤ (cur.entryOffsets.length + 1) * 4 + 4 + 8 + 4 := e1
        omega
      · exact ⟨_, rfl⟩

theorem add_total {env : Env} {o : Opts} {b : Builder} {done : List (List Entry)} {cur : List Entry}
    (inv : BuilderInv env b done cur) (e : Entry) (hk : e.key.length ≤ 65531)
    (hsz : 2 * entriesSize cur + (4 + e.key.length + (encVS e.vs).length) + 4 * cur.length + 64 < 4294967296) :
    ∃ b', b.add env o e.key e.vs 0 = some b' := by
  unfold Builder.add
  simp only [Bool.false_eq_true, if_false]
  have hdl : b.cur.data.length ≤ entriesSize cur := by
    rw [inv.cur_eq]; exact blockData_length_le cur
  have hn : b.cur.entryOffsets.length = cur.length := by rw [inv.cur_eq, specBlock_offs_length]
  have hes : encodedSize e.vs ≤ (encVS e.vs).length := by
    unfold encodedSize encVS
    have := u32_le (e.vs.value.length + 2 + (putUvarint e.vs.expiresAt).length)
    simp only [List.length_cons, List.length_append]
    omega
  obtain ⟨r, hr⟩ := shouldFinishBlock_total o.blockSize o.encrypt b.cur e.key e.vs (by omega)
  rw [hr]
  cases r <;> exact addHelper_total env _ _ _ _ hk

theorem addAll_total {env : Env} {o : Opts} : ∀ (es : List Entry) {b : Builder}
    {done : List (List Entry)} {cur : List Entry},
    BuilderInv env b done cur → (∀ e ∈ es, e.key ≠ [] ∧ e.key.length ≤ 65531) →
    2 * entriesSize (done.flatten ++ cur ++ es) + 4 * (done.flatten ++ cur ++ es).length + 64 < 4294967296 →
    ∃ b', Builder.addAll env o b es = some b' := by
  intro es
  induction es with
  | nil => intro b done cur _ _ _; exact ⟨b, rfl⟩
  | cons e es ih =>
    intro b done cur inv hk hsz
    simp only [Builder.addAll]
    obtain ⟨b1, hadd⟩ := add_total (o := o) inv e (hk e (by simp)).2 (by
      simp only [entriesSize, List.map_append, List.sum_append, List.map_cons, List.sum_cons,
        List.length_append, List.length_cons] at hsz ⊢
      omega)
    rw [hadd]
    obtain ⟨fin, _, inv1⟩ := add_inv inv e (hk e (by simp)).1 hadd
    exact ih inv1 (fun x hx => hk x (by simp [hx])) (by cases fin <;> simpa using hsz)

end Badger.Tbl
