import BadgerProofs.Props.C29
import BadgerProofs.Props.C01
/-!
# Reads across a compaction: the recency invariant `Layered` unpacked over the read sources (`layeredX_iff`),
and why a compaction preserves every read at `ts ≥ discardTs`: around it the state reads like
`upperEnts ++ inputEnts ++ lowerEnts` (`compact_view`; the only place where positions in the list of levels occur),
the compaction puts the filtered merge in place of `inputEnts`, and the filter's read theorem `filter_reads_core`
(resting on `C29_filter_other_keys_refined` of Props/C29.lean) needs of the surroundings only two membership facts
(`lower_no_key`, `upper_recL`). At the end: what a write (`Lsm.putEnt`) and a re-ordering of level 0 do to
recency, to uniqueness of internal keys and to reads, and the read sources after the flush of all memtables
(`Lsm.flushAll`, `chunks_flushAll`; without immutable memtables it is the model's `flush`, `LL.flushAll_eq_flush`).

Defined at the head of the file, and used by the statements of Props/C12, C14, C15 and the reach files:
`TblsDistinct`, `KeyVerUnique`, `TblsFun` (an internal key determines the entry: between L0 tables, in the whole
store, within tables; `LL.KVFun` of Lemmas/Sorted.lean is the list form), `Lsm.putEnt` (one committed entry put into
the memtable), `LayeredX` (recency across sources with L0 as one source), `TopsOldest` (the side condition of
L0 → Lbase); further down, for the proofs, `RecL`, `L0Aged`, the stream `cdMerged` of a compaction without
`dropPrefixes` (then it is `PF.mergedV`: `mergedV_eq`), and the three parts of the view.
-/
namespace Badger

/-- no internal key occurs in two different tables -/
def TblsDistinct (l : List Tbl) : Prop :=
  l.Pairwise (fun a b => ∀ x ∈ a.ents, ∀ y ∈ b.ents, x.key = y.key → x.ver ≠ y.ver)

instance (l : List Tbl) : Decidable (TblsDistinct l) := by unfold TblsDistinct; infer_instance

/-- an internal key (user key, version) determines the entry across the whole store: two stored
    copies of the same internal key are identical. Holds in non-managed mode (commit timestamps are
    unique and a transaction writes a key once); F2 is exactly a violation of it. -/
def KeyVerUnique (s : Lsm) : Prop := LL.KVFun s.allEntries

instance (s : Lsm) : Decidable (KeyVerUnique s) := by unfold KeyVerUnique LL.KVFun; infer_instance

/-- within these tables an internal key determines the entry (two copies of `key@ver` are equal) -/
def TblsFun (l : List Tbl) : Prop :=
  ∀ a ∈ l, ∀ b ∈ l, ∀ x ∈ a.ents, ∀ y ∈ b.ents, x.key = y.key → x.ver = y.ver → x = y

instance (l : List Tbl) : Decidable (TblsFun l) := by unfold TblsFun; infer_instance

/-- the write path's effect on the LSM state: `memPut` of one committed entry (`Db.commit` folds
    this over the entries of a transaction) -/
def Lsm.putEnt (s : Lsm) (e : Ent) : Lsm := { s with mem := memPut e s.mem }

namespace LL

/-- recency ACROSS sources with level 0 regarded as ONE source: what survives an L0 → L0 compaction
    (which merges an arbitrary subset of L0 and re-sorts the level by `Smallest`). `LL.chunks s` =
    memtable, immutables newest first, all of L0, L1, L2, … -/
def _root_.Badger.LayeredX (s : Lsm) : Prop :=
  (chunks s).Pairwise (fun A B => ∀ a ∈ A, ∀ b ∈ B, a.key = b.key → b.ver ≤ a.ver)

instance (s : Lsm) : Decidable (LayeredX s) := by unfold LayeredX; infer_instance

/-- the tables left on the level of the tops hold, for every user key of the tops, only versions at
    least as new. Automatic for an L0 → Lbase compaction of the OLDEST tables of an age-ordered L0
    (`topsOldest_of_layered`); after an L0 → L0 compaction has re-sorted L0 by `Smallest` it is a
    genuine (decidable) side condition of L0 → Lbase. -/
def _root_.Badger.TopsOldest (s : Lsm) (cd : CompactDef) : Prop :=
  ∀ t ∈ removeIdx (cdThisT s cd) cd.top, ∀ x ∈ t.ents, ∀ t' ∈ cdTops s cd, ∀ e ∈ t'.ents,
    x.key = e.key → e.ver ≤ x.ver

instance (s : Lsm) (cd : CompactDef) : Decidable (TopsOldest s cd) := by unfold TopsOldest; infer_instance

def memEnts (s : Lsm) : List Ent := s.mem ++ s.imm.reverse.flatten

theorem allEntries_eq (s : Lsm) : s.allEntries = memEnts s ++ (lchunks s.levels).flatten := by
  rw [← chunks_flatten, chunks_eq, List.flatten_append, List.flatten_cons]
  rfl

theorem lchunks_set (ls : List (List Tbl)) (j : Nat) (x : List Tbl) :
    lchunks (ls.set j x) = (lchunks ls).set j (lvlChunk j x) := by
  apply List.ext_getElem?
  intro i
  simp only [lchunks, List.getElem?_mapIdx, List.getElem?_set, List.length_mapIdx]
  by_cases h : j = i
  · subst h; by_cases hj : j < ls.length <;> simp [hj]
  · simp [h]

theorem getElem_lchunks {ls : List (List Tbl)} {j : Nat} (hj : j < ls.length) :
    (lchunks ls)[j]'(by simpa [lchunks] using hj) = lvlChunk j ls[j] := by
  simp [lchunks]

theorem mem_lchunks_take {s : Lsm} {q : Nat} {x : Ent} :
    x ∈ ((lchunks s.levels).take q).flatten ↔ ∃ i, i < q ∧ InLevel s i x := by
  rw [List.mem_flatten]
  constructor
  · rintro ⟨c, hc, hx⟩
    obtain ⟨i, hi⟩ := List.mem_iff_getElem?.mp hc
    rw [List.getElem?_take] at hi
    split at hi
    · exact ⟨i, ‹_›, inLevel_iff.mpr ⟨c, hi, hx⟩⟩
    · cases hi
  · rintro ⟨i, hi, h⟩
    obtain ⟨c, hc, hx⟩ := inLevel_iff.mp h
    exact ⟨c, List.mem_iff_getElem?.mpr ⟨i, by rw [List.getElem?_take, if_pos hi, hc]⟩, hx⟩

theorem mem_lchunks_drop {s : Lsm} {q : Nat} {x : Ent} (hx : x ∈ ((lchunks s.levels).drop q).flatten) :
    ∃ i, q ≤ i ∧ InLevel s i x := by
  obtain ⟨c, hc, hx⟩ := List.mem_flatten.mp hx
  obtain ⟨i, hi⟩ := List.mem_iff_getElem?.mp hc
  rw [List.getElem?_drop] at hi
  exact ⟨q + i, Nat.le_add_right q i, inLevel_iff.mpr ⟨c, hi, hx⟩⟩

theorem levels_split {ls : List (List Tbl)} {j : Nat} (hj : j < ls.length) :
    ls = ls.take j ++ ls[j] :: ls.drop (j + 1) := by
  rw [← List.drop_eq_getElem_cons hj, List.take_append_drop]

def RecL (A B : List Ent) : Prop := ∀ a ∈ A, ∀ b ∈ B, a.key = b.key → b.ver ≤ a.ver

theorem mem_memEnts {s : Lsm} {x : Ent} : x ∈ memEnts s ↔ ∃ m ∈ s.mem :: s.imm.reverse, x ∈ m := by
  unfold memEnts
  rw [← List.flatten_cons, List.mem_flatten]

theorem recL_flatten_left {As : List (List Ent)} {B : List Ent} :
    RecL As.flatten B ↔ ∀ A ∈ As, RecL A B := by
  simp only [RecL, List.mem_flatten]
  exact ⟨fun h A hA a ha => h a ⟨A, hA, ha⟩, fun h a ⟨A, hA, ha⟩ => h A hA a ha⟩

theorem recL_flatten_right {A : List Ent} {Bs : List (List Ent)} :
    RecL A Bs.flatten ↔ ∀ B ∈ Bs, RecL A B := by
  simp only [RecL, List.mem_flatten]
  exact ⟨fun h B hB a ha b hb => h a ha b ⟨B, hB, hb⟩, fun h a ha b ⟨B, hB, hb⟩ => h B hB a ha b hb⟩

theorem layeredX_def (s : Lsm) : LayeredX s ↔ (chunks s).Pairwise RecL := Iff.rfl

theorem layeredX_iff (s : Lsm) : LayeredX s ↔
    (s.mem :: s.imm.reverse).Pairwise RecL ∧
    (∀ x ∈ memEnts s, ∀ i e, InLevel s i e → x.key = e.key → e.ver ≤ x.ver) ∧
    (∀ i i' x e, i < i' → InLevel s i x → InLevel s i' e → x.key = e.key → e.ver ≤ x.ver) := by
  rw [layeredX_def, chunks_eq, List.pairwise_append, and_comm (b := ∀ a ∈ _, _)]
  refine and_congr Iff.rfl (and_congr ?_ ?_)
  · constructor
    · intro h x hx i e he hk
      obtain ⟨m, hm, hxm⟩ := mem_memEnts.mp hx
      obtain ⟨c, hc, hec⟩ := inLevel_iff.mp he
      exact h m hm c (List.mem_of_getElem? hc) x hxm e hec hk
    · intro h m hm c hc x hx e he hk
      obtain ⟨i, hi⟩ := List.mem_iff_getElem?.mp hc
      exact h x (mem_memEnts.mpr ⟨m, hm, hx⟩) i e (inLevel_iff.mpr ⟨c, hi, he⟩) hk
  · rw [List.pairwise_iff_getElem]
    constructor
    · intro h i i' x e hlt hx he
      obtain ⟨c, hc, hxc⟩ := inLevel_iff.mp hx
      obtain ⟨c', hc', hec⟩ := inLevel_iff.mp he
      obtain ⟨h1, rfl⟩ := List.getElem?_eq_some_iff.mp hc
      obtain ⟨h2, rfl⟩ := List.getElem?_eq_some_iff.mp hc'
      exact h i i' h1 h2 hlt x hxc e hec
    · intro h i i' h1 h2 hlt x hx e he
      exact h i i' x e hlt (inLevel_iff.mpr ⟨_, List.getElem?_eq_getElem h1, hx⟩)
        (inLevel_iff.mpr ⟨_, List.getElem?_eq_getElem h2, he⟩)

/-- level 0 is in age order: a table with a higher index holds, per key, only versions `≥` those of
    a table with a lower index -/
def L0Aged (s : Lsm) : Prop :=
  ∀ (l0 : List Tbl) (j j' : Nat) (a b : Tbl), s.levels[0]? = some l0 → l0[j]? = some a → l0[j']? = some b →
    j' < j → RecL a.ents b.ents

/-- `sources` lists the tables of level 0 one by one where `chunks` has their concatenation: recency
    along `sources` is recency along `chunks` plus recency among the level-0 tables -/
theorem layered_iff_X (s : Lsm) : Layered s ↔ LayeredX s ∧ L0Aged s := by
  have hL : Layered s ↔ s.sources.Pairwise RecL := Iff.rfl
  rw [hL, layeredX_def]
  unfold Lsm.sources chunks L0Aged
  cases hl : s.levels with
  | nil => simp
  | cons l0 rest =>
    have h0 : (∀ (l : List Tbl) (j j' : Nat) (a b : Tbl), (l0 :: rest)[0]? = some l → l[j]? = some a →
        l[j']? = some b → j' < j → RecL a.ents b.ents) ↔ (l0.reverse.map (·.ents)).Pairwise RecL := by
      rw [List.pairwise_map, List.pairwise_reverse, List.pairwise_iff_getElem]
      constructor
      · intro h j' j hj' hj hlt
        exact h l0 j j' _ _ rfl (List.getElem?_eq_getElem hj) (List.getElem?_eq_getElem hj') hlt
      · intro h l j j' a b hl0 hj hj' hlt
        obtain rfl : l0 = l := by simpa using hl0
        obtain ⟨hj1, rfl⟩ := List.getElem?_eq_some_iff.mp hj
        obtain ⟨hj1', rfl⟩ := List.getElem?_eq_some_iff.mp hj'
        exact h j' j hj1' hj1 hlt
    rw [h0]
    simp only [List.pairwise_append, List.pairwise_cons, List.mem_append, List.mem_cons, recL_flatten_left]
    constructor
    · rintro ⟨p1, ⟨p2, p3, p4⟩, p5⟩
      refine ⟨⟨p1, ⟨fun r hr a ha => p4 a ha r hr, p3⟩, ?_⟩, p2⟩
      rintro m hm c (rfl | hc)
      · exact recL_flatten_right.mpr fun a ha => p5 m hm a (.inl ha)
      · exact p5 m hm c (.inr hc)
    · rintro ⟨⟨p1, ⟨p2, p3⟩, p4⟩, p5⟩
      refine ⟨p1, ⟨p5, p3, fun a ha r hr => p2 r hr a ha⟩, ?_⟩
      rintro m hm c (hc | hc)
      · exact recL_flatten_right.mp (p4 m hm _ (.inl rfl)) c hc
      · exact p4 m hm c (.inr hc)

theorem layeredX_of_layered {s : Lsm} (h : Layered s) : LayeredX s := ((layered_iff_X s).mp h).1

theorem layeredX_mem_level {s : Lsm} (h : LayeredX s) {x e : Ent} {i : Nat} (hx : x ∈ memEnts s)
    (he : InLevel s i e) (hk : x.key = e.key) : e.ver ≤ x.ver :=
  ((layeredX_iff s).mp h).2.1 x hx i e he hk

theorem layeredX_levels {s : Lsm} (h : LayeredX s) {x e : Ent} {i i' : Nat} (hlt : i < i') (hx : InLevel s i x)
    (he : InLevel s i' e) (hk : x.key = e.key) : e.ver ≤ x.ver :=
  ((layeredX_iff s).mp h).2.2 i i' x e hlt hx he hk

/-- what the compaction merges: the tops (L0: newest first) then the bottom run -/
def cdMerged (s : Lsm) (cd : CompactDef) : List Ent :=
  mergeAll ((if cd.thisLevel == 0 then (cdTops s cd).reverse.map (·.ents) else (cdTops s cd).map (·.ents)) ++
    [botEnts s cd])

/-- without `dropPrefixes` the `keepTable` test skips no bottom table: this is the stream `PF.mergedV` -/
theorem mergedV_eq {s : Lsm} {cd : CompactDef} (hdp : cd.dropPrefixes = []) : PF.mergedV s cd = cdMerged s cd := by
  unfold PF.mergedV cdMerged DG.validEnts botEnts skippedByKeepTable
  rw [hdp]
  simp only [List.any_nil, Bool.not_false]
  rw [List.filter_eq_self.mpr fun _ _ => rfl]

theorem mem_merged {s : Lsm} {cd : CompactDef} {e : Ent} (he : e ∈ cdMerged s cd) :
    e ∈ topEnts s cd ∨ e ∈ botEnts s cd := mem_mergeSrcs he

def keptEnts (s : Lsm) (cd : CompactDef) : List Ent :=
  ((removeIdx (cdNextT s cd) (takenIdx cd)).map (·.ents)).flatten

theorem mem_keptEnts {s : Lsm} {cd : CompactDef} {e : Ent} :
    e ∈ keptEnts s cd ↔ ∃ t ∈ removeIdx (cdNextT s cd) (takenIdx cd), e ∈ t.ents := mem_flatten_ents

theorem mem_newNext {s : Lsm} {cd : CompactDef} {d n now : Nat} {new0 : List Tbl}
    (hsp : splitSizes cd.outSizes (compactOutput s cd d n now).1 = some new0) {i : Nat} {e : Ent} :
    e ∈ lvlChunk i (newNext s cd new0) ↔ e ∈ (compactOutput s cd d n now).1 ∨ e ∈ keptEnts s cd := by
  rw [mem_lvlChunk, mem_keptEnts, mem_output_iff hsp, newNext]
  simp only [mem_sortBySmallest, List.mem_append, or_and_right, exists_or]
  exact or_comm

theorem nl_next_old {s : Lsm} {cd : CompactDef} (h : LsmInv s) (hc : CompactOk s cd) (hne : cd.thisLevel ≠ cd.nextLevel)
    (hn : 1 ≤ cd.nextLevel) (k : Bytes) (ts : Nat) :
    newestLE (lvlChunk cd.nextLevel (cdNextT s cd)) k ts =
      pick (newestLE (botEnts s cd) k ts) (newestLE (keptEnts s cd) k ts) := by
  apply newestLE_union (lvlChunk_sorted (next_level h hc.1).2 hn)
  · intro e
    rw [mem_lvlChunk, mem_botEnts, mem_keptEnts]
    unfold takenIdx cdBots; rw [if_neg hne]
    exact exists_mem_split _ cd.bot

theorem nl_next_new {s : Lsm} {cd : CompactDef} {d n now : Nat} {new0 : List Tbl} (h : LsmInv s) (hv : VerBound s)
    (hc : CompactOk s cd) (hsp : splitSizes cd.outSizes (compactOutput s cd d n now).1 = some new0)
    (hn : 1 ≤ cd.nextLevel) (k : Bytes) (ts : Nat) :
    newestLE (lvlChunk cd.nextLevel (newNext s cd new0)) k ts =
      pick (newestLE (compactOutput s cd d n now).1 k ts) (newestLE (keptEnts s cd) k ts) := by
  obtain ⟨hok, hpw⟩ := newNext_level h hv hc hsp id (fun a b hab => .inl hab) (new_tables h hc hsp).2
  apply newestLE_union
  · unfold lvlChunk; rw [if_neg (by omega)]
    exact (flatten_sorted_iff _).mpr ⟨fun t ht => (hok t ht).2, hpw hn⟩
  · exact fun e => mem_newNext hsp

theorem nl_this_split {s : Lsm} {cd : CompactDef} (h : LsmInv s) (hc : CompactOk s cd)
    (hne : cd.thisLevel ≠ cd.nextLevel) (k : Bytes) (ts : Nat) :
    newestLE (lvlChunk cd.thisLevel (cdThisT s cd)) k ts =
      pick (newestLE (lvlChunk cd.thisLevel (removeIdx (cdThisT s cd) cd.top)) k ts)
        (newestLE (lvlChunk cd.thisLevel (cdTops s cd)) k ts) := by
  rcases kind_of_ne hc hne with ⟨h0, _, hr, _, _⟩ | h1
  · have htops : cdTops s cd = (cdThisT s cd).take cd.top.length :=
      pickIdx_of_range _ hr (top_range_le hc.1 hr)
    rw [htops, removeIdx_of_range _ hr, h0, ← newestLE_append, ← lvlChunk_zero_append, List.take_append_drop]
  · apply newestLE_union (lvlChunk_sorted (this_level h hc.1).2 h1)
    · intro e
      simp only [mem_lvlChunk]
      unfold cdTops
      rw [exists_mem_split _ cd.top]
      exact or_comm

theorem topsOldest_of_layered {s : Lsm} {cd : CompactDef} (hl : Layered s) (hb : CdBase s cd)
    (hh : IsL0Lbase s cd) : TopsOldest s cd := by
  intro t ht x hx t' ht' e het' hk
  have hthis : s.levels[cd.thisLevel]? = some (cdThisT s cd) := levels_getD hb.1
  obtain ⟨j, hj, hjn⟩ := mem_removeIdx.mp ht
  obtain ⟨j', hj'm, hj'⟩ := mem_pickIdx.mp ht'
  obtain ⟨h0, _, hr, _, _⟩ := hh
  rw [h0] at hthis
  have hlt : j' < j := by
    have h1 : j' < cd.top.length := by rw [hr] at hj'm; simpa using hj'm
    have h2 : ¬ j < cd.top.length := by intro h2; apply hjn; rw [hr]; simpa using h2
    omega
  exact ((layered_iff_X s).mp hl).2 _ j j' t t' hthis hj hj' hlt x hx e het' hk

theorem kle_total (a b : Bytes) : kle a b ∨ kle b a := by
  rcases klt_tri a b with h | h | h
  · exact .inl (kle_of_klt h)
  · subst h; exact .inl (kle_refl _)
  · exact .inr (kle_of_klt h)

/-- a table that stays on the level of the tops holds newer versions (L0, by `TopsOldest`), or shares
    no user key with them (levels `≥ 1`) -/
theorem rem_vs_tops {s : Lsm} {cd : CompactDef} (h : LsmInv s) (hc : CompactOk s cd)
    (hto : cd.thisLevel = 0 → TopsOldest s cd)
    (hne : cd.thisLevel ≠ cd.nextLevel) {t : Tbl} (ht : t ∈ removeIdx (cdThisT s cd) cd.top) {x e : Ent}
    (hx : x ∈ t.ents) (he : e ∈ topEnts s cd) (hk : x.key = e.key) : e.ver ≤ x.ver := by
  obtain ⟨t', ht', het'⟩ := mem_topEnts.mp he
  rcases kind_of_ne hc hne with hh | h1
  · exact hto hh.1 t ht x hx t' ht' e het' hk
  · exact absurd hk.symm (picked_removed_key_ne ((this_level h hc.1).2.2 h1) ht' ht het' hx)

theorem input_level {s : Lsm} {cd : CompactDef} (hb : CdBase s cd) {e : Ent}
    (he : e ∈ topEnts s cd ++ botEnts s cd) :
    (InLevel s cd.thisLevel e ∧ e ∈ topEnts s cd) ∨ (InLevel s cd.nextLevel e ∧ e ∈ botEnts s cd) := by
  rcases List.mem_append.mp he with h1 | h1
  · obtain ⟨t, ht, het⟩ := mem_topEnts.mp h1
    exact .inl ⟨⟨_, t, levels_getD hb.1, tops_mem ht, het⟩, h1⟩
  · obtain ⟨t, ht, het⟩ := mem_botEnts.mp h1
    exact .inr ⟨⟨_, t, levels_getD hb.2.1, bots_mem ht, het⟩, h1⟩

theorem input_mem_allEntries {s : Lsm} {cd : CompactDef} (hb : CdBase s cd) {x : Ent}
    (hx : x ∈ topEnts s cd ++ botEnts s cd) : x ∈ s.allEntries := by
  rcases input_level hb hx with ⟨h1, _⟩ | ⟨h1, _⟩ <;> exact mem_allEntries_of_level h1

theorem mem_next_same {s : Lsm} {cd : CompactDef} (heq : cd.nextLevel = cd.thisLevel) {i : Nat} {e : Ent} :
    e ∈ lvlChunk i (cdNextT s cd) ↔ (e ∈ topEnts s cd ∨ e ∈ botEnts s cd) ∨ e ∈ keptEnts s cd := by
  rw [mem_lvlChunk, mem_topEnts, mem_botEnts, mem_keptEnts]
  unfold takenIdx cdBots cdTops; rw [if_pos heq.symm, ← nextT_eq_thisT (s := s) heq]
  rw [exists_mem_split _ (cd.top ++ cd.bot), pickIdx_append]
  simp only [List.mem_append, or_and_right, exists_or]

theorem nl_next_old_same {s : Lsm} {cd : CompactDef} (heq : cd.nextLevel = cd.thisLevel)
    (hf : KVFun (lvlChunk cd.nextLevel (cdNextT s cd))) (k : Bytes) (ts : Nat) :
    newestLE (lvlChunk cd.nextLevel (cdNextT s cd)) k ts =
      pick (pick (newestLE (lvlChunk cd.thisLevel (cdTops s cd)) k ts) (newestLE (botEnts s cd) k ts))
        (newestLE (keptEnts s cd) k ts) := by
  rw [← newestLE_append]
  apply newestLE_union_kv hf
  intro e
  rw [mem_next_same heq, List.mem_append, mem_lvlChunk, mem_topEnts]

/-- a step that leaves the memtables alone and only moves entries DOWN keeps recency, provided each moved entry
    is no newer than what stays, after the step, on the levels it passes -/
theorem layeredX_of_origin {s s' : Lsm} (hm : s'.mem = s.mem) (hi : s'.imm = s.imm) (hl : LayeredX s)
    (horig : ∀ {j : Nat} {x : Ent}, InLevel s' j x → ∃ i, i ≤ j ∧ InLevel s i x ∧
      ∀ i' y, i ≤ i' → i' < j → InLevel s' i' y → y.key = x.key → x.ver ≤ y.ver) : LayeredX s' := by
  obtain ⟨p1, p2, p3⟩ := (layeredX_iff s).mp hl
  have hme : memEnts s' = memEnts s := by unfold memEnts; rw [hm, hi]
  rw [layeredX_iff, hm, hi, hme]
  refine ⟨p1, ?_, ?_⟩
  · intro x hx j e he hk
    obtain ⟨i, _, h1, _⟩ := horig he
    exact p2 x hx i e h1 hk
  · intro j j' x e hlt hx he hk
    obtain ⟨i', _, g, hpass⟩ := horig he
    by_cases hc : i' ≤ j
    · exact hpass j x hc hlt hx hk
    · obtain ⟨i, _, f, _⟩ := horig hx
      exact p3 i i' x e (by omega) f g hk

/-- appending a table newer than all of `l0` keeps every table from index `m` on newer than the
    tables before it -/
theorem aged_append {l0 : List Tbl} {m : Nat} {t : Tbl}
    (haged : ∀ (j j' : Nat) (a b : Tbl), j' < j → m ≤ j → l0[j]? = some a → l0[j']? = some b →
      RecL a.ents b.ents)
    (hnew : ∀ b ∈ l0, RecL t.ents b.ents) (j j' : Nat) (a b : Tbl) (hlt : j' < j) (hmj : m ≤ j)
    (hj : (l0 ++ [t])[j]? = some a) (hj' : (l0 ++ [t])[j']? = some b) : RecL a.ents b.ents := by
  have hjl := (List.getElem?_eq_some_iff.mp hj).1
  simp at hjl
  rw [List.getElem?_append_left (by omega)] at hj'
  by_cases hjl0 : j < l0.length
  · rw [List.getElem?_append_left hjl0] at hj
    exact haged j j' a b hlt hmj hj hj'
  · obtain rfl : j = l0.length := by omega
    simp at hj; subst hj
    exact hnew b (List.mem_of_getElem? hj')

/-- the tables of the upper level that stay there (none when one level is rewritten in place) -/
def remThis (s : Lsm) (cd : CompactDef) : List Tbl :=
  if cd.thisLevel = cd.nextLevel then [] else removeIdx (cdThisT s cd) cd.top

/-- what a read searches before the inputs of the compaction: memtables, the levels above, the tables left on
    the upper level -/
def upperEnts (s : Lsm) (cd : CompactDef) : List Ent :=
  memEnts s ++ (((lchunks s.levels).take cd.thisLevel).flatten ++ lvlChunk cd.thisLevel (remThis s cd))

/-- the inputs in read order: the top tables, then the bottom run -/
def inputEnts (s : Lsm) (cd : CompactDef) : List Ent := lvlChunk cd.thisLevel (cdTops s cd) ++ botEnts s cd

/-- what a read searches after the inputs: the tables kept on the lower level, then the levels below -/
def lowerEnts (s : Lsm) (cd : CompactDef) : List Ent :=
  keptEnts s cd ++ ((lchunks s.levels).drop (cd.nextLevel + 1)).flatten

/-- one level rewritten in place, on which an internal key determines the entry -/
theorem view_same {s s' : Lsm} {cd : CompactDef} {d n now' : Nat}
    (hs : s.compact cd d n now' = some s') (hq : cd.nextLevel < s.levels.length)
    (heq : cd.nextLevel = cd.thisLevel) (hf : KVFun (lvlChunk cd.nextLevel (cdNextT s cd))) (k : Bytes) (ts : Nat) :
    newestLE s.allEntries k ts = newestLE (upperEnts s cd ++ (inputEnts s cd ++ lowerEnts s cd)) k ts ∧
    newestLE s'.allEntries k ts =
      newestLE (upperEnts s cd ++ ((compactOutput s cd d n now').1 ++ lowerEnts s cd)) k ts := by
  obtain ⟨new0, hsp, rfl⟩ := compact_same_level heq hs
  have hq' : cd.nextLevel < (lchunks s.levels).length := by simpa [lchunks] using hq
  have hnewL : newestLE (lvlChunk cd.nextLevel (newNext s cd new0)) k ts =
      pick (newestLE (compactOutput s cd d n now').1 k ts) (newestLE (keptEnts s cd) k ts) :=
    newestLE_union_kv (kvFun_subset hf fun e he =>
      (mem_next_same heq).mpr (((mem_newNext hsp).mp he).imp_left mem_compactOutput)) (fun _ => mem_newNext hsp) k ts
  have hmem : memEnts ({ s with levels := s.levels.set cd.nextLevel (newNext s cd new0) } : Lsm) = memEnts s := rfl
  have hrem : lvlChunk cd.thisLevel (remThis s cd) = [] := by
    unfold remThis; rw [if_pos heq.symm]; simp [lvlChunk]
  unfold upperEnts inputEnts lowerEnts
  rw [hrem, allEntries_eq, allEntries_eq, hmem]
  simp only
  rw [lchunks_set, flatten_set hq', flatten_split (List.getElem?_eq_getElem hq'), getElem_lchunks hq, nextT_eq hq]
  simp only [newestLE_append, nl_next_old_same heq hf, hnewL, ← heq, pick_assoc, newestLE_nil, pick_none_left,
    and_self]

theorem between_nil {s : Lsm} {cd : CompactDef} (hc : CompactOk s cd) :
    (((lchunks s.levels).drop (cd.thisLevel + 1)).take (cd.nextLevel - cd.thisLevel - 1)).flatten = [] := by
  rw [List.flatten_eq_nil_iff]
  intro c hc'
  obtain ⟨i, hi⟩ := List.mem_iff_getElem?.mp hc'
  rw [List.getElem?_take] at hi
  split at hi
  · rw [List.getElem?_drop, getElem?_lchunks] at hi
    obtain ⟨tbls, h1, rfl⟩ := Option.map_eq_some_iff.mp hi
    rw [between_empty hc (by omega) (by omega) h1]
    simp [lvlChunk]
  · cases hi

/-- two different levels with nothing in between -/
theorem view_two {s s' : Lsm} {cd : CompactDef} {d n now' : Nat} (h : LsmInv s) (hv : VerBound s)
    (hc : CompactOk s cd) (hs : s.compact cd d n now' = some s') (hpq : cd.thisLevel < cd.nextLevel)
    (k : Bytes) (ts : Nat) :
    newestLE s.allEntries k ts = newestLE (upperEnts s cd ++ (inputEnts s cd ++ lowerEnts s cd)) k ts ∧
    newestLE s'.allEntries k ts =
      newestLE (upperEnts s cd ++ ((compactOutput s cd d n now').1 ++ lowerEnts s cd)) k ts := by
  obtain ⟨new0, hsp, rfl⟩ := compact_some hs
  have hne : cd.thisLevel ≠ cd.nextLevel := by omega
  have hn : 1 ≤ cd.nextLevel := by omega
  have hq := hc.1.2.1
  have hq' : cd.nextLevel < (lchunks s.levels).length := by simpa [lchunks] using hq
  have hnl : newLevels s cd new0 =
      (s.levels.set cd.nextLevel (newNext s cd new0)).set cd.thisLevel (removeIdx (cdThisT s cd) cd.top) := by
    unfold newLevels; exact List.set_comm _ _ hne
  have hmem : memEnts ({ s with levels := newLevels s cd new0 } : Lsm) = memEnts s := rfl
  unfold upperEnts inputEnts lowerEnts remThis
  rw [if_neg hne, allEntries_eq, allEntries_eq, hmem]
  simp only
  rw [hnl, lchunks_set, lchunks_set, flatten_set_set hpq hq', flatten_split_two hpq hq', getElem_lchunks hq,
    getElem_lchunks (by omega), thisT_eq (by omega), nextT_eq hq, between_nil hc]
  simp only [newestLE_append, nl_this_split h hc hne, nl_next_old h hc hne hn, nl_next_new h hv hc hsp hn, pick_assoc,
    newestLE_nil, pick_none_left, and_self]

/-- `checkOverlap = false`: no key of the given tables occurs at the level `lev` or below -/
theorem no_key_of_checkOverlap {s : Lsm} (h : LsmInv s) (hv : VerBound s) {tables : List Tbl} {lev : Nat}
    (hok : ∀ t ∈ tables, TblOk t) (hov : checkOverlap s tables lev = false) {t0 : Tbl} {e : Ent}
    (ht0 : t0 ∈ tables) (he : e ∈ t0.ents) {i : Nat} {x : Ent} (hi : lev ≤ i) (hx : InLevel s i x) :
    x.key ≠ e.key := by
  obtain ⟨tbls, t, hj, ht, hx⟩ := hx
  obtain ⟨lo, hi', hkr⟩ := keyRangeOf_some hok (List.ne_nil_of_mem ht0)
  obtain ⟨hlo, hhi, hcov⟩ := keyRangeOf_cover hok hkr
  have hecov := hcov t0 ht0 e he
  unfold checkOverlap at hov
  rw [hkr] at hov
  simp only at hov
  intro hk
  have h1 := List.any_eq_false.mp hov (i, tbls) ((mem_zipIdx _ _ _).mpr hj)
  simp only [Bool.and_eq_true, decide_eq_true_eq, not_and] at h1
  have hnov := Bool.eq_false_iff.mpr (List.any_eq_false.mp (Bool.eq_false_iff.mpr (h1 hi)) t ht)
  have hver : ∀ y ∈ t.ents, y.ver ≤ maxU64 :=
    fun y hy => hv y (mem_allEntries_of_level ⟨_, t, hj, ht, hy⟩)
  rcases not_overlap_sides ((h.level hj).1 t ht) hver hlo hhi hnov with hs | hs
  · exact hecov.1 (hk ▸ hs x hx)
  · exact hecov.2 (hk ▸ hs x hx)

/-- with `hasOverlap = false` nothing of a compacted key is left on the lower level or below it -/
theorem lower_no_key {s : Lsm} {cd : CompactDef} (h : LsmInv s) (hv : VerBound s) (hc : CompactOk s cd)
    (hov : cdHasOverlap s cd = false) {e x : Ent} (he : e ∈ topEnts s cd ++ botEnts s cd)
    (hx : x ∈ lowerEnts s cd) : x.key ≠ e.key := by
  have hn : 1 ≤ cd.nextLevel := by
    have := (cdHasOverlap_false hov).1
    rcases hc.2 with hh | hh | hh | hh
    · exact hh.2.1
    · rw [hh.2.1]; omega
    · exact absurd ⟨hh.1, hh.2.1⟩ this
    · rw [hh.2.1]; exact hh.1
  rcases List.mem_append.mp hx with h1 | h1
  · obtain ⟨t, ht, hxt⟩ := mem_keptEnts.mp h1
    rcases kept_oneSide h hv hc hn ht with hs | hs
    · exact klt_ne (hs x hxt e he)
    · exact (klt_ne (hs x hxt e he)).symm
  · obtain ⟨i, hi, hxi⟩ := mem_lchunks_drop h1
    have hok : ∀ t ∈ cdTops s cd ++ cdBots s cd, TblOk t := fun t ht =>
      (List.mem_append.mp ht).elim (tops_ok h hc.1 t) fun h1 => (next_level h hc.1).2.1 t (bots_mem h1)
    obtain ⟨t0, ht0, het0⟩ : ∃ t ∈ cdTops s cd ++ cdBots s cd, e ∈ t.ents := by
      rw [← mem_flatten_ents, List.map_append, List.flatten_append]
      exact he
    exact no_key_of_checkOverlap h hv hok (cdHasOverlap_false hov).2 ht0 het0 hi hxi

theorem upper_recL {s : Lsm} {cd : CompactDef} (h : LsmInv s) (hl : LayeredX s) (hc : CompactOk s cd)
    (hto : IsL0Lbase s cd → TopsOldest s cd) : RecL (upperEnts s cd) (topEnts s cd ++ botEnts s cd) := by
  intro x hx e he hk
  have hle := this_le_next hc
  rcases List.mem_append.mp hx with h1 | h1
  · rcases input_level hc.1 he with ⟨g, _⟩ | ⟨g, _⟩ <;> exact layeredX_mem_level hl h1 g hk
  rcases List.mem_append.mp h1 with h1 | h1
  · obtain ⟨i, hi, f⟩ := mem_lchunks_take.mp h1
    rcases input_level hc.1 he with ⟨g, _⟩ | ⟨g, _⟩
    · exact layeredX_levels hl hi f g hk
    · exact layeredX_levels hl (by omega) f g hk
  · obtain ⟨t, ht, hxt⟩ := mem_lvlChunk.mp h1
    unfold remThis at ht
    split at ht
    · cases ht
    · rename_i hne
      rcases input_level hc.1 he with ⟨_, h5⟩ | ⟨g, _⟩
      · exact rem_vs_tops h hc (fun h0 => hto ((kind_of_ne hc hne).resolve_right (by omega))) hne ht hxt h5 hk
      · exact layeredX_levels hl (Nat.lt_of_le_of_ne hle hne)
          ⟨_, t, (this_level h hc.1).1, (removeIdx_sublist _ _).subset ht, hxt⟩ g hk

/-- in a read of `U ++ · ++ W` the filtered stream can stand for the stream: where a dead marker is dropped for
    good (`hasOverlap = false`), `W` holds nothing of its key and `U` only newer versions -/
theorem filter_reads_core {p : CParams} {U M W : List Ent} (hM : SortedEnts M) {k : Bytes} {ts now : Nat}
    (hk : hasAnyPrefix k p.dropPrefixes = false) (hts : p.discardTs ≤ ts) (hnow : p.now ≤ now)
    (hW : p.hasOverlap = false → ∀ e ∈ M, ∀ x ∈ W, x.key ≠ e.key)
    (hU : p.hasOverlap = false → RecL U M) :
    visible now (newestLE (U ++ (subcompact p M ++ W)) k ts) = visible now (newestLE (U ++ (M ++ W)) k ts) := by
  simp only [newestLE_append]
  apply read_fallthrough
  rcases C29_filter_other_keys_refined hM hts hk with heq | ⟨hnone, hov, e, he, hdead⟩
  · exact .inl heq
  · obtain ⟨m1, m2, _, _⟩ := newestLE_some he
    refine .inr ⟨hnone, e, he, deletedOrExpired_mono hnow hdead, ?_, fun x hx => ?_⟩
    · exact newestLE_eq_none_iff.mpr fun x hx hxk => hW hov e m1 x hx (hxk.1.trans m2.symm)
    · obtain ⟨n1, n2, _, _⟩ := newestLE_some hx
      exact hU hov x n1 e m1 (n2.trans m2.symm)

/-- the read before and after a well-formed compaction of any kind -/
theorem compact_view {s s' : Lsm} {cd : CompactDef} {d n now' : Nat} (h : LsmInv s) (hv : VerBound s)
    (hc : CompactOk s cd) (hfun : IsL0L0 s cd → KVFun (lvlChunk 0 (cdThisT s cd)))
    (hs : s.compact cd d n now' = some s') (k : Bytes) (ts : Nat) :
    newestLE s.allEntries k ts = newestLE (upperEnts s cd ++ (inputEnts s cd ++ lowerEnts s cd)) k ts ∧
    newestLE s'.allEntries k ts =
      newestLE (upperEnts s cd ++ ((compactOutput s cd d n now').1 ++ lowerEnts s cd)) k ts := by
  rcases Nat.lt_or_eq_of_le (this_le_next hc) with hpq | heq
  · exact view_two h hv hc hs hpq k ts
  · refine view_same hs hc.1.2.1 heq.symm ?_ k ts
    by_cases h0 : cd.nextLevel = 0
    · rw [nextT_eq_thisT heq.symm, h0]
      exact hfun ⟨heq.trans h0, h0, by
        rcases hc.2 with hh | hh | hh | hh
        · have := hh.2.1; omega
        · have := hh.2.1; omega
        · exact hh.2.2
        · have := hh.1; omega⟩
    · exact kvFun_of_sorted (lvlChunk_sorted (next_level h hc.1).2 (by omega))

end LL

namespace DG

variable {s : Lsm} {cd : CompactDef}

theorem nl_validEnts (hs : ∀ t ∈ cdBots s cd, SortedEnts t.ents) {k : Bytes}
    (hk : hasAnyPrefix k cd.dropPrefixes = false) (ts : Nat) :
    newestLE (validEnts s cd) k ts = newestLE (LL.botEnts s cd) k ts := by
  unfold validEnts LL.botEnts
  generalize cdBots s cd = l at hs
  induction l with
  | nil => rfl
  | cons t l ih =>
    have ih' := ih (fun t' ht' => hs t' (List.mem_cons_of_mem _ ht'))
    rw [List.filter_cons]
    cases hqt : !skippedByKeepTable cd.dropPrefixes t with
    | true => simp only [if_true, List.map_cons, List.flatten_cons, newestLE_append, ih']
    | false =>
      simp only [Bool.false_eq_true, if_false, List.map_cons, List.flatten_cons, newestLE_append, ih']
      rw [newestLE_none_of_noPrefix (C29_keepTable_sound (hs t List.mem_cons_self) (by simpa using hqt)) hk,
        pick_none_left]

end DG

namespace PF

variable {s : Lsm} {cd : CompactDef}

theorem sources_sorted (h : LsmInv s) (hc : CompactOk s cd) :
    ∀ src ∈ (if cd.thisLevel == 0 then (cdTops s cd).reverse.map (·.ents) else (cdTops s cd).map (·.ents)) ++
      [DG.validEnts s cd], SortedEnts src :=
  LL.mergeSrcs_sorted (fun t ht => (LL.tops_ok h hc.1 t ht).2)
    ((LL.botEnts_sorted h hc).sublist DG.validEnts_sublist)

theorem nl_mergedV (h : LsmInv s) (hc : CompactOk s cd) {k : Bytes}
    (hk : hasAnyPrefix k cd.dropPrefixes = false) (ts : Nat) :
    newestLE (mergedV s cd) k ts = newestLE (LL.inputEnts s cd) k ts := by
  unfold mergedV LL.inputEnts
  rw [newestLE_mergeAll (sources_sorted h hc), List.flatten_append, LL.topSrcs_flatten, newestLE_append,
    newestLE_append, List.flatten_cons, List.flatten_nil, List.append_nil,
    DG.nl_validEnts (fun t ht => ((LL.next_level h hc.1).2.1 t (LL.bots_mem ht)).2) hk]

end PF

namespace LL

theorem merged_sorted {s : Lsm} {cd : CompactDef} (h : LsmInv s) (hc : CompactOk s cd) (hdp : cd.dropPrefixes = []) :
    SortedEnts (cdMerged s cd) := mergedV_eq hdp ▸ mergeAll_sorted (PF.sources_sorted h hc)

/-- every well-formed compaction, with or without `dropPrefixes`, preserves every read at `ts ≥ discardTs` of a
    key without a dropped prefix (recency is not needed for L0 → L0, where no marker is dropped) -/
theorem compact_reads_pfx {s s' : Lsm} {cd : CompactDef} {d n now' now ts : Nat} {k : Bytes} (h : LsmInv s)
    (hv : VerBound s) (hc : CompactOk s cd) (hl : ¬ IsL0L0 s cd → LayeredX s)
    (hto : IsL0Lbase s cd → TopsOldest s cd)
    (hfun : IsL0L0 s cd → KVFun (lvlChunk 0 (cdThisT s cd))) (hk : hasAnyPrefix k cd.dropPrefixes = false)
    (hs : s.compact cd d n now' = some s') (hts : d ≤ ts) (hnow : now' ≤ now) :
    visible now (s'.get k ts) = visible now (s.get k ts) := by
  obtain ⟨e1, e2⟩ := compact_view h hv hc hfun hs k ts
  have hI : ∀ W, newestLE (upperEnts s cd ++ (inputEnts s cd ++ W)) k ts =
      newestLE (upperEnts s cd ++ (PF.mergedV s cd ++ W)) k ts := fun W => by
    simp only [newestLE_append, PF.nl_mergedV h hc hk]
  rw [C01_get_spec_weak (compact_invW h hv hc hs), C01_get_spec_weak (lsmInv_weaken h), e1, e2, hI, PF.output_eq]
  exact filter_reads_core (p := DG.params s cd d n now') (mergeAll_sorted (PF.sources_sorted h hc)) hk hts hnow
    (fun hov e he x hx => lower_no_key h hv hc hov (PF.mergedV_subset he) hx)
    (fun hov x hx e he =>
      upper_recL h (hl fun h0 => (cdHasOverlap_false hov).1 ⟨h0.1, h0.2.1⟩) hc hto x hx e (PF.mergedV_subset he))

theorem compact_reads {s s' : Lsm} {cd : CompactDef} {d n now' now ts : Nat} {k : Bytes} (h : LsmInv s)
    (hv : VerBound s) (hc : CompactOk s cd) (hl : ¬ IsL0L0 s cd → LayeredX s)
    (hto : IsL0Lbase s cd → TopsOldest s cd)
    (hfun : IsL0L0 s cd → KVFun (lvlChunk 0 (cdThisT s cd))) (hdp : cd.dropPrefixes = [])
    (hs : s.compact cd d n now' = some s') (hts : d ≤ ts) (hnow : now' ≤ now) :
    visible now (s'.get k ts) = visible now (s.get k ts) :=
  compact_reads_pfx h hv hc hl hto hfun (by rw [hdp]; rfl) hs hts hnow

theorem mem_allEntries_put {s : Lsm} {e x : Ent} (h : x ∈ (s.putEnt e).allEntries) : x = e ∨ x ∈ s.allEntries := by
  rw [← chunks_flatten, chunks_cons, List.flatten_cons, List.mem_append] at h ⊢
  exact h.elim (fun h => (mem_memPut_imp h).imp_right .inl) fun h => .inr (.inr h)

theorem put_verBound {s : Lsm} (hv : VerBound s) {e : Ent} (he : e.ver ≤ maxU64) : VerBound (s.putEnt e) := by
  intro x hx
  rcases mem_allEntries_put hx with rfl | hx
  · exact he
  · exact hv x hx

/-- a write keeps recency across sources as soon as nothing stored BELOW the memtable is newer -/
theorem put_layeredX {s : Lsm} (hl : LayeredX s) {e : Ent}
    (hbelow : ∀ c ∈ lowerChunks s, ∀ y ∈ c, y.key = e.key → y.ver ≤ e.ver) : LayeredX (s.putEnt e) := by
  rw [layeredX_def, chunks_cons] at *
  obtain ⟨q1, q2⟩ := List.pairwise_cons.mp hl
  refine List.pairwise_cons.mpr ⟨fun c hc x hx y hy hk => ?_, q2⟩
  rcases mem_memPut_imp hx with rfl | hx
  · exact hbelow c hc y hy hk.symm
  · exact q1 c hc x hx y hy hk

theorem tblsFun_chunk {i : Nat} {l : List Tbl} (h : TblsFun l) : KVFun (lvlChunk i l) := by
  intro x hx y hy hk hv
  obtain ⟨a, ha, hxa⟩ := mem_lvlChunk.mp hx
  obtain ⟨b, hb, hyb⟩ := mem_lvlChunk.mp hy
  exact h a ha b hb x hxa y hyb hk hv

theorem tblsFun_of_distinct {l : List Tbl} (hs : ∀ t ∈ l, SortedEnts t.ents) (hd : TblsDistinct l) : TblsFun l := by
  intro a ha b hb x hxa y hyb hk hv
  obtain ⟨ia, hia, rfl⟩ := List.getElem_of_mem ha
  obtain ⟨ib, hib, rfl⟩ := List.getElem_of_mem hb
  have hp := List.pairwise_iff_getElem.mp hd
  rcases Nat.lt_trichotomy ia ib with hlt | heq | hgt
  · exact absurd hv (hp ia ib hia hib hlt x hxa y hyb hk)
  · subst heq; exact (hs _ ha).eq_of_key_ver hxa hyb hk hv
  · exact absurd hv.symm (hp ib ia hib hia hgt y hyb x hxa hk.symm)

theorem tblsFun_of_unique {s : Lsm} {cd : CompactDef} (hu : KeyVerUnique s) (hb : CdBase s cd) :
    TblsFun (cdThisT s cd) := by
  have hin : ∀ t ∈ cdThisT s cd, ∀ x ∈ t.ents, x ∈ s.allEntries := fun t ht x hx =>
    mem_allEntries_of_level ⟨_, t, levels_getD hb.1, ht, hx⟩
  exact fun a ha b hb x hx y hy => hu x (hin a ha x hx) y (hin b hb y hy)

/-- every input entry of a compaction is in the merged stream (copies of an internal key are equal) -/
theorem mem_merged_of_input {s : Lsm} {cd : CompactDef} (h : LsmInv s) (hu : KeyVerUnique s)
    (hc : CompactOk s cd) {e : Ent} (he : e ∈ topEnts s cd ++ botEnts s cd) : e ∈ cdMerged s cd := by
  have hsrc := mergeSrcs_sorted (fun t ht => (tops_ok h hc.1 t ht).2) (botEnts_sorted h hc)
  have hin : ∀ x ∈ topEnts s cd ++ botEnts s cd, x ∈ s.allEntries := fun _ => input_mem_allEntries hc.1
  have hex : e ∈ ((if cd.thisLevel == 0 then (cdTops s cd).reverse.map (·.ents)
      else (cdTops s cd).map (·.ents)) ++ [botEnts s cd]).flatten := by
    rw [List.flatten_append, topSrcs_flatten, List.flatten_cons, List.flatten_nil, List.append_nil, List.mem_append,
      mem_lvlChunk, ← mem_topEnts]
    exact List.mem_append.mp he
  obtain ⟨src, hsm, hes⟩ := List.mem_flatten.mp hex
  obtain ⟨e', he', hk, hv⟩ := C12_merge_complete hsrc hsm hes
  have he'in : e' ∈ s.allEntries := hin e' (List.mem_append.mpr (mem_merged he'))
  have : e' = e := hu e' he'in e (hin e he) hk hv
  rw [← this]; exact he'

theorem allEntries_resort {s : Lsm} {l0 l0' : List Tbl} {rest : List (List Tbl)} (hl : s.levels = l0 :: rest)
    (hp : l0'.Perm l0) : ({ s with levels := l0' :: rest } : Lsm).allEntries.Perm s.allEntries := by
  rw [allEntries_eq, allEntries_eq, hl]
  refine List.Perm.append_left _ ?_
  simp only [lchunks, List.mapIdx_cons, List.flatten_cons]
  refine List.Perm.append_right _ ?_
  unfold lvlChunk
  exact ((((List.reverse_perm l0').trans hp).trans (List.reverse_perm l0).symm).map _).flatten

theorem mem_allEntries_resort {s : Lsm} {l0 l0' : List Tbl} {rest : List (List Tbl)} (hl : s.levels = l0 :: rest)
    (hp : l0'.Perm l0) (e : Ent) :
    e ∈ ({ s with levels := l0' :: rest } : Lsm).allEntries ↔ e ∈ s.allEntries := (allEntries_resort hl hp).mem_iff

theorem resort_inv {s : Lsm} {l0 l0' : List Tbl} {rest : List (List Tbl)} (h : LsmInv s) (hl : s.levels = l0 :: rest)
    (hp : l0'.Perm l0) : LsmInv ({ s with levels := l0' :: rest } : Lsm) := by
  have h0 := h.level (i := 0) (tbls := l0) (by rw [hl]; rfl)
  exact ⟨h.1, h.2.1, levels_ok_of_l0 h hl fun t ht => h0.1 t (hp.subset ht),
    fun e he => h.2.2.2 e ((mem_allEntries_resort hl hp e).mp he)⟩

theorem resort_layeredX {s : Lsm} {l0 l0' : List Tbl} {rest : List (List Tbl)} (h : LayeredX s)
    (hl : s.levels = l0 :: rest) (hp : l0'.Perm l0) : LayeredX ({ s with levels := l0' :: rest } : Lsm) := by
  refine layeredX_of_origin (s := s) rfl rfl h ?_
  rintro j x ⟨tbls, t, hj, ht, hx⟩
  refine ⟨j, Nat.le_refl _, ?_, fun i' y h2 h3 => by omega⟩
  rcases level_of_l0_change hl hj with ⟨rfl, rfl⟩ | ⟨_, hj⟩
  · exact ⟨l0, t, by rw [hl]; rfl, hp.subset ht, hx⟩
  · exact ⟨tbls, t, hj, ht, hx⟩

theorem resort_keyVerUnique {s : Lsm} {l0 l0' : List Tbl} {rest : List (List Tbl)} (hu : KeyVerUnique s)
    (hl : s.levels = l0 :: rest) (hp : l0'.Perm l0) : KeyVerUnique ({ s with levels := l0' :: rest } : Lsm) :=
  kvFun_subset hu (fun x hx => (mem_allEntries_resort hl hp x).mp hx)

/-- reads do not depend on the order of the L0 tables (`Open` sorts them by file id) when an internal
    key determines the entry -/
theorem resort_get {s : Lsm} {l0 l0' : List Tbl} {rest : List (List Tbl)} (h : LsmInv s) (hl : s.levels = l0 :: rest)
    (hp : l0'.Perm l0) (hf : TblsFun l0) (k : Bytes) (ts : Nat) :
    ({ s with levels := l0' :: rest } : Lsm).get k ts = s.get k ts := by
  rw [C01_get_spec_weak (lsmInv_weaken (resort_inv h hl hp)), C01_get_spec_weak (lsmInv_weaken h),
    allEntries_eq, allEntries_eq, hl]
  have hmem : memEnts ({ s with levels := l0' :: rest } : Lsm) = memEnts s := rfl
  have hf' : TblsFun l0' := fun a ha b hb => hf a (hp.subset ha) b (hp.subset hb)
  have : newestLE (lvlChunk 0 l0') k ts = newestLE (lvlChunk 0 l0) k ts :=
    newestLE_congr_kv (tblsFun_chunk hf') (fun e => by
      rw [mem_lvlChunk, mem_lvlChunk]
      exact ⟨fun ⟨t, ht, he⟩ => ⟨t, hp.subset ht, he⟩, fun ⟨t, ht, he⟩ => ⟨t, hp.symm.subset ht, he⟩⟩) k ts
  simp only [hmem, lchunks, List.mapIdx_cons, List.flatten_cons, newestLE_append, this]

end LL

/-- the L0 tables `Lsm.flushAll` appends: the non-empty memtables, oldest first -/
def flushTables (s : Lsm) (ids : List Nat) : List Tbl :=
  (zipIdx ((s.imm ++ [s.mem]).filter (fun m => !m.isEmpty))).map
    (fun (p : Nat × List Ent) => ({ ents := p.2, id := ids.getD p.1 0 } : Tbl))

theorem flushAll_eq {s : Lsm} {l0 : List Tbl} {rest : List (List Tbl)} (hl : s.levels = l0 :: rest)
    (ids : List Nat) :
    s.flushAll ids = { mem := [], imm := [], levels := (l0 ++ flushTables s ids) :: rest } := by
  unfold Lsm.flushAll flushTables
  rw [hl]

theorem flushTables_ents (s : Lsm) (ids : List Nat) :
    (flushTables s ids).map (·.ents) = (s.imm ++ [s.mem]).filter (fun m => !m.isEmpty) := by
  unfold flushTables
  rw [List.map_map]
  exact LL.zipIdx_map_snd _

/-- read as a part of level 0 (newest table first), the new tables are the memtables -/
theorem lvlChunk_flushTables (s : Lsm) (ids : List Nat) : LL.lvlChunk 0 (flushTables s ids) = LL.memEnts s := by
  unfold LL.lvlChunk LL.memEnts
  rw [if_pos rfl, List.map_reverse, flushTables_ents, ← List.filter_reverse, List.flatten_filter_not_isEmpty]
  simp

/-- the read sources after the flush: no memtable, and level 0 begins with the former memtables -/
theorem chunks_flushAll {s : Lsm} {l0 : List Tbl} {rest : List (List Tbl)} (hl : s.levels = l0 :: rest)
    (ids : List Nat) :
    LL.chunks (s.flushAll ids) =
        [] :: (LL.memEnts s ++ LL.lvlChunk 0 l0) :: rest.mapIdx (fun i => LL.lvlChunk (i + 1)) ∧
      LL.chunks s = (s.mem :: s.imm.reverse) ++ LL.lvlChunk 0 l0 :: rest.mapIdx (fun i => LL.lvlChunk (i + 1)) := by
  rw [LL.chunks_eq, LL.chunks_eq, flushAll_eq hl, hl]
  simp only [LL.lchunks, List.mapIdx_cons, LL.lvlChunk_zero_append, lvlChunk_flushTables, List.reverse_nil,
    List.cons_append, List.nil_append, and_self]

theorem flushAll_layeredX {s : Lsm} {l0 : List Tbl} {rest : List (List Tbl)} (hl : LayeredX s)
    (hlv : s.levels = l0 :: rest) (ids : List Nat) : LayeredX (s.flushAll ids) := by
  obtain ⟨e1, e2⟩ := chunks_flushAll hlv ids
  rw [LL.layeredX_def, e2, List.pairwise_append] at hl
  obtain ⟨_, p2, pm⟩ := hl
  obtain ⟨p0, pr⟩ := List.pairwise_cons.mp p2
  rw [LL.layeredX_def, e1, List.pairwise_cons, List.pairwise_cons]
  refine ⟨fun _ _ _ ha => (nomatch ha), fun c hc x hx => ?_, pr⟩
  rcases List.mem_append.mp hx with h1 | h1
  · obtain ⟨m, hm, hxm⟩ := LL.mem_memEnts.mp h1
    exact pm m hm c (List.mem_cons_of_mem _ hc) x hxm
  · exact p0 c hc x h1

theorem LL.flushAll_eq_flush {s : Lsm} (himm : s.imm = []) (ids : List Nat) :
    s.flushAll ids = s.flush (ids.getD 0 0) := by
  obtain ⟨mem, imm, levels⟩ := s
  cases himm
  cases levels with
  | nil => cases mem <;> rfl
  | cons l0 rest =>
    cases mem with
    | nil => exact congrArg (fun l => Lsm.mk [] [] (l :: rest)) (List.append_nil l0)
    | cons a m => rfl

end Badger
