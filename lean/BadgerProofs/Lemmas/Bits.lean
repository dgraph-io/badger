import BadgerModel.Lsm
/-!
# Meta bits

`hasBit`, `setBit`, `clearBit` on a mask `2 ^ i` are `Nat.testBit i` and its two updates.
-/
namespace Badger

theorem bitDelete_eq : bitDelete = 2 ^ 0 := rfl
theorem bitValuePointer_eq : bitValuePointer = 2 ^ 1 := rfl
theorem bitDiscardEarlier_eq : bitDiscardEarlier = 2 ^ 2 := rfl
theorem bitMerge_eq : bitMerge = 2 ^ 3 := rfl
theorem bitTxn_eq : bitTxn = 2 ^ 6 := rfl
theorem bitFinTxn_eq : bitFinTxn = 2 ^ 7 := rfl

theorem hasBit_two_pow (m i : Nat) : hasBit m (2 ^ i) = m.testBit i := by
  rw [Nat.testBit_eq_decide_div_mod_eq]
  unfold hasBit
  exact Bool.eq_iff_iff.mpr (by simp)

/-- adding `2^i` to a number whose bit `i` is clear sets that bit and carries nowhere -/
theorem testBit_two_pow_add {x i : Nat} (h : x.testBit i = false) (j : Nat) :
    (2 ^ i + x).testBit j = (x.testBit j || j == i) := by
  rcases Nat.lt_trichotomy j i with hj | rfl | hj
  · rw [Nat.testBit_two_pow_add_gt hj, beq_eq_false_iff_ne.mpr (Nat.ne_of_lt hj), Bool.or_false]
  · rw [Nat.testBit_two_pow_add_eq, h, BEq.rfl, Bool.or_true]; rfl
  · -- above `i`: both sides are bit `d` of half of `x / 2^i` (+ 1), and `x / 2^i` is even
    obtain ⟨d, rfl⟩ : ∃ d, j = d + 1 + i := ⟨j - i - 1, by omega⟩
    have hx : x / 2 ^ i % 2 ≠ 1 := by simpa [Nat.testBit_eq_decide_div_mod_eq] using h
    rw [beq_eq_false_iff_ne.mpr (by omega), Bool.or_false, Nat.testBit_add (2 ^ i + x), Nat.testBit_add x,
      Nat.testBit_add_one, Nat.testBit_add_one, Nat.add_div_left _ (Nat.two_pow_pos i)]
    congr 1
    omega

theorem testBit_setBit (m i j : Nat) : (setBit m (2 ^ i)).testBit j = (m.testBit j || j == i) := by
  unfold setBit
  rw [hasBit_two_pow]
  cases h : m.testBit i
  · rw [if_neg (by simp), Nat.add_comm, testBit_two_pow_add h]
  · rw [if_pos rfl]
    by_cases hj : j = i
    · rw [hj, h]; rfl
    · rw [beq_eq_false_iff_ne.mpr hj, Bool.or_false]

theorem testBit_clearBit (m i j : Nat) : (clearBit m (2 ^ i)).testBit j = (m.testBit j && j != i) := by
  unfold clearBit
  rw [hasBit_two_pow]
  cases h : m.testBit i
  · rw [if_neg (by simp)]
    by_cases hj : j = i
    · rw [hj, h]; rfl
    · rw [bne_iff_ne.mpr hj, Bool.and_true]
  · -- `m = 2^i + (m - 2^i)`, and bit `i` of `m - 2^i` is clear
    rw [if_pos rfl]
    have hm : 2 ^ i + (m - 2 ^ i) = m := Nat.add_sub_cancel' (Nat.ge_two_pow_of_testBit h)
    have hx : (m - 2 ^ i).testBit i = false := by
      have := Nat.testBit_two_pow_add_eq (m - 2 ^ i) i
      rw [hm, h] at this
      simpa using this
    rw [← congrArg (Nat.testBit · j) hm, testBit_two_pow_add hx j]
    by_cases hj : j = i
    · rw [hj, hx]; simp
    · rw [beq_eq_false_iff_ne.mpr hj, bne_iff_ne.mpr hj, Bool.or_false, Bool.and_true]

theorem hasBit_setBit (m i j : Nat) : hasBit (setBit m (2 ^ j)) (2 ^ i) = (hasBit m (2 ^ i) || i == j) := by
  rw [hasBit_two_pow, hasBit_two_pow, testBit_setBit]

theorem hasBit_clearBit (m i j : Nat) : hasBit (clearBit m (2 ^ j)) (2 ^ i) = (hasBit m (2 ^ i) && i != j) := by
  rw [hasBit_two_pow, hasBit_two_pow, testBit_clearBit]

theorem clearBit_congr {a b i : Nat} (h : ∀ j, j ≠ i → a.testBit j = b.testBit j) :
    clearBit a (2 ^ i) = clearBit b (2 ^ i) :=
  Nat.eq_of_testBit_eq fun j => by
    rw [testBit_clearBit, testBit_clearBit]
    by_cases hj : j = i
    · rw [bne_eq_false_iff_eq.mpr hj, Bool.and_false, Bool.and_false]
    · rw [h j hj]

theorem clearBit_idem (m i : Nat) : clearBit (clearBit m (2 ^ i)) (2 ^ i) = clearBit m (2 ^ i) :=
  clearBit_congr fun j hj => by rw [testBit_clearBit, bne_iff_ne.mpr hj, Bool.and_true]

theorem deletedOrExpired_congr {a b : Nat} (h : hasBit a bitDelete = hasBit b bitDelete) (exp now : Nat) :
    deletedOrExpired a exp now = deletedOrExpired b exp now := by
  unfold deletedOrExpired; rw [h]

theorem dead_congr {a b : Nat} (h : a.testBit 0 = b.testBit 0) (exp now : Nat) :
    deletedOrExpired a exp now = deletedOrExpired b exp now :=
  deletedOrExpired_congr (by rw [bitDelete_eq, hasBit_two_pow, hasBit_two_pow, h]) exp now

theorem deletedOrExpired_mono {m exp now₁ now₂ : Nat} (h : now₁ ≤ now₂)
    (hd : deletedOrExpired m exp now₁ = true) : deletedOrExpired m exp now₂ = true := by
  simp only [deletedOrExpired, Bool.or_eq_true, Bool.and_eq_true, bne_iff_ne, ne_eq,
    decide_eq_true_eq] at *
  rcases hd with hd | hd
  · exact .inl hd
  · exact .inr ⟨hd.1, by omega⟩

end Badger
