import BadgerProofs.Lemmas.Oracle
/-!
Liveness side of C34 at the oracle level: a transaction parked in `WaitForMark` is released once
every commit at or below its read timestamp has been reported done and `txnMark`'s channel has
been drained (`LiveInv.txnMark_reaches`, for `C34_reader_released` of `Props/C34.lean`). `LiveInv` is an
invariant on top of `SysInv` (normal mode), preserved by cases on the same relation `Sys.Step`: one lemma for
the steps of the callers, which at most send marks (`LiveInv.send`, `LiveInv.setTxn` its form for one table
entry), one for `process` handling a mark (`LiveInv.procTxnMark`); `OReach.live` is the induction.
-/
namespace Badger

structure LiveInv (n : Nat) (s : Sys) : Prop where
  /-- a parked transaction has sent its waiter mark -/
  parkedSent : ∀ tid x, s.txns[tid]? = some x → x.phase = .parked → Mark.wait x.t.readTs tid ∈ s.tmSent
  /-- whoever sent a waiter mark is past the `started` phase -/
  notStarted : ∀ idx w, Mark.wait idx w ∈ s.tmSent → ∀ x, s.txns[w]? = some x → x.phase ≠ .started
  /-- a wake-up already emitted by `process` has been delivered: that transaction is not parked -/
  emitted : ∀ pre, Mark.done n :: s.tmSent = pre ++ s.o.txnMark.q → ∀ k ∈ (WM.init.runW pre).2,
    ∀ x, s.txns[k.waiter]? = some x → x.phase ≠ .parked
  /-- read timestamps are `n` or a commit timestamp that was handed out -/
  readTsSeen : ∀ x ∈ s.txns, x.t.readTs = n ∨ x.t.readTs ∈ s.hist.map (·.ts)
  nextSeen : s.o.nextTxnTs - 1 = n ∨ (s.o.nextTxnTs - 1) ∈ s.hist.map (·.ts)
  /-- every handed-out commit timestamp was begun on `txnMark` -/
  begun : ∀ e ∈ s.hist, Mark.begin e.ts ∈ s.tmSent

theorem LiveInv.init (d : Bool) (n : Nat) : LiveInv n (Sys.opened false d n) := by
  refine ⟨by simp [Sys.opened], by simp [Sys.opened], ?_, by simp [Sys.opened],
    by simp [Sys.opened, Oracle.opened], by simp [Sys.opened]⟩
  intro pre hpre k hk
  simp only [Sys.opened, Oracle.opened, AWM.send, List.nil_append] at hpre
  cases List.self_eq_append_left.mp hpre
  simp [WM.runW] at hk

theorem pre_unique {α : Type} (l pre1 pre2 q : List α) (h1 : l = pre1 ++ q) (h2 : l = pre2 ++ q) :
    pre1 = pre2 := List.append_cancel_right (h1.symm.trans h2)

/-- Every change of the table and of what was sent to `txnMark`, `process` handling a mark apart: the marks `ms`
    are sent; an entry keeps its read timestamp, does not go back to `started`, and becomes `parked` only from
    `started` with its `wait` mark among `ms`; a new entry is `started` at `nextTxnTs - 1`. The default proof of
    `hms` is for an `ms` without `wait` mark (none, one `begin`, one `done`). -/
theorem LiveInv.send {d : Bool} {n : Nat} {s s' : Sys} (h : LiveInv n s) (hI : SysInv d n s) (ms : List Mark)
    (e1 : s'.tmSent = s.tmSent ++ ms) (e2 : s'.o.txnMark.q = s.o.txnMark.q ++ ms)
    (ht : ∀ (tid : Nat) (x' : TxnSt), s'.txns[tid]? = some x' →
      (∃ x, s.txns[tid]? = some x ∧ x'.t.readTs = x.t.readTs ∧ (x'.phase = .started → x.phase = .started) ∧
        (x'.phase = .parked → x.phase = .parked ∨ x.phase = .started ∧ Mark.wait x.t.readTs tid ∈ ms)) ∨
      s.txns[tid]? = none ∧ x'.phase = .started ∧ x'.t.readTs = s.o.nextTxnTs - 1)
    (hms : ∀ idx w, Mark.wait idx w ∈ ms → ∀ x', s'.txns[w]? = some x' → x'.phase ≠ .started := by
      simp only [List.mem_singleton, List.not_mem_nil, reduceCtorEq, false_imp_iff, implies_true])
    (e3 : ∃ l, s'.hist = s.hist ++ l ∧ ∀ e ∈ l, Mark.begin e.ts ∈ ms := by
      exact ⟨[], (List.append_nil _).symm, nofun⟩)
    (e4 : s'.o.nextTxnTs = s.o.nextTxnTs ∨ (s'.o.nextTxnTs - 1) ∈ s'.hist.map (·.ts) := by exact .inl rfl) :
    LiveInv n s' := by
  obtain ⟨l, el, hl⟩ := e3
  have hsub : ∀ t, t ∈ s.hist.map (·.ts) → t ∈ s'.hist.map (·.ts) := fun t ht => by
    rw [el, List.map_append]; exact List.mem_append.mpr (.inl ht)
  refine ⟨?_, ?_, ?_, ?_, e4.elim (fun e => e ▸ h.nextSeen.imp_right (hsub _)) .inr, ?_⟩
  · intro tid x' hx' hp
    rw [e1]
    rcases ht tid x' hx' with ⟨x, hx, er, -, hpk⟩ | ⟨-, hst, -⟩
    · rw [er]
      exact List.mem_append.mpr ((hpk hp).imp (h.parkedSent tid x hx) (·.2))
    · rw [hst] at hp; cases hp
  · intro idx w hw x' hx' hst
    rw [e1] at hw
    rcases List.mem_append.mp hw with hw | hw
    · rcases ht w x' hx' with ⟨x, hx, -, hs, -⟩ | ⟨hnone, -, -⟩
      · exact h.notStarted idx w hw x hx (hs hst)
      · obtain ⟨y, hy, -⟩ := hI.waitIdx idx w hw
        rw [hnone] at hy; cases hy
    · exact hms idx w hw x' hx' hst
  · intro pre hpre k hk x' hx' hp
    rw [e1, e2, ← List.cons_append, ← List.append_assoc] at hpre
    have hpre' := List.append_cancel_right hpre
    rcases ht k.waiter x' hx' with ⟨x, hx, -, -, hpk⟩ | ⟨-, hst, -⟩
    · rcases hpk hp with hxp | ⟨hxs, -⟩
      · exact h.emitted pre hpre' k hk x hx hxp
      · -- a wake-up for a transaction still `started` would stem from a waiter mark it has not sent yet
        exact h.notStarted _ _ (wait_sent_of_prefix hpre' (.inl hk)) x hx hxs
    · rw [hst] at hp; cases hp
  · intro x' hx'
    obtain ⟨tid, htid⟩ := List.mem_iff_getElem?.mp hx'
    rcases ht tid x' htid with ⟨x, hx, er, -, -⟩ | ⟨-, -, er⟩
    · rw [er]; exact (h.readTsSeen x (List.mem_of_getElem? hx)).imp_right (hsub _)
    · rw [er]; exact h.nextSeen.imp_right (hsub _)
  · intro e he
    rw [el] at he; rw [e1]
    exact List.mem_append.mpr ((List.mem_append.mp he).imp (h.begun e) (hl e))

/-- `send` for the replacement of one transaction. -/
theorem LiveInv.setTxn {d : Bool} {n : Nat} {s s' : Sys} (h : LiveInv n s) (hI : SysInv d n s) {tid : Nat}
    {x x' : TxnSt} (hx : s.txns[tid]? = some x) (et : s'.txns = s.txns.set tid x') (er : x'.t.readTs = x.t.readTs)
    (hs : x'.phase ≠ .started) (ms : List Mark)
    (e1 : s'.tmSent = s.tmSent ++ ms) (e2 : s'.o.txnMark.q = s.o.txnMark.q ++ ms)
    (hp : x'.phase = .parked → x.phase = .parked ∨ x.phase = .started ∧ Mark.wait x.t.readTs tid ∈ ms)
    (hms : ∀ idx w, Mark.wait idx w ∈ ms → w = tid := by
      simp only [List.mem_singleton, List.not_mem_nil, reduceCtorEq, false_imp_iff, implies_true])
    (e3 : ∃ l, s'.hist = s.hist ++ l ∧ ∀ e ∈ l, Mark.begin e.ts ∈ ms := by
      exact ⟨[], (List.append_nil _).symm, nofun⟩)
    (e4 : s'.o.nextTxnTs = s.o.nextTxnTs ∨ (s'.o.nextTxnTs - 1) ∈ s'.hist.map (·.ts) := by exact .inl rfl) :
    LiveInv n s' := by
  refine h.send hI ms e1 e2 (fun t y hy => .inl ?_) (fun idx w hw y hy => ?_) e3 e4
  · rcases getElem?_set_cases (et ▸ hy) with ⟨rfl, rfl, -⟩ | ⟨_, hy⟩
    · exact ⟨x, hx, er, fun h => absurd h hs, hp⟩
    · exact ⟨y, hy, rfl, id, .inl⟩
  · rw [et, hms idx w hw, List.getElem?_set_self (lt_of_getElem?_some hx)] at hy
    cases hy; exact hs

theorem LiveInv.procTxnMark {d : Bool} {n : Nat} {s s' : Sys} (h : LiveInv n s) (hI : SysInv d n s)
    {a : AWM} {wk : List Wakeup} (hp : s.o.txnMark.process = some (a, wk))
    (et : s'.txns = wakeTxns s.txns wk) (e2 : s'.o.txnMark = a)
    (e1 : s'.tmSent = s.tmSent := by rfl) (e3 : s'.hist = s.hist := by rfl)
    (e4 : s'.o.nextTxnTs = s.o.nextTxnTs := by rfl) : LiveInv n s' := by
  obtain ⟨_, m, ea, ewk, eq⟩ := hI.tmTracks.process hp
  obtain ⟨pre0, epre0, hwm⟩ := hI.tmTracks
  have hget : ∀ t y, s'.txns[t]? = some y → ∃ x, s.txns[t]? = some x ∧ y = wakeOne t wk x :=
    fun t y hy => wakeTxns_getElem?_some (et ▸ hy)
  refine ⟨?_, ?_, ?_, ?_, by rw [e3, e4]; exact h.nextSeen, by rw [e1, e3]; exact h.begun⟩
  · intro t y hy hpk
    obtain ⟨x, hx, rfl⟩ := hget t y hy
    rw [e1, wakeOne_t]
    exact h.parkedSent t x hx (wakeOne_parked _ _ _ hpk).1
  · intro idx w hw y hy hst
    obtain ⟨x, hx, rfl⟩ := hget w y hy
    rw [e1] at hw
    exact h.notStarted idx w hw x hx (wakeOne_started _ _ _ hst)
  · intro pre hpre k hk y hy hpk
    obtain ⟨x, hx, rfl⟩ := hget k.waiter y hy
    obtain ⟨hxp, hany⟩ := wakeOne_parked _ _ _ hpk
    rw [e1, e2] at hpre
    have hpre2 : pre = pre0 ++ [m] := pre_unique _ _ _ _ hpre (by rw [epre0, eq]; simp)
    rw [hpre2, WM.runW_append, List.mem_append] at hk
    rcases hk with hk | hk
    · exact h.emitted pre0 epre0 k hk x hx hxp
    · have : k ∈ wk := by
        rw [ewk, hwm]
        simpa [WM.runW_single, WM.run] using hk
      have : wk.any (fun k' => k'.waiter == k.waiter) = true :=
        List.any_eq_true.mpr ⟨k, this, by simp⟩
      rw [this] at hany; cases hany
  · intro y hy
    obtain ⟨t, ht⟩ := List.mem_iff_getElem?.mp hy
    obtain ⟨x, hx, rfl⟩ := hget t y ht
    rw [wakeOne_t, e3]; exact h.readTsSeen x (List.mem_of_getElem? hx)

theorem LiveInv.step {d : Bool} {n : Nat} {s s' : Sys} {l : Label} (h : LiveInv n s) (hI : SysInv d n s)
    (hs : s.Step d l s') : LiveInv n s' := by
  have nil : ∀ {l : List Mark}, l = l ++ [] := (List.append_nil _).symm
  cases hs with
  | begin u =>
    refine h.send hI [] nil nil fun t y hy => ?_
    rw [List.getElem?_append] at hy
    split at hy
    · exact .inl ⟨y, hy, rfl, id, .inl⟩
    · rename_i hge -- the new entry: the only index at or past the old length that holds something
      rw [List.getElem?_singleton] at hy
      split at hy <;> cases hy
      exact .inr ⟨List.getElem?_eq_none (Nat.le_of_not_lt hge), rfl, rfl⟩
  | @waitFast tid x hx => exact h.setTxn hI hx rfl rfl nofun [] nil nil nofun
  | @waitPark tid x hx hph =>
    exact h.setTxn hI hx rfl rfl nofun [.wait x.t.readTs tid] rfl rfl (fun _ => .inr ⟨hph, by simp⟩) (by simp)
  | procTxnMark hp => exact h.procTxnMark hI hp rfl rfl
  | procReadMark => exact h.send hI [] nil nil fun t y hy => .inl ⟨y, hy, rfl, id, .inl⟩
  | @read tid x fp hx hph => exact h.setTxn hI hx rfl rfl (by simp [hph]) [] nil nil .inl
  | readOnly => exact h
  | @write tid x fp hx hph => exact h.setTxn hI hx rfl rfl (by simp [hph]) [] nil nil .inl
  | @commitConflict tid x hx => exact h.setTxn hI hx rfl rfl nofun [] nil nil nofun
  | @commitOk tid x hx =>
    exact h.setTxn hI hx rfl rfl nofun [.begin s.o.nextTxnTs] rfl rfl nofun (e3 := ⟨[_], rfl, by simp⟩)
      (e4 := .inr (by simp [commitO, Oracle.alloc, Oracle.pruned])) -- `nextTxnTs - 1` is the timestamp just handed out
  | @discard tid x hx => exact h.setTxn hI hx rfl rfl nofun [] nil nil nofun
  | @doneCommit ts => exact h.send hI [.done ts] rfl rfl fun t y hy => .inl ⟨y, hy, rfl, id, .inl⟩
  | cleanup => exact h.send hI [] nil nil fun t y hy => .inl ⟨y, hy, rfl, id, .inl⟩

/-- Converse of `SysInv.applied_of_tracks`: once every commit at or below a read timestamp that was handed out
    is reported done, `txnMark` reaches it as soon as its channel is drained. -/
theorem LiveInv.txnMark_reaches {d : Bool} {n : Nat} {s : Sys} (hL : LiveInv n s) (hI : SysInv d n s) {x : TxnSt}
    (hx : x ∈ s.txns) (hall : ∀ e ∈ s.hist, e.ts ≤ x.t.readTs → e.ts ∈ s.doneCommits) :
    x.t.readTs ≤ ((WM.opened n).run s.tmSent).doneUntil := by
  apply WM.opened_progress n s.tmSent hI.tmOK
  · refine (hL.readTsSeen x hx).imp_right fun e => ?_
    obtain ⟨e0, he0, ee⟩ := List.mem_map.mp e
    exact ⟨(e0.ts, false), List.mem_flatMap.mpr ⟨.begin e0.ts, hL.begun e0 he0, by simp [Mark.procs]⟩, ee⟩
  · intro i hi
    have hc := hI.tmCnt i
    simp only [tmGhost, Ghost.run_cnt, Ghost.opened] at hc
    by_cases hmem : i ∈ s.allocatedNotDone
    · exfalso
      obtain ⟨hm1, hm2⟩ := (mem_allocatedNotDone s i).mp hmem
      obtain ⟨e0, he0, ee⟩ := List.mem_map.mp hm1
      exact hm2 (ee ▸ hall e0 he0 (by rw [ee]; exact hi))
    · rw [if_neg hmem] at hc; omega

theorem OReach.live {d : Bool} {n : Nat} {s : Sys} (h : OReach false d n s) : LiveInv n s := by
  induction h with
  | init => exact LiveInv.init d n
  | step _ hr hstep ih => exact ih.step hr.inv (.of_step hr.inv hstep)

end Badger
