import BadgerProofs.Lemmas.TableIter
/-!
Scans of a table satisfying `TableOK`. `Out G it l`: a scan from `it` delivers exactly `l`, the
entries from the iterator's position on in its direction. `Iterator.Next` takes the head off.
-/
namespace Badger.Tbl
open Badger

variable {env : Env} {t : TableCore} {G : List (List Entry)}

def Out (G : List (List Entry)) (it : TIter) (l : List Entry) : Prop :=
  (∃ p e, AtPos G it p e ∧
    l = if it.reversed then (G.flatten.take (p + 1)).reverse else G.flatten.drop p) ∨
  (it.err = some .eof ∧ l = [])

theorem Out.valid_iff {it : TIter} {l : List Entry} (h : Out G it l) : it.valid = true ↔ l ≠ [] := by
  rcases h with ⟨p, e, h, rfl⟩ | ⟨herr, rfl⟩
  · have := lt_of_getElem?_some h.get
    simp only [TIter.valid, h.err, Option.isNone_none, true_iff]
    refine List.ne_nil_of_length_pos ?_
    split <;> simp only [List.length_reverse, List.length_take, List.length_drop] <;> omega
  · simp [TIter.valid, herr]

theorem apiRewind_out (ok : TableOK env t G) (hG : G ≠ []) (it : TIter) :
    ∃ it', it.apiRewind env t = some it' ∧ it'.reversed = it.reversed ∧ it'.valid = true ∧
      Out G it' (if it.reversed then G.flatten.reverse else G.flatten) := by
  obtain ⟨it', e, hrw, hrev, hat⟩ := apiRewind_pos ok hG it
  refine ⟨it', hrw, hrev, by simp [TIter.valid, hat.err], Or.inl ⟨_, e, hat, ?_⟩⟩
  have hpos := lt_of_getElem?_some hat.get
  rw [hrev]
  cases it.reversed with
  | true => simp only [if_true, Nat.sub_add_cancel (Nat.zero_lt_of_lt hpos), List.take_length]
  | false => rfl

theorem apiNext_out (ok : TableOK env t G) (hexp : ∀ e ∈ G.flatten, e.vs.expiresAt < 2 ^ 64)
    {it : TIter} {e : Entry} {l : List Entry} (h : Out G it (e :: l)) :
    decodeVS it.val = some e.vs ∧ (⟨it.key, e.vs⟩ : Entry) = e ∧
      ∃ it', it.apiNext env t = some it' ∧ it'.reversed = it.reversed ∧ Out G it' l := by
  rcases h with ⟨p, e0, h, hl⟩ | ⟨_, hl⟩
  · unfold TIter.apiNext
    cases hrev : it.reversed with
    | false =>
      rw [hrev, if_neg Bool.false_ne_true, drop_eq_cons_of_get h.get] at hl
      cases hl
      obtain ⟨_, hd, hent⟩ := h.entry (hexp e (List.mem_of_getElem? h.get))
      obtain ⟨it', hnext, hrev', hcase⟩ := next_pos ok h
      refine ⟨hd, hent, it', hnext, hrev'.trans hrev, ?_⟩
      rcases hcase with ⟨e', h'⟩ | ⟨hend, herr⟩
      · exact Or.inl ⟨_, e', h', by rw [hrev', hrev]; rfl⟩
      · exact Or.inr ⟨herr, List.drop_of_length_le (by omega)⟩
    | true =>
      rw [hrev, if_pos rfl, take_succ_of_get h.get, List.reverse_append, List.reverse_singleton,
        List.singleton_append] at hl
      cases hl
      obtain ⟨_, hd, hent⟩ := h.entry (hexp e (List.mem_of_getElem? h.get))
      obtain ⟨it', hprev, hrev', hcase⟩ := prev_pos ok h
      refine ⟨hd, hent, it', hprev, hrev'.trans hrev, ?_⟩
      rcases hcase with ⟨p', e', rfl, h'⟩ | ⟨rfl, herr⟩
      · exact Or.inl ⟨_, e', h', by rw [hrev', hrev]; rfl⟩
      · exact Or.inr ⟨herr, rfl⟩
  · cases hl

theorem scan_out (ok : TableOK env t G) (hexp : ∀ e ∈ G.flatten, e.vs.expiresAt < 2 ^ 64) :
    ∀ (l : List Entry) (it : TIter), Out G it l → ∀ fuel, l.length < fuel →
      TIter.scan (fun it => it.apiNext env t) fuel it = some l := by
  intro l
  induction l with
  | nil =>
    intro it h fuel hf
    obtain ⟨f, rfl⟩ := Nat.exists_eq_add_one_of_ne_zero (Nat.ne_of_gt hf)
    have : it.valid = false := by simpa using h.valid_iff
    simp [TIter.scan, this]
  | cons e l ih =>
    intro it h fuel hf
    obtain ⟨f, rfl⟩ := Nat.exists_eq_add_one_of_ne_zero (Nat.ne_of_gt (Nat.zero_lt_of_lt hf))
    obtain ⟨hd, hent, it', hstep, _, h'⟩ := apiNext_out ok hexp h
    simp only [TIter.scan, h.valid_iff.mpr (List.cons_ne_nil e l), if_true, hd, Option.bind_some, hstep,
      ih it' h' f (Nat.lt_of_succ_lt_succ hf), hent]

theorem entries_ok (ok : TableOK env t G) (hG : G ≠ [])
    (hexp : ∀ e ∈ G.flatten, e.vs.expiresAt < 2 ^ 64) (fuel : Nat) (hfuel : G.flatten.length < fuel) (rev : Bool) :
    t.entries env rev fuel = some (if rev then G.flatten.reverse else G.flatten) := by
  obtain ⟨it', hrw, _, _, hout⟩ := apiRewind_out ok hG ({ reversed := rev } : TIter)
  unfold TableCore.entries
  rw [hrw, Option.bind_some]
  exact scan_out ok hexp _ it' hout fuel (by split <;> simpa using hfuel)

end Badger.Tbl
