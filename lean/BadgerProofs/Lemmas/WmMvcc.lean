import BadgerModel.Mvcc
/-!
# The read watermark of `Mvcc.lean` (`Wm`): what `begin` / `done` preserve

`Wm` is `y.WaterMark` after its channel has been drained: a sorted list of (index, pending count)
and `doneUntil`. What one `begin` / `done` of an index guarantees is collected in `Marked` (theorem
`marked`), the form in which `Lemmas/DbInv.lean` and `Props/C01Db.lean` use it:
* the list stays sorted and at or above `doneUntil` (`Ok`), and `doneUntil` never decreases,
* the pending count of an index only changes by the `±1` of its own `begin` / `done`, except that
  counts `≤ 0` may be forgotten,
* `doneUntil` moves only to an index that was pending or is the one marked.
With `doneUntil_le_of_pos` (it never passes an index that still has a positive count) this is why an
open reader holds the discard watermark back.
-/
namespace Badger
namespace WmL

/-- total pending count recorded for index `i` -/
def pendSum (p : List (Nat × Int)) (i : Nat) : Int := ((p.filter (fun x => x.1 == i)).map (·.2)).sum

def Sorted (p : List (Nat × Int)) : Prop := p.Pairwise (fun a b => a.1 < b.1)

structure Ok (w : Wm) : Prop where
  sorted : Sorted w.pend
  lower : ∀ x ∈ w.pend, w.doneUntil ≤ x.1

@[simp] theorem pendSum_nil (i : Nat) : pendSum [] i = 0 := rfl

theorem pendSum_cons (x : Nat × Int) (p : List (Nat × Int)) (i : Nat) :
    pendSum (x :: p) i = (if i = x.1 then x.2 else 0) + pendSum p i := by
  unfold pendSum
  by_cases h : i = x.1
  · simp [h]
  · simp [h, Ne.symm h]

theorem pendSum_append (a b : List (Nat × Int)) (i : Nat) :
    pendSum (a ++ b) i = pendSum a i + pendSum b i := by
  unfold pendSum
  rw [List.filter_append, List.map_append, List.sum_append]

theorem ins_mem {idx : Nat} {d : Int} {p : List (Nat × Int)} {x : Nat × Int}
    (h : x ∈ Wm.bump.ins idx d p) : x.1 = idx ∨ x ∈ p := by
  fun_induction Wm.bump.ins idx d p with
  | case1 => exact .inl (congrArg Prod.fst (List.mem_singleton.mp h)) -- end of the list
  | case2 j c rest hlt => exact (List.mem_cons.mp h).imp (congrArg Prod.fst) id -- `idx < j`: put in front
  | case3 j c rest hnlt heq => -- `idx = j`: added to the count
    rcases List.mem_cons.mp h with rfl | h'
    · have : idx = j := by simpa using heq
      exact .inl this.symm
    · exact .inr (List.mem_cons_of_mem _ h')
  | case4 j c rest hnlt hne ih => -- `j < idx`: further down
    rcases List.mem_cons.mp h with rfl | h'
    · exact .inr List.mem_cons_self
    · exact (ih h').imp_right (List.mem_cons_of_mem _)

theorem ins_sorted {idx : Nat} {d : Int} {p : List (Nat × Int)} (hs : Sorted p) :
    Sorted (Wm.bump.ins idx d p) := by
  fun_induction Wm.bump.ins idx d p with
  | case1 => exact List.pairwise_singleton _ _ -- end of the list
  | case2 j c rest hlt => -- `idx < j`: put in front
    refine List.pairwise_cons.mpr ⟨fun b hb => ?_, hs⟩
    rcases List.mem_cons.mp hb with rfl | hb'
    · exact hlt
    · exact Nat.lt_trans hlt ((List.pairwise_cons.mp hs).1 b hb')
  | case3 j c rest hnlt heq => exact List.pairwise_cons.mpr (List.pairwise_cons.mp hs) -- `idx = j`: added to the count
  | case4 j c rest hnlt hne ih => -- `j < idx`: further down
    obtain ⟨h1, h2⟩ := List.pairwise_cons.mp hs
    refine List.pairwise_cons.mpr ⟨fun b hb => ?_, ih h2⟩
    rcases ins_mem hb with hb1 | hb1
    · have : ¬ idx = j := by simpa using hne
      show j < b.1
      omega
    · exact h1 b hb1

theorem ins_sum (idx : Nat) (d : Int) (p : List (Nat × Int)) (i : Nat) :
    pendSum (Wm.bump.ins idx d p) i = pendSum p i + (if i = idx then d else 0) := by
  fun_induction Wm.bump.ins idx d p with
  | case1 => rw [pendSum_cons]; exact Int.add_comm _ _ -- end of the list
  | case2 j c rest hlt => rw [pendSum_cons]; exact Int.add_comm _ _ -- `idx < j`: put in front
  | case3 j c rest hnlt heq => -- `idx = j`: added to the count
    have : idx = j := by simpa using heq
    subst this
    rw [pendSum_cons, pendSum_cons]
    by_cases hi : i = idx
    · rw [if_pos hi, if_pos hi, if_pos hi]
      exact Int.add_right_comm _ _ _
    · rw [if_neg hi, if_neg hi, if_neg hi]
      exact (Int.add_zero _).symm
  | case4 j c rest hnlt hne ih => -- `j < idx`: further down
    rw [pendSum_cons, pendSum_cons, ih]
    exact (Int.add_assoc _ _ _).symm

theorem bump_ok {w : Wm} (h : Ok w) (idx : Nat) (d : Int) (hi : w.doneUntil ≤ idx) : Ok (w.bump idx d) := by
  refine ⟨ins_sorted h.sorted, fun x hx => ?_⟩
  rcases ins_mem hx with h1 | h1
  · show w.doneUntil ≤ x.1; omega
  · exact h.lower x h1

/-- `advance` drops a prefix of counts `≤ 0` and moves `doneUntil` to the last index dropped -/
theorem go_spec (p : List (Nat × Int)) (u : Nat) (hs : Sorted p) (hl : ∀ x ∈ p, u ≤ x.1) :
    ∃ pre, p = pre ++ (Wm.advance.go p u).1 ∧ (∀ x ∈ pre, x.2 ≤ 0) ∧ u ≤ (Wm.advance.go p u).2 ∧
      (∀ x ∈ (Wm.advance.go p u).1, (Wm.advance.go p u).2 ≤ x.1) ∧
      ((Wm.advance.go p u).2 = u ∨ ∃ x ∈ pre, (Wm.advance.go p u).2 = x.1) := by
  fun_induction Wm.advance.go p u with
  | case1 u => exact ⟨[], rfl, List.forall_mem_nil _, Nat.le_refl _, List.forall_mem_nil _, .inl rfl⟩ -- nothing pending
  | case2 i c rest u hc => exact ⟨[], rfl, List.forall_mem_nil _, Nat.le_refl _, hl, .inl rfl⟩ -- the minimum has work: stop
  | case3 i c rest u hc ih => -- the minimum has none: popped, `doneUntil` moves to it
    obtain ⟨h1, h2⟩ := List.pairwise_cons.mp hs
    obtain ⟨pre, hp, hpre, hu, hlow, hsrc⟩ := ih h2 (fun x hx => Nat.le_of_lt (h1 x hx))
    refine ⟨(i, c) :: pre, congrArg ((i, c) :: ·) hp, fun x hx => ?_,
      Nat.le_trans (hl _ List.mem_cons_self) hu, hlow, .inr ?_⟩
    · rcases List.mem_cons.mp hx with rfl | hx'
      · exact Int.not_lt.mp hc
      · exact hpre x hx'
    · rcases hsrc with e | ⟨x, hx, e⟩
      · exact ⟨(i, c), List.mem_cons_self, e⟩
      · exact ⟨x, List.mem_cons_of_mem _ hx, e⟩

theorem pendSum_nonpos {pre : List (Nat × Int)} (h : ∀ x ∈ pre, x.2 ≤ 0) (i : Nat) : pendSum pre i ≤ 0 := by
  induction pre with
  | nil => exact Int.le_refl _
  | cons x xs ih =>
    have h1 := h x List.mem_cons_self
    have h2 := ih (fun y hy => h y (List.mem_cons_of_mem _ hy))
    rw [pendSum_cons]
    omega

theorem doneUntil_le_of_pos {w : Wm} (h : Ok w) {i : Nat} (hp : 0 < pendSum w.pend i) : w.doneUntil ≤ i := by
  obtain ⟨x, hx⟩ := List.exists_mem_of_ne_nil (w.pend.filter (fun x => x.1 == i)) fun hnil => by
    rw [pendSum, hnil] at hp
    exact absurd hp (by decide)
  obtain ⟨hxm, hxi⟩ := List.mem_filter.mp hx
  exact beq_iff_eq.mp hxi ▸ h.lower x hxm

/-- What `begin` (`d = 1`) or `done` (`d = -1`) of an index the watermark has not passed guarantees: counts `≤ 0` at
    the front are forgotten and `doneUntil` moves to the last index forgotten. -/
structure Marked (w : Wm) (idx : Nat) (d : Int) (w' : Wm) : Prop where
  ok : Ok w'
  mono : w.doneUntil ≤ w'.doneUntil
  sum : ∀ i, pendSum w.pend i + (if i = idx then d else 0) ≤ pendSum w'.pend i
  mem : ∀ x ∈ w'.pend, x.1 = idx ∨ x ∈ w.pend
  src : w'.doneUntil = w.doneUntil ∨ w'.doneUntil = idx ∨ ∃ x ∈ w.pend, w'.doneUntil = x.1

theorem marked {w : Wm} (h : Ok w) (idx : Nat) (d : Int) (hi : w.doneUntil ≤ idx) :
    Marked w idx d (w.bump idx d).advance := by
  have hb := bump_ok h idx d hi
  obtain ⟨pre, hp, hpre, hu, hlow, hsrc⟩ := go_spec (w.bump idx d).pend w.doneUntil hb.sorted hb.lower
  have hs := hb.sorted
  rw [hp] at hs
  refine ⟨⟨(List.pairwise_append.mp hs).2.1, hlow⟩, hu, fun i => ?_,
    fun x hx => ins_mem (hp ▸ List.mem_append_right _ hx), ?_⟩
  · have e : pendSum (w.bump idx d).pend i = pendSum pre i + pendSum (w.bump idx d).advance.pend i := by
      rw [← pendSum_append]; exact congrArg (pendSum · i) hp
    have := pendSum_nonpos hpre i
    rw [← ins_sum]
    show pendSum (w.bump idx d).pend i ≤ _
    omega
  · exact hsrc.imp_right fun ⟨x, hx, e⟩ =>
      (ins_mem (hp ▸ List.mem_append_left _ hx)).imp e.trans fun hx => ⟨x, hx, e⟩

end WmL
end Badger
