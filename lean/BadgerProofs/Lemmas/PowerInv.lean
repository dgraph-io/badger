import BadgerProofs.Lemmas.PowerFs
import BadgerProofs.Lemmas.CrashInv
/-!
The invariant that ties the logical state of the protocol machine to the power-loss view
(`PInv`), by region of the directory. It sits on top of the kill invariant `Inv` (stated on
the `fv` component of the view).

`qupd`, `memQ`, `sstQ` and the `qrun_*` equations mirror `upd`, `memView`, `sstView` and `krun_*` of CrashInv
for `PV`-valued views (an update outside a region leaves its view alone: `memQ_qupd_ne`, `sstQ_qupd_ne`, of which
`memQ_qupd_sst … sstQ_qupd_manifest` are the instances by name). `QOk` is the part that does not depend on the protocol: how the four
candidates of one name hang together (a name bound alike in both directories has two candidates only; a
zero-length file has no content); every operation but `rename` keeps it (`QOk_qrun`).
-/
namespace Badger

def qupd (Q : QFs) (p : Path) (v : PV) : QFs := fun q => if q = p then v else Q q

@[simp] theorem qupd_same (Q : QFs) (p : Path) (v : PV) : qupd Q p v p = v := by simp [qupd]
theorem qupd_ne (Q : QFs) (p q : Path) (v : PV) (h : q ≠ p) : qupd Q p v q = Q q := by simp [qupd, h]

def memQ (Q : QFs) : Nat → PV := fun n => Q (.mem n)
def sstQ (Q : QFs) : Nat → PV := fun n => Q (.sst n)

theorem memQ_qupd_ne (Q : QFs) {p : Path} (v : PV) (h : ∀ n, p ≠ .mem n) :
    memQ (qupd Q p v) = memQ Q := by
  funext n; exact qupd_ne Q p _ v (h n).symm
theorem sstQ_qupd_ne (Q : QFs) {p : Path} (v : PV) (h : ∀ n, p ≠ .sst n) :
    sstQ (qupd Q p v) = sstQ Q := by
  funext n; exact qupd_ne Q p _ v (h n).symm

@[simp] theorem memQ_qupd_sst (Q : QFs) (i : Nat) (v : PV) : memQ (qupd Q (.sst i) v) = memQ Q :=
  memQ_qupd_ne Q v (by simp)
@[simp] theorem memQ_qupd_vlog (Q : QFs) (i : Nat) (v : PV) : memQ (qupd Q (.vlog i) v) = memQ Q :=
  memQ_qupd_ne Q v (by simp)
@[simp] theorem memQ_qupd_manifest (Q : QFs) (v : PV) : memQ (qupd Q .manifest v) = memQ Q :=
  memQ_qupd_ne Q v (by simp)
@[simp] theorem sstQ_qupd_mem (Q : QFs) (i : Nat) (v : PV) : sstQ (qupd Q (.mem i) v) = sstQ Q :=
  sstQ_qupd_ne Q v (by simp)
@[simp] theorem sstQ_qupd_vlog (Q : QFs) (i : Nat) (v : PV) : sstQ (qupd Q (.vlog i) v) = sstQ Q :=
  sstQ_qupd_ne Q v (by simp)
@[simp] theorem sstQ_qupd_manifest (Q : QFs) (v : PV) : sstQ (qupd Q .manifest v) = sstQ Q :=
  sstQ_qupd_ne Q v (by simp)
theorem memQ_qupd_mem (Q : QFs) (i : Nat) (v : PV) :
    memQ (qupd Q (.mem i) v) = fun n => if n = i then v else memQ Q n := by
  funext n; simp [memQ, qupd]
theorem sstQ_qupd_sst (Q : QFs) (i : Nat) (v : PV) :
    sstQ (qupd Q (.sst i) v) = fun n => if n = i then v else sstQ Q n := by
  funext n; simp [sstQ, qupd]

/-- the view of a name after `z.MmapFile.Delete` (ftruncate(0) + unlink) -/
def delPV (v : PV) : PV :=
  { fv := none, fd := none, dv := if v.lk then v.fv.map (truncChunks 0) else v.dv, dd := v.dd,
    lk := (if v.lk then v.fv.map (truncChunks 0) else v.dv).isNone }

def syncDirQ (Q : QFs) : QFs := fun q => { Q q with dv := (Q q).fv, dd := (Q q).fd, lk := true }

theorem qrun_mkFile (Q : QFs) (p : Path) :
    qrun Q (mkFile p) = qupd Q p { fv := some { chunks := [], size := .alloc }, fd := some { chunks := [], size := .alloc },
                                   dv := (Q p).dv, dd := (Q p).dd, lk := false } := by
  funext q
  dsimp only [mkFile, qrun_cons, qrun_nil, qstep, qupd]
  by_cases h : q = p <;> simp [h, PV.setV, PV.setD]

theorem qrun_delFile (Q : QFs) (p : Path) : qrun Q (delFile p) = qupd Q p (delPV (Q p)) := by
  funext q
  dsimp only [delFile, qrun_cons, qrun_nil, qstep, qupd, delPV]
  by_cases h : q = p <;> simp [h, PV.setV]

theorem qrun_append1 (Q : QFs) (p : Path) (c : Chunk) :
    qrun Q [.append p c] = qupd Q p ((Q p).setV ((Q p).fv.map (appendChunk c))) := rfl
theorem qrun_truncate1 (Q : QFs) (p : Path) (n : Nat) :
    qrun Q [.truncate p n] = qupd Q p ((Q p).setV ((Q p).fv.map (truncChunks n))) := rfl
theorem qrun_sync1 (Q : QFs) (p : Path) : qrun Q [.sync p] = qupd Q p ((Q p).setD (Q p).fv) := rfl
@[simp] theorem qrun_zero1 (Q : QFs) (p : Path) : qrun Q [.zero p] = Q := rfl
theorem qrun_syncDir1 (Q : QFs) : qrun Q [.syncDir] = syncDirQ Q := rfl

theorem fvOf_qupd (Q : QFs) (p : Path) (v : PV) : fvOf (qupd Q p v) = upd (fvOf Q) p v.fv := by
  funext q; simp only [fvOf, qupd, upd]; by_cases h : q = p <;> simp [h]

def zcOk (o : Option Inode) : Prop := ∀ f, o = some f → f.size = .zero → f.chunks = []

structure PVOk (v : PV) : Prop where
  lkv : v.lk = true → v.dv = v.fv
  lkd : v.lk = true → v.dd = v.fd
  fvd : v.fv.isNone = v.fd.isNone
  dvd : v.dv.isNone = v.dd.isNone
  z1 : zcOk v.fv
  z2 : zcOk v.fd
  z3 : zcOk v.dv
  z4 : zcOk v.dd

def QOk (Q : QFs) : Prop := ∀ p, PVOk (Q p)

theorem zcOk_none : zcOk none := by intro f h; cases h
theorem zcOk_some (x : Inode) (h : x.size = .zero → x.chunks = []) : zcOk (some x) := by
  intro f hf hz; cases hf; exact h hz

theorem zcOk_map_append (c : Chunk) (o : Option Inode) : zcOk (o.map (appendChunk c)) := by
  intro f h hz
  exact absurd hz (size_ne_zero_of_map_appendChunk h)
theorem zcOk_map_trunc (n : Nat) (o : Option Inode) : zcOk (o.map (truncChunks n)) := by
  intro f h hz
  obtain ⟨g, _, rfl⟩ := Option.map_eq_some_iff.mp h
  by_cases hn : n = 0
  · subst hn; simp [truncChunks]
  · simp [truncChunks, hn] at hz

theorem PVOk_default : PVOk {} :=
  ⟨fun _ => rfl, fun _ => rfl, rfl, rfl, zcOk_none, zcOk_none, zcOk_none, zcOk_none⟩

theorem PVOk_linked (x y : Inode) (hx : x.size = .zero → x.chunks = []) (hy : y.size = .zero → y.chunks = []) :
    PVOk { fv := some x, fd := some y, dv := some x, dd := some y, lk := true } :=
  ⟨fun _ => rfl, fun _ => rfl, rfl, rfl, zcOk_some _ hx, zcOk_some _ hy, zcOk_some _ hx, zcOk_some _ hy⟩

theorem PVOk_setV (v : PV) (h : PVOk v) (f : Option Inode) (hf : f.isNone = v.fv.isNone) (hz : zcOk f) :
    PVOk (v.setV f) := by
  by_cases hl : v.lk = true
  · exact ⟨fun _ => by simp [PV.setV, hl], fun _ => h.lkd hl,
      by simpa [PV.setV, hf] using h.fvd,
      by simp only [PV.setV, hl, if_true]; rw [hf, h.fvd, ← h.lkd hl],
      hz, h.z2, by simpa [PV.setV, hl] using hz, h.z4⟩
  · have hl' : v.lk = false := by simpa using hl
    exact ⟨fun e => by simp [PV.setV, hl'] at e, fun e => by simp [PV.setV, hl'] at e,
      by simpa [PV.setV, hf] using h.fvd, by simpa [PV.setV, hl'] using h.dvd,
      hz, h.z2, by simpa [PV.setV, hl'] using h.z3, h.z4⟩

theorem PVOk.swap {v : PV} (h : PVOk v) : PVOk v.swap :=
  ⟨h.lkd, h.lkv, h.fvd.symm, h.dvd.symm, h.z2, h.z1, h.z4, h.z3⟩

theorem PVOk_setD (v : PV) (h : PVOk v) (f : Option Inode) (hf : f.isNone = v.fd.isNone) (hz : zcOk f) :
    PVOk (v.setD f) :=
  (PVOk_setV v.swap h.swap f hf hz).swap

theorem QOk_qupd {Q : QFs} (h : QOk Q) (p : Path) {v : PV} (hv : PVOk v) : QOk (qupd Q p v) := by
  intro q
  unfold qupd
  split
  · exact hv
  · exact h q

theorem QOk_qstep (Q : QFs) (h : QOk Q) (op : FsOp) (hr : op.isRename = false) : QOk (qstep Q op) := by
  cases op with
  | rename a b => cases hr
  | create p =>
    have hv := h p
    exact QOk_qupd h p ⟨(fun e => by cases e), (fun e => by cases e), rfl, hv.dvd,
      (by intro f hf _; cases hf; rfl), (by intro f hf _; cases hf; rfl), hv.z3, hv.z4⟩
  | extend p =>
    refine QOk_qupd h p ?_
    cases hf : (Q p).fv with
    | none => exact h p
    | some f =>
      have h1 := PVOk_setV (Q p) (h p) (some { f with size := .alloc }) (by simp [hf]) (by
        intro g hg hz; cases hg; simp at hz)
      refine PVOk_setD _ h1 (some { chunks := [], size := .alloc }) ?_ (by intro g hg _; cases hg; rfl)
      have := h1.fvd
      simp only [PV.setV] at this ⊢
      rw [← this]; rfl
  | append p c => exact QOk_qupd h p (PVOk_setV _ (h p) _ (by cases (Q p).fv <;> rfl) (zcOk_map_append _ _))
  | zero p => exact h
  | truncate p n => exact QOk_qupd h p (PVOk_setV _ (h p) _ (by cases (Q p).fv <;> rfl) (zcOk_map_trunc _ _))
  | sync p => exact QOk_qupd h p (PVOk_setD _ (h p) _ (h p).fvd (h p).z1)
  | unlink p =>
    have hv := h p
    refine QOk_qupd h p ⟨?_, ?_, rfl, hv.dvd, zcOk_none, zcOk_none, hv.z3, hv.z4⟩
    · exact fun e => Option.isNone_iff_eq_none.mp e
    · exact fun e => Option.isNone_iff_eq_none.mp (hv.dvd ▸ e)
  | syncDir =>
    intro q
    have hv := h q
    exact ⟨fun _ => rfl, fun _ => rfl, hv.fvd, hv.fvd, hv.z1, hv.z2, hv.z1, hv.z2⟩

theorem QOk_qrun (Q : QFs) (h : QOk Q) (ops : List FsOp) (hr : ∀ op ∈ ops, op.isRename = false) :
    QOk (qrun Q ops) := by
  induction ops generalizing Q with
  | nil => exact h
  | cons op ops ih =>
    exact ih _ (QOk_qstep Q h op (hr op List.mem_cons_self)) (fun o ho => hr o (List.mem_cons_of_mem _ ho))

def isTable (o : Option Inode) (es : List CEnt) : Prop := ∃ f, o = some f ∧ f.chunks = [.table es]

/-- the MANIFEST: bound durably; its page-cache content replays to `tset`, its durable content to
    `tsetD` -/
structure PMan (tset tsetD : List (Nat × Nat)) (mdirty : Bool) (v : PV) : Prop where
  lk : v.lk = true
  vol : ∃ sets sz, v.fv = some { chunks := .mhdr :: sets, size := sz } ∧ replayMSets [] sets = some tset
  dur : ∃ sets sz, v.fd = some { chunks := .mhdr :: sets, size := sz } ∧ replayMSets [] sets = some tsetD
  clean : mdirty = false → tsetD = tset

/-- the table files. `fl3 fl4 fl6` are about the flush in progress and are named by the value of the
    flusher's program counter `fpc` at which they begin to hold (`flushAtom`: at 2 it syncs the new
    table `fsst`, at 3 the directory, at 4 it appends to the MANIFEST, at 5 it syncs the MANIFEST, at 6
    it deletes the log): the table is durably what the memtable holds, its name is durable, the durable
    MANIFEST lists it. -/
structure PSst (tset tsetD : List (Nat × Nat)) (tcont : List (Nat × List CEnt)) (imm : List Nat)
    (mtxns : List (Nat × List Txn)) (fpc fsst nextSst : Nat) (kout : List KOut) (kdir : Bool)
    (Qs : Nat → PV) : Prop where
  tables : ∀ id, ((aget id tset).isSome ∨ (aget id tsetD).isSome) →
    (Qs id).lk = true ∧ isTable (Qs id).fv (entsOfTable tcont id) ∧ isTable (Qs id).fd (entsOfTable tcont id)
  dLt : ∀ n, nextSst ≤ n → aget n tsetD = none
  fl3 : ∀ k, imm.head? = some k → 3 ≤ fpc → fpc ≤ 4 → isTable (Qs fsst).fd (entsOfMem mtxns k)
  fl4 : imm ≠ [] → fpc = 4 → (Qs fsst).lk = true
  fl6 : imm ≠ [] → 6 ≤ fpc → (aget fsst tsetD).isSome
  kout3 : ∀ o ∈ kout, o.stage = 3 → isTable (Qs o.id).fd o.ents
  kdirOk : kdir = true → ∀ o ∈ kout, 1 ≤ o.stage ∧ (Qs o.id).lk = true

/-- the memtable logs. In `curP`, about the active one, `f` is its durable content and `jd` the
    number of its transactions that `f` holds, a prefix of them (`take jd`): all, when the log is
    clean; and at least the acknowledged ones (`acked + length ≤ done + jd`: the transactions missing
    from `f` are among the `done - acked` unacknowledged ones). While its name is not durable
    (`lk = false`) a power loss may leave no such file (`dv = dd = none`), and no transaction in it is
    acknowledged. -/
structure PMem (imm : List Nat) (curOpen : Bool) (cur nextMem : Nat) (mtxns : List (Nat × List Txn))
    (curDirty curDurEntry : Bool) (pendU : List (Nat × Nat)) (acked done : Nat)
    (tset tsetD : List (Nat × Nat)) (tcont : List (Nat × List CEnt)) (Qm : Nat → PV) : Prop where
  immP : ∀ k ∈ imm, (Qm k).lk = true ∧ ∃ f, (Qm k).fd = some f ∧ (replayLog f.chunks).ents = entsOfMem mtxns k
  curP : curOpen = true → ∃ f jd, (Qm cur).fd = some f ∧ jd ≤ ((aget cur mtxns).getD []).length ∧
    (replayLog f.chunks).ents = txnsEnts (((aget cur mtxns).getD []).take jd) ∧
    (curDirty = false → jd = ((aget cur mtxns).getD []).length) ∧
    acked + ((aget cur mtxns).getD []).length ≤ done + jd ∧
    (curDurEntry = true → (Qm cur).lk = true) ∧
    ((Qm cur).lk = false → (Qm cur).dv = none ∧ (Qm cur).dd = none ∧
      acked + ((aget cur mtxns).getD []).length ≤ done)
  deadP : ∀ n, n ∉ imm → ¬ (curOpen = true ∧ n = cur) →
    ((Qm n).dv = none ∧ (Qm n).dd = none) ∨
    ((∃ t, (n, t) ∈ pendU) ∧ ∀ f, ((Qm n).dv = some f ∨ (Qm n).dd = some f) →
      ∀ e ∈ (replayLog f.chunks).ents, e ∈ entsOfMem mtxns n)
  pend : ∀ x ∈ pendU, x.1 < nextMem ∧ x.1 ∉ imm ∧ (curOpen = true → x.1 ≠ cur) ∧
    ∀ e ∈ entsOfMem mtxns x.1, (aget x.2 tset).isSome ∧ (aget x.2 tsetD).isSome ∧ e ∈ entsOfTable tcont x.2

/-- the visible state without the active memtable, for both states of the MANIFEST -/
structure PLogic (R : ViewRel) (commits : List Txn) (done : Nat) (curT : List Txn)
    (tcont : List (Nat × List CEnt)) (tset tsetD : List (Nat × Nat)) (mtxns : List (Nat × List Txn))
    (imm : List Nat) : Prop where
  curLe : curT.length ≤ done
  link : commits.take done = commits.take (done - curT.length) ++ curT
  baseV : R.r (tablesEnts tcont tset ++ immsEnts mtxns imm) (txnsEnts (commits.take (done - curT.length)))
  baseD : R.r (tablesEnts tcont tsetD ++ immsEnts mtxns imm) (txnsEnts (commits.take (done - curT.length)))

structure PCore (R : ViewRel) (s : PState) (Q : QFs) : Prop where
  man : PMan s.tset s.tsetD s.mdirty (Q .manifest)
  sst : PSst s.tset s.tsetD s.tcont s.imm s.mtxns s.fpc s.fsst s.nextSst s.kout s.kdir (sstQ Q)
  mem : PMem s.imm s.curOpen s.cur s.nextMem s.mtxns s.curDirty s.curDurEntry s.pendU s.acked s.done
    s.tset s.tsetD s.tcont (memQ Q)
  logic : PLogic R s.commits s.done s.curT s.tcont s.tset s.tsetD s.mtxns s.imm

section frame
variable {R : ViewRel} {s : PState} {Q : QFs}

theorem PCore_upd_sst (id : Nat) (v : PV) (hman : PMan s.tset s.tsetD s.mdirty (Q .manifest))
    (hs : PSst s.tset s.tsetD s.tcont s.imm s.mtxns s.fpc s.fsst s.nextSst s.kout s.kdir
      (fun n => if n = id then v else sstQ Q n))
    (hm : PMem s.imm s.curOpen s.cur s.nextMem s.mtxns s.curDirty s.curDurEntry s.pendU s.acked s.done
      s.tset s.tsetD s.tcont (memQ Q))
    (hl : PLogic R s.commits s.done s.curT s.tcont s.tset s.tsetD s.mtxns s.imm) :
    PCore R s (qupd Q (.sst id) v) where
  man := by rw [qupd_ne _ _ _ _ (by simp)]; exact hman
  sst := by rw [sstQ_qupd_sst]; exact hs
  mem := by rw [memQ_qupd_sst]; exact hm
  logic := hl

theorem PCore_upd_mem (i : Nat) (v : PV) (hman : PMan s.tset s.tsetD s.mdirty (Q .manifest))
    (hs : PSst s.tset s.tsetD s.tcont s.imm s.mtxns s.fpc s.fsst s.nextSst s.kout s.kdir (sstQ Q))
    (hm : PMem s.imm s.curOpen s.cur s.nextMem s.mtxns s.curDirty s.curDurEntry s.pendU s.acked s.done
      s.tset s.tsetD s.tcont (fun n => if n = i then v else memQ Q n))
    (hl : PLogic R s.commits s.done s.curT s.tcont s.tset s.tsetD s.mtxns s.imm) :
    PCore R s (qupd Q (.mem i) v) where
  man := by rw [qupd_ne _ _ _ _ (by simp)]; exact hman
  sst := by rw [sstQ_qupd_mem]; exact hs
  mem := by rw [memQ_qupd_mem]; exact hm
  logic := hl

theorem PCore_upd_manifest (v : PV) (hman : PMan s.tset s.tsetD s.mdirty v)
    (hs : PSst s.tset s.tsetD s.tcont s.imm s.mtxns s.fpc s.fsst s.nextSst s.kout s.kdir (sstQ Q))
    (hm : PMem s.imm s.curOpen s.cur s.nextMem s.mtxns s.curDirty s.curDurEntry s.pendU s.acked s.done
      s.tset s.tsetD s.tcont (memQ Q))
    (hl : PLogic R s.commits s.done s.curT s.tcont s.tset s.tsetD s.mtxns s.imm) :
    PCore R s (qupd Q .manifest v) where
  man := by rw [qupd_same]; exact hman
  sst := by rw [sstQ_qupd_manifest]; exact hs
  mem := by rw [memQ_qupd_manifest]; exact hm
  logic := hl

end frame

structure PInv (R : ViewRel) (s : PState) (Q : QFs) : Prop where
  fix : s.cfg.dirSyncFix = true
  sw : s.cfg.syncWrites = true
  qok : QOk Q
  core : PCore R s Q

end Badger
