import BadgerModel.ManifestPb
import BadgerProofs.Lemmas.Crc
import BadgerProofs.Lemmas.Lists
import BadgerProofs.Lemmas.Varint
/-!
The concrete codec of the driver (`pbCodec`: protobuf wire format, bit-level CRC32-C, ids in
ascending order) satisfies the contracts `Codec.Valid` assumed by the C17 / C09 theorems.
The protobuf varint is the binary varint of `Lemmas/Varint` (`pbVarint_eq`, `pbConsumeVarintAux_eq`);
a message is the list of its scalar fields (`pbFields`), and decoding it folds `pbUpd` over them.
-/
namespace Badger

theorem pbVarintF_eq (k n : Nat) : pbVarintF k n = putUvarintF k n := by
  induction k generalizing n with
  | zero => rfl
  | succ k ih => rw [pbVarintF, putUvarintF, ih]

theorem pbVarint_eq (n : Nat) : pbVarint n = putUvarint n := pbVarintF_eq 9 n

/-- `protowire.ConsumeVarint` is `binary.ReadUvarint` without the distinction between the errors
    (`k` = continuation bytes still allowed after byte `i`). -/
theorem pbConsumeVarintAux_eq (i x : Nat) (b : Bytes) : ∀ k, i + k = 9 →
    pbConsumeVarintAux i x b = (readUvarintAux (k + 1) i x b).toOption := by
  fun_induction pbConsumeVarintAux i x b with
  | case1 => exact fun k _ => rfl  -- no byte left
  | case2 x c cs h2 =>  -- tenth byte, 0 or 1
    intro k _
    rw [readUvarintAux, if_pos (by omega), if_neg (by omega)]
    rfl
  | case3 x c cs h2 =>  -- tenth byte, larger: both give up
    intro k hk
    obtain rfl : k = 0 := by omega
    rw [readUvarintAux]
    split
    · rw [if_pos ⟨rfl, by omega⟩]
      rfl
    · rfl
  | case4 i x c cs h9 h128 =>  -- last byte of the varint
    intro k _
    rw [readUvarintAux, if_pos h128, if_neg fun h => h9 h.1]
    rfl
  | case5 i x c cs h9 h128 ih =>  -- continuation byte
    intro k hk
    obtain ⟨k, rfl⟩ : ∃ k', k = k' + 1 := ⟨k - 1, by omega⟩
    have := c.toNat_lt
    rw [readUvarintAux, if_neg h128, ih k (by omega), show c.toNat - 128 = c.toNat % 128 by omega]

theorem pbConsumeVarint_pbVarint (n : Nat) (rest : Bytes) (hn : n < 2 ^ 64) :
    pbConsumeVarint (pbVarint n ++ rest) = some (n, rest) := by
  rw [pbConsumeVarint, pbConsumeVarintAux_eq 0 0 _ 9 rfl, pbVarint_eq]
  exact congrArg Except.toOption (readUvarint_put n rest hn)

theorem pbVarint_length_pos (n : Nat) : 0 < (pbVarint n).length :=
  pbVarint_eq n ▸ putUvarint_length_pos n

theorem pbVarint_append_ne_nil (n : Nat) (rest : Bytes) : pbVarint n ++ rest ≠ [] :=
  List.append_ne_nil_of_left_ne_nil (List.length_pos_iff.mp (pbVarint_length_pos n)) rest

theorem pbVarintF_length_le (k n : Nat) : (pbVarintF k n).length ≤ k + 1 :=
  pbVarintF_eq k n ▸ putUvarintF_length_le k n

/-- What the decoder stores for a varint `v` read for field `num`. -/
def pbSetField (num v : Nat) (c : Change) : Change :=
  if num = 1 then { c with id := v }
  else if num = 2 then { c with op := v % 2 ^ 32 }
  else if num = 3 then { c with level := v % 2 ^ 32 }
  else if num = 4 then { c with keyId := v }
  else if num = 5 then { c with encAlgo := v % 2 ^ 32 }
  else { c with compression := v % 2 ^ 32 }

/-- A proto3 scalar: written (and then decoded) only when non-zero. -/
def pbUpd (num v : Nat) (c : Change) : Change := if v = 0 then c else pbSetField num v c

theorem pbDecodeChangeLoop_field (num v fuel : Nat) (rest : Bytes) (c : Change)
    (h1 : 1 ≤ num) (h6 : num ≤ 6) (hv : v < 2 ^ 64) :
    pbDecodeChangeLoop (fuel + 1) (pbVarint (num * 8) ++ (pbVarint v ++ rest)) c =
      pbDecodeChangeLoop fuel rest (pbSetField num v c) := by
  rw [pbDecodeChangeLoop]
  · rw [pbConsumeVarint_pbVarint (num * 8) _ (by omega)]
    simp only [Nat.mul_div_cancel num (show 0 < 8 by decide), Nat.mul_mod_left]
    have hmax : ¬ (num < 1 ∨ num > pbMaxValidNumber) := by
      unfold pbMaxValidNumber
      omega
    rw [if_neg hmax, if_neg (by decide), if_pos ⟨h1, h6, trivial⟩, pbConsumeVarint_pbVarint v rest hv]
    rfl
  · exact pbVarint_append_ne_nil _ _

/-- The bytes of the scalar fields `fs` (pairs `(number, value)`), in the order they are written. -/
def pbFields (fs : List (Nat × Nat)) : Bytes := fs.flatMap (fun f => pbField f.1 f.2)

/-- More fuel than bytes is enough (the decoder starts with `len + 1`): every round reads a
    field that is present, and such a field has at least one byte. -/
theorem pbDecodeChangeLoop_fields (fs : List (Nat × Nat)) (c : Change)
    (hfs : ∀ f, f ∈ fs → 1 ≤ f.1 ∧ f.1 ≤ 6 ∧ f.2 < 2 ^ 64) (fuel : Nat) (hf : (pbFields fs).length < fuel) :
    pbDecodeChangeLoop fuel (pbFields fs) c = some (fs.foldl (fun c f => pbUpd f.1 f.2 c) c) := by
  induction fs generalizing c fuel with
  | nil =>
    cases fuel with
    | zero => exact absurd hf (Nat.not_lt_zero _)
    | succ g => rfl
  | cons f fs ih =>
    obtain ⟨⟨h1, h6, hv⟩, hfs'⟩ := List.forall_mem_cons.mp hfs
    simp only [pbFields, List.flatMap_cons, List.foldl_cons, List.length_append] at ih hf ⊢
    by_cases h0 : f.2 = 0
    · rw [show pbField f.1 f.2 = [] from if_pos h0] at hf ⊢
      rw [show pbUpd f.1 f.2 c = c from if_pos h0]
      exact ih _ hfs' _ (by rwa [List.length_nil, Nat.zero_add] at hf)
    · cases fuel with
      | zero => exact absurd hf (Nat.not_lt_zero _)
      | succ g =>
        have := pbVarint_length_pos (f.1 * 8)
        rw [show pbField f.1 f.2 = _ from if_neg h0] at hf ⊢
        rw [show pbUpd f.1 f.2 c = _ from if_neg h0, List.append_assoc, pbDecodeChangeLoop_field _ _ _ _ _ h1 h6 hv]
        exact ih _ hfs' _ (by rw [List.length_append] at hf; omega)

theorem pbFields_length (fs : List (Nat × Nat)) : (pbFields fs).length ≤ 20 * fs.length := by
  induction fs with
  | nil => exact Nat.le_refl 0
  | cons f fs ih =>
    have h1 := pbVarintF_length_le 9 (f.1 * 8)
    have h2 := pbVarintF_length_le 9 f.2
    simp only [pbFields, List.flatMap_cons, List.length_append, List.length_cons, pbField, pbVarint] at ih h1 h2 ⊢
    split <;> simp only [List.length_append, List.length_nil] <;> omega

theorem signExtend32_mod (v : Nat) (hv : v < 2 ^ 32) : signExtend32 v % 2 ^ 32 = v := by
  unfold signExtend32
  split <;> omega

theorem signExtend32_lt (v : Nat) (hv : v < 2 ^ 32) : signExtend32 v < 2 ^ 64 := by
  unfold signExtend32
  split <;> omega

/-- The fields `proto.Marshal` writes for a change. -/
def pbChangeFields (c : Change) : List (Nat × Nat) :=
  [(1, c.id), (2, signExtend32 c.op), (3, c.level), (4, c.keyId), (5, signExtend32 c.encAlgo),
   (6, c.compression)]

theorem pbEncodeChange_eq (c : Change) : pbEncodeChange c = pbFields (pbChangeFields c) := by
  simp [pbEncodeChange, pbFields, pbChangeFields]

/-- On a field that is still zero `pbUpd` stores the value, written or omitted. -/
theorem pbUpd_eq (num v : Nat) (c : Change) (h : pbSetField num 0 c = c) :
    pbUpd num v c = pbSetField num v c := by
  unfold pbUpd
  split
  · next h0 => rw [h0, h]
  · rfl

theorem pbUpd_chain (c : Change) (hr : c.InRange) :
    (pbChangeFields c).foldl (fun c f => pbUpd f.1 f.2 c) Change.zero = c := by
  obtain ⟨_, h_op, h_lv, _, h_enc, h_comp⟩ := hr
  obtain ⟨id, op, level, keyId, encAlgo, compression⟩ := c
  simp only [pbChangeFields, List.foldl_cons, List.foldl_nil, Change.zero]
  rw [pbUpd_eq 1 _ _ rfl, pbUpd_eq 2 _ _ rfl, pbUpd_eq 3 _ _ rfl, pbUpd_eq 4 _ _ rfl, pbUpd_eq 5 _ _ rfl,
    pbUpd_eq 6 _ _ rfl]
  simp [pbSetField, signExtend32_mod _ h_op, signExtend32_mod _ h_enc, Nat.mod_eq_of_lt h_lv,
    Nat.mod_eq_of_lt h_comp]

theorem pbDecodeChange_encode (c : Change) (hr : c.InRange) :
    pbDecodeChange (pbEncodeChange c) = some c := by
  unfold pbDecodeChange
  rw [pbEncodeChange_eq, pbDecodeChangeLoop_fields _ _ _ _ (Nat.lt_succ_self _), pbUpd_chain c hr]
  obtain ⟨h_id, h_op, h_lv, h_kid, h_enc, h_comp⟩ := hr
  have := signExtend32_lt _ h_op
  have := signExtend32_lt _ h_enc
  simp only [pbChangeFields, List.forall_mem_cons, List.not_mem_nil, false_imp_iff, implies_true, and_true]
  omega

theorem pbEncodeChange_length_le (c : Change) : (pbEncodeChange c).length ≤ 120 := by
  rw [pbEncodeChange_eq]
  exact pbFields_length (pbChangeFields c)

theorem pbEncodeSet_cons (c : Change) (cs : ChangeSet) :
    pbEncodeSet (c :: cs) =
      pbVarint 10 ++ (pbVarint (pbEncodeChange c).length ++ (pbEncodeChange c ++ pbEncodeSet cs)) := by
  have h10 : pbVarint 10 = [0x0a] := by decide
  simp [pbEncodeSet, h10]

theorem pbDecodeSetLoop_encode (cs : ChangeSet) (hr : ChangeSet.InRange cs) (acc : List Change) (fuel : Nat)
    (hf : (pbEncodeSet cs).length ≤ fuel) :
    pbDecodeSetLoop (fuel + 1) (pbEncodeSet cs) acc = some (acc.reverse ++ cs) := by
  induction cs generalizing acc fuel with
  | nil => simp [pbEncodeSet, pbDecodeSetLoop]
  | cons c cs ih =>
    obtain ⟨hr0, hrs⟩ := List.forall_mem_cons.mp hr
    rw [pbEncodeSet_cons] at hf ⊢
    have := pbVarint_length_pos 10
    simp only [List.length_append] at hf
    obtain ⟨f, rfl⟩ : ∃ f, fuel = f + 1 := ⟨fuel - 1, by omega⟩
    rw [pbDecodeSetLoop]
    · rw [pbConsumeVarint_pbVarint 10 _ (by decide)]
      simp only
      have hmax : ¬ ((10 : Nat) / 8 < 1 ∨ 10 / 8 > pbMaxValidNumber) := by decide
      rw [if_neg hmax, if_neg (by decide), if_pos (by decide)]
      have hlen := pbEncodeChange_length_le c
      rw [pbConsumeVarint_pbVarint _ _ (by omega)]
      simp only
      rw [if_neg (by simp), List.take_left' rfl, List.drop_left' rfl,
        pbDecodeChange_encode c hr0]
      simp only
      rw [ih hrs (c :: acc) f (by omega)]
      simp
    · exact pbVarint_append_ne_nil _ _

theorem pbDecodeSet_encode (cs : ChangeSet) (hr : ChangeSet.InRange cs) :
    pbDecodeSet (pbEncodeSet cs) = some cs := by
  unfold pbDecodeSet
  simpa using pbDecodeSetLoop_encode cs hr [] _ (Nat.le_refl _)

theorem insertById_cons (e x : Nat × TableManifest) (xs : List (Nat × TableManifest)) :
    insertById e (x :: xs) = x :: insertById e xs ∨ insertById e (x :: xs) = e :: x :: xs := by
  rw [insertById]
  split
  · exact .inr rfl
  · exact .inl rfl

theorem sortById_perm (l : List (Nat × TableManifest)) : (sortById l).Perm l :=
  foldr_insert_perm (ins := insertById) (fun _ => rfl) insertById_cons l

theorem pbCodec_valid : pbCodec.Valid where
  crc_lt := crc32c_lt
  dec_enc := pbDecodeSet_encode
  ord_perm := sortById_perm

end Badger
