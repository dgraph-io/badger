import BadgerProofs.Lemmas.Concat
import BadgerProofs.Lemmas.TableSeek
/-!
`ConcatIterator.Seek` over tables with increasing, disjoint key ranges. A linear search through a
concatenation finds the first unit holding a match and then searches inside it (`find?_units`). In a
sorted table `Biggest()` (`Smallest()` for a reversed iterator) tells whether the table holds a match, so
the binary search over the tables finds that unit (`search_units`), and inside it the table-level `Seek`
agrees with the linear search (`seek_at`).
-/
namespace Badger.Tbl
open Badger

/-- `TabOK` plus what `OpenTable` computed: `Smallest()` and `Biggest()`. -/
structure TabOK2 (env : Env) (t : Table) (G : List (List Entry)) : Prop where
  base : TabOK env t G
  big : ∃ e, G.flatten[G.flatten.length - 1]? = some e ∧ t.biggest = e.key
  small : ∃ e, G.flatten[0]? = some e ∧ t.smallest = e.key

def TabsOK2 (env : Env) (ts : List Table) (Gs : List (List (List Entry))) : Prop :=
  ts.length = Gs.length ∧ ∀ (i : Nat) t G, ts[i]? = some t → Gs[i]? = some G → TabOK2 env t G

theorem TabsOK2.toTabsOK {env : Env} {ts : List Table} {Gs : List (List (List Entry))}
    (h : TabsOK2 env ts Gs) : TabsOK env ts Gs :=
  ⟨h.1, fun i t G ht hG => (h.2 i t G ht hG).base⟩

theorem flatAll_eq (Gs : List (List (List Entry))) : flatAll Gs = (Gs.map List.flatten).flatten := rfl

variable {env : Env} {ts : List Table} {Gs : List (List (List Entry))}

theorem mem_flatAll_of {i : Nat} {G : List (List Entry)} {e : Entry}
    (hG : Gs[i]? = some G) (he : e ∈ G.flatten) : e ∈ flatAll Gs :=
  List.mem_flatten.mpr ⟨G.flatten, List.mem_map.mpr ⟨G, List.mem_of_getElem? hG, rfl⟩, he⟩

theorem sorted_table (hs : Sorted (flatAll Gs)) {i : Nat}
    {G : List (List Entry)} (hG : Gs[i]? = some G) : Sorted G.flatten :=
  sorted_of_mem_flatten (G := Gs.map List.flatten) hs (List.mem_map.mpr ⟨G, List.mem_of_getElem? hG, rfl⟩)

/-- `sort.Search` over the units of a concatenation sorted by `R`, the probe at `h` testing the last element
    of unit `h`: that element passes `P` iff some element of the unit does, so the search ends at the first
    unit holding a match. -/
theorem search_units {α U : Type} {R : α → α → Prop} {P : α → Bool}
    (el : U → List α) {us : List U} (hs : (us.map el).flatten.Pairwise R)
    (hP : ∀ {a b}, R a b → P a = true → P b = true) (f : Nat → Unit → Option (Bool × Unit))
    (hf : ∀ h u, us[h]? = some u → ∃ e, (el u).getLast? = some e ∧ f h () = some (P e, ())) :
    ∃ r, searchM f 0 us.length () = some (r, ()) ∧ r ≤ us.length ∧
      (us.map el).flatten.find? P = us[r]?.bind fun u => (el u).find? P := by
  obtain ⟨hin, hbetween⟩ := List.pairwise_flatten.mp hs
  have hany : ∀ h u, us[h]? = some u → ∃ e ∈ el u, (el u).any P = P e ∧ f h () = some (P e, ()) := by
    intro h u hu
    obtain ⟨e, he, hfe⟩ := hf h u hu
    exact ⟨e, List.mem_of_getLast? he,
      any_eq_last (hin _ (List.mem_map.mpr ⟨u, List.mem_of_getElem? hu, rfl⟩)) hP he, hfe⟩
  obtain ⟨r, hsearch, hr, hrn, -⟩ :=
    searchM_list_pure f us (fun u => (el u).any P)
      (fun h u hu => by obtain ⟨e, _, ha, hfe⟩ := hany h u hu; rw [hfe, ha])
      (List.Pairwise.imp_of_mem (fun {a b} _ hb h hc => by
        obtain ⟨x, hx, hPx⟩ := List.any_eq_true.mp hc
        obtain ⟨i, hi⟩ := List.getElem?_of_mem hb
        obtain ⟨e, he, ha, _⟩ := hany i b hi
        rw [ha]; exact hP (h x hx e he) hPx)
        (List.pairwise_map.mp hbetween))
  exact ⟨r, hsearch, hrn, by rw [find?_units, List.find?_eq_getElem?_findIdx, ← hr]⟩

theorem CAt.entry?_eq {s : CIter} {i : Nat} {it : TIter} (h : CAt ts s i it) :
    s.entry? = it.entry? := by
  unfold CIter.entry?; rw [h.cur_eq]

theorem setIdx_neg {s : CIter} (hinv : CInv ts s) :
    CInv ts (s.setIdx (-1)) ∧ (s.setIdx (-1)).reversed = s.reversed ∧ (s.setIdx (-1)).entry? = none := by
  obtain ⟨_, hout, hci⟩ := setIdx_out (ts := ts) (s := s) (-1) (Or.inl (by omega))
  exact ⟨hci hinv, setIdx_reversed s (-1), by unfold CIter.entry?; rw [hout]⟩

/-- The tail of `Seek`: at the index `j` the search computed, out of range when no table holds a match. -/
theorem seek_at (hts : TabsOK env ts Gs) (hs : Sorted (flatAll Gs)) (h8 : ∀ e ∈ flatAll Gs, 8 ≤ e.key.length)
    {s : CIter} (hinv : CInv ts s) (key : Bytes) (hkey : 8 ≤ key.length) (j : Int) :
    ∃ s', (if j ≥ ts.length ∨ j < 0 then some (s.setIdx (-1))
        else (s.setIdx j).onCur ts (fun t it => it.apiSeek env t key)) = some s' ∧ CInv ts s' ∧
      s'.reversed = s.reversed ∧
      s'.entry? = (if j < 0 then none else Gs[j.toNat]?).bind fun G =>
        if s.reversed then G.flatten.reverse.find? (fun e => compareKeys e.key key != .gt)
        else G.flatten.find? (fun e => compareKeys e.key key != .lt) := by
  by_cases hj : j ≥ ts.length ∨ j < 0
  · obtain ⟨h1, h2, h3⟩ := setIdx_neg hinv
    refine ⟨_, if_pos hj, h1, h2, ?_⟩
    rw [h3]
    rcases hj with h | h
    · rw [if_neg (by omega), List.getElem?_eq_none (by rw [← hts.1]; omega)]; rfl
    · rw [if_pos h]; rfl
  · obtain ⟨i, rfl⟩ := Int.eq_ofNat_of_zero_le (Int.not_lt.mp fun h => hj (.inr h))
    have hi : i < ts.length := Int.ofNat_lt.mp (Int.not_le.mp fun h => hj (.inl h))
    obtain ⟨t, ht⟩ := getElem?_some_of_lt ts i hi
    obtain ⟨G, hG⟩ := getElem?_some_of_lt Gs i (hts.1 ▸ hi)
    have tok := hts.2 i t G ht hG
    obtain ⟨it0, hc0, hrev0, hsr0⟩ := setIdx_in_range hinv i hi
    obtain ⟨it1, hap, hrev1, hent⟩ :=
      apiSeek_find tok.ok tok.Gne (sorted_table hs hG) (fun e he => h8 e (mem_flatAll_of hG he)) tok.exp_flatten
        it0 key hkey
    obtain ⟨hon, hc1, hsr1⟩ := onCur_ok hc0 ht (fun t it => it.apiSeek env t key) hap hrev1
    refine ⟨_, (if_neg hj).trans hon, hc1.inv, hsr1.trans hsr0, ?_⟩
    rw [hc1.entry?_eq, hent, hrev0, if_neg (Int.not_lt.mpr (Int.natCast_nonneg i)), Int.toNat_natCast, hG]; rfl

theorem cseek_fwd (hts : TabsOK2 env ts Gs) (hs : Sorted (flatAll Gs)) (h8 : ∀ e ∈ flatAll Gs, 8 ≤ e.key.length)
    {s : CIter} (hinv : CInv ts s) (hfw : s.reversed = false) (key : Bytes) (hkey : 8 ≤ key.length) :
    ∃ s', s.seek env ts key = some s' ∧ CInv ts s' ∧ s'.reversed = false ∧
      s'.entry? = (flatAll Gs).find? (fun e => compareKeys e.key key != .lt) := by
  unfold CIter.seek
  simp only [hfw, Bool.not_false, if_true]
  let f : Nat → Unit → Option (Bool × Unit) := fun i (u : Unit) =>
      match ts[i]? with
      | none => none
      | some t => (compareKeysP t.biggest key).bind fun o => some (o != .lt, u)
  -- the units are the tables, the probe tests `Biggest()`
  obtain ⟨idx, hsearch, hidxn, hfind⟩ :=
    search_units (P := fun e : Entry => compareKeys e.key key != .lt) List.flatten hs ge_key_mono f fun i G hG => by
      obtain ⟨t, ht⟩ := getElem?_some_of_lt ts i (by rw [hts.1]; exact lt_of_getElem?_some hG)
      obtain ⟨eb, heb, hbk⟩ := (hts.2 i t G ht hG).big
      refine ⟨eb, List.getLast?_eq_getElem? ▸ heb, ?_⟩
      simp only [f, ht, hbk, compareKeysP_eq (h8 eb (mem_flatAll_of hG (List.mem_of_getElem? heb))) hkey,
        Option.bind_some]
  rw [← hts.1] at hsearch hidxn
  show ∃ s', (((searchM f 0 ts.length ()).bind fun x => some (x.1 : Int)).bind fun idx => _) = some s' ∧ _
  rw [hsearch, flatAll_eq, hfind]
  obtain ⟨s', h1, h2, h3, h4⟩ := seek_at hts.toTabsOK hs h8 hinv key hkey (idx : Int)
  exact ⟨s', h1, h2, h3.trans hfw, by rw [h4, hfw, if_neg (show ¬ (idx : Int) < 0 by omega)]; rfl⟩

theorem cseek_rev (hts : TabsOK2 env ts Gs) (hs : Sorted (flatAll Gs)) (h8 : ∀ e ∈ flatAll Gs, 8 ≤ e.key.length)
    {s : CIter} (hinv : CInv ts s) (hbw : s.reversed = true) (key : Bytes) (hkey : 8 ≤ key.length) :
    ∃ s', s.seek env ts key = some s' ∧ CInv ts s' ∧ s'.reversed = true ∧
      s'.entry? = (flatAll Gs).reverse.find? (fun e => compareKeys e.key key != .gt) := by
  unfold CIter.seek
  simp only [hbw, Bool.not_true, Bool.false_eq_true, if_false]
  let f : Nat → Unit → Option (Bool × Unit) := fun i (u : Unit) =>
      match ts[ts.length - 1 - i]? with
      | none => none
      | some t => (compareKeysP t.smallest key).bind fun o => some (o != .gt, u)
  have hflat : (flatAll Gs).reverse = (Gs.reverse.map fun G => G.flatten.reverse).flatten := by
    rw [flatAll_eq, List.reverse_flatten, List.map_map, ← List.map_reverse]; rfl
  -- the units are the tables in the order of a reverse iteration, each reversed; the probe tests `Smallest()`
  obtain ⟨r, hsearch, hrn, hfind⟩ :=
    search_units (P := fun e : Entry => compareKeys e.key key != .gt) (fun G : List (List Entry) => G.flatten.reverse)
      (hflat ▸ List.pairwise_reverse.mpr hs) le_key_mono f fun h G hG => by
      have hh := lt_of_getElem?_some hG
      rw [List.length_reverse] at hh
      rw [List.getElem?_reverse hh, ← hts.1] at hG
      obtain ⟨t, ht⟩ := getElem?_some_of_lt ts (ts.length - 1 - h) (by rw [hts.1]; omega)
      obtain ⟨e0, he0, hsk⟩ := (hts.2 _ t G ht hG).small
      refine ⟨e0, by rw [List.getLast?_reverse, List.head?_eq_getElem?]; exact he0, ?_⟩
      simp only [f, ht, hsk, compareKeysP_eq (h8 e0 (mem_flatAll_of hG (List.mem_of_getElem? he0))) hkey,
        Option.bind_some]
  rw [List.length_reverse, ← hts.1] at hsearch hrn
  show ∃ s', (((searchM f 0 ts.length ()).bind fun x => some ((ts.length : Int) - 1 - (x.1 : Int))).bind fun idx => _) = some s' ∧ _
  rw [hsearch, hflat, hfind]
  obtain ⟨s', h1, h2, h3, h4⟩ := seek_at hts.toTabsOK hs h8 hinv key hkey ((ts.length : Int) - 1 - (r : Int))
  refine ⟨s', h1, h2, h3.trans hbw, ?_⟩
  rw [h4, hbw]
  by_cases hend : r = ts.length
  · rw [if_pos (by omega), List.getElem?_eq_none (by rw [List.length_reverse, ← hts.1]; omega)]
    rfl
  · rw [if_neg (by omega), List.getElem?_reverse (by rw [← hts.1]; omega), ← hts.1,
      show ((ts.length : Int) - 1 - (r : Int)).toNat = ts.length - 1 - r by omega]
    rfl

end Badger.Tbl
