import BadgerModel.Manifest
import BadgerProofs.Lemmas.Bytes
import BadgerProofs.Lemmas.Lists
/-!
The MANIFEST model (`BadgerModel/Manifest.lean`) for C17 and the manifest part of C09.
The file: frames (`rawFrame`), the replay loop without fuel (`replayRest`, by recursion on the
unread rest), where it stops (`TornTail`), how it runs over complete frames (`replayRest_frames`:
`framesOf` of a list of sets, `applyAll`) and over zeros (`replayRest_zeros`).
The manifest: a finite map from table ids (`Manifest.Equiv`, `EquivC cn` = the same with the
counters compared only when `cn` is set, `WF`, `LevelsOK`; before them the facts about
`List.lookup` that this needs);
`applyManifestChange` by the three ways it succeeds (`applyChange_eq_ok_iff`); a property kept by
every accepted change is kept by sets and lists of sets (`applyChangeSet_induction`,
`applyAll_induction`); the clone a rewrite writes (`applyChangeSet_asChanges`).
-/
namespace Badger

@[simp] theorem manifestHeader_length (ext : Nat) : (manifestHeader ext).length = 8 := by
  simp [manifestHeader, magicText]

/-- A raw frame: length field, CRC field, payload (not necessarily consistent). -/
def rawFrame (len crc : Nat) (payload : Bytes) : Bytes := beBytes len 4 ++ beBytes crc 4 ++ payload

theorem frame_eq_rawFrame (cd : Codec) (p : Bytes) : frame cd p = rawFrame p.length (cd.crc p) p := rfl

@[simp] theorem rawFrame_length (l c : Nat) (p : Bytes) : (rawFrame l c p).length = 8 + p.length := by
  simp [rawFrame]
  omega

@[simp] theorem frame_length (cd : Codec) (p : Bytes) : (frame cd p).length = 8 + p.length :=
  rawFrame_length ..

theorem rawFrame_take4 (l c : Nat) (p rest : Bytes) : (rawFrame l c p ++ rest).take 4 = beBytes l 4 := by
  simp [rawFrame]

theorem rawFrame_crc (l c : Nat) (p rest : Bytes) :
    ((rawFrame l c p ++ rest).drop 4).take 4 = beBytes c 4 := by
  simp [rawFrame]

theorem rawFrame_drop8 (l c : Nat) (p rest : Bytes) : (rawFrame l c p ++ rest).drop 8 = p ++ rest := by
  simp [rawFrame, List.drop_append]

theorem writeAt_end (file b : Bytes) : writeAt file file.length b = file ++ b := by
  unfold writeAt
  simp

/-- The `for` loop of `ReplayManifestFile` without fuel: every round reads a strictly shorter rest. -/
def replayRest (cd : Codec) (rest : Bytes) (off : Nat) (b : Manifest) : ReplayResult :=
  if rest.length < 8 then .ok (b, off)
  else if (rest.drop 8).length < beNat (rest.take 4) then .ok (b, off)
  else if cd.crc ((rest.drop 8).take (beNat (rest.take 4))) ≠ beNat ((rest.drop 4).take 4) then
    .error .badChecksum
  else match cd.dec ((rest.drop 8).take (beNat (rest.take 4))) with
    | none => .error .decode
    | some cs =>
      match applyChangeSet b cs with
      | (_, some e) => .error (.apply e)
      | (b', none) =>
        replayRest cd ((rest.drop 8).drop (beNat (rest.take 4))) (off + 8 + beNat (rest.take 4)) b'
termination_by rest.length
decreasing_by
  simp only [List.length_drop]
  omega

theorem replayLoop_eq_replayRest (cd : Codec) (f : Nat) (rest : Bytes) (off : Nat) (b : Manifest)
    (h : rest.length ≤ f) : replayLoop cd f rest off b = replayRest cd rest off b := by
  induction f generalizing rest off b with
  | zero => rw [replayLoop, replayRest, if_pos (by omega)]
  | succ f ih =>
    have hrec : ∀ l off b, replayLoop cd f ((rest.drop 8).drop l) off b =
        replayRest cd ((rest.drop 8).drop l) off b := fun l off b =>
      ih _ off b (by simp only [List.length_drop]; omega)
    rw [replayRest]
    simp only [replayLoop, hrec]
    rfl

/-- A torn tail: fewer than 8 bytes, or a frame header followed by fewer payload bytes than its
    length field announces. Exactly the situations in which the replay loop stops. -/
def TornTail (t : Bytes) : Prop :=
  t.length < 8 ∨ t.length - 8 < beNat (t.take 4)

theorem replayRest_torn (cd : Codec) (t : Bytes) (off : Nat) (b : Manifest)
    (ht : TornTail t) : replayRest cd t off b = .ok (b, off) := by
  rw [replayRest]
  split
  · rfl
  · rw [if_pos (by rw [List.length_drop]; exact ht.resolve_left ‹_›)]

/-- `l` apart from `p.length`, so that the lemma also rewrites a frame whose length field is a
    literal (`rawFrame 0 0 []`). -/
theorem replayRest_rawFrame (cd : Codec) (l c : Nat) (p rest : Bytes) (off : Nat) (b : Manifest)
    (hl : l = p.length) (hl32 : l < 2 ^ 32) (hc32 : c < 2 ^ 32) :
    replayRest cd (rawFrame l c p ++ rest) off b =
      if cd.crc p ≠ c then .error .badChecksum
      else match cd.dec p with
        | none => .error .decode
        | some cs =>
          match applyChangeSet b cs with
          | (_, some e) => .error (.apply e)
          | (b', none) => replayRest cd rest (off + 8 + l) b' := by
  subst hl
  rw [replayRest, if_neg (by simp; omega), rawFrame_take4, rawFrame_crc, rawFrame_drop8,
    beNat_beBytes4 _ hl32, beNat_beBytes4 _ hc32, if_neg (by simp)]
  simp only [List.take_left' rfl, List.drop_left' rfl]

theorem tornTail_rawFrame (l c : Nat) (body : Bytes) (hl32 : l < 2 ^ 32) (hshort : body.length < l) :
    TornTail (rawFrame l c body) := by
  have h4 := rawFrame_take4 l c body []
  rw [List.append_nil] at h4
  refine Or.inr ?_
  rw [h4, beNat_beBytes4 _ hl32, rawFrame_length]
  omega

theorem tornTail_take_frame (cd : Codec) (p : Bytes) (k : Nat) (hk : k < (frame cd p).length)
    (hl32 : p.length < 2 ^ 32) : TornTail ((frame cd p).take k) := by
  rw [frame_length] at hk
  by_cases h8 : k < 8
  · exact Or.inl (by rw [List.length_take]; omega)
  · have h : (frame cd p).take k = rawFrame p.length (cd.crc p) (p.take (k - 8)) := by
      unfold frame rawFrame
      rw [List.take_append, List.take_of_length_le (by simp; omega)]
      simp
    rw [h]
    exact tornTail_rawFrame _ _ _ hl32 (by rw [List.length_take]; omega)

theorem replicate_zero_frame (n : Nat) :
    List.replicate (8 + n) (0 : UInt8) = rawFrame 0 0 [] ++ List.replicate n 0 := by
  have : rawFrame 0 0 [] = List.replicate 8 (0 : UInt8) := by decide
  rw [this, List.replicate_append_replicate]

/-- Zeros at a frame boundary: every 8 zero bytes are an empty change set (`len = 0`,
    `crc32c("") = 0`), the remaining `< 8` bytes are a short read. -/
theorem replayRest_zeros (cd : Codec) (hcrc0 : cd.crc [] = 0) (hdec0 : cd.dec [] = some [])
    (n off : Nat) (b : Manifest) :
    replayRest cd (List.replicate n 0) off b = .ok (b, off + 8 * (n / 8)) := by
  induction n using Nat.strongRecOn generalizing off with
  | _ n ih =>
    by_cases h8 : n < 8
    · rw [replayRest_torn _ _ _ _ (Or.inl (by simpa using h8))]
      have : n / 8 = 0 := Nat.div_eq_of_lt h8
      simp [this]
    · obtain ⟨k, rfl⟩ : ∃ k, n = 8 + k := ⟨n - 8, by omega⟩
      rw [replicate_zero_frame k,
        replayRest_rawFrame cd 0 0 [] _ off b rfl (by decide) (by decide)]
      rw [if_neg (by simp [hcrc0]), hdec0]
      simp only [applyChangeSet]
      rw [ih k (by omega)]
      congr 2
      omega

def applyAll (m : Manifest) : List ChangeSet → Option Manifest
  | [] => some m
  | cs :: rest =>
    match applyChangeSet m cs with
    | (m', none) => applyAll m' rest
    | (_, some _) => none

/-- The frames of a list of change sets, as `addChanges` / `helpRewrite` write them. -/
def framesOf (cd : Codec) (sets : List ChangeSet) : Bytes :=
  sets.flatMap (fun cs => frame cd (cd.enc cs))

@[simp] theorem framesOf_nil (cd : Codec) : framesOf cd [] = [] := rfl

theorem framesOf_cons (cd : Codec) (cs : ChangeSet) (sets : List ChangeSet) :
    framesOf cd (cs :: sets) = frame cd (cd.enc cs) ++ framesOf cd sets := by
  simp [framesOf]

theorem framesOf_append (cd : Codec) (a b : List ChangeSet) :
    framesOf cd (a ++ b) = framesOf cd a ++ framesOf cd b := by
  simp [framesOf]

theorem applyChangeSet_cons_eq {a a' : Manifest} {c : Change} {cs : ChangeSet} :
    applyChangeSet a (c :: cs) = (a', none) ↔
      ∃ a1, applyChange a c = .ok a1 ∧ applyChangeSet a1 cs = (a', none) := by
  rw [applyChangeSet]
  cases applyChange a c <;> simp

theorem applyAll_cons_eq {a a' : Manifest} {cs : ChangeSet} {sets : List ChangeSet} :
    applyAll a (cs :: sets) = some a' ↔
      ∃ a1, applyChangeSet a cs = (a1, none) ∧ applyAll a1 sets = some a' := by
  rw [applyAll]
  rcases applyChangeSet a cs with ⟨a1, _ | e⟩ <;> simp

theorem applyAll_append (m : Manifest) (a b : List ChangeSet) :
    applyAll m (a ++ b) = (applyAll m a).bind (fun m' => applyAll m' b) := by
  induction a generalizing m with
  | nil => rfl
  | cons cs a ih =>
    simp only [List.cons_append, applyAll]
    rcases applyChangeSet m cs with ⟨m', _ | e⟩
    · exact ih m'
    · rfl

theorem replayRest_frames (cd : Codec) (hv : cd.Valid) (sets : List ChangeSet) (tail : Bytes)
    (off : Nat) (b m : Manifest)
    (hall : applyAll b sets = some m)
    (hrange : ∀ cs, cs ∈ sets → ChangeSet.InRange cs)
    (hsz : (framesOf cd sets).length < 2 ^ 32) :
    replayRest cd (framesOf cd sets ++ tail) off b =
      replayRest cd tail (off + (framesOf cd sets).length) m := by
  induction sets generalizing off b with
  | nil =>
    cases hall
    simp
  | cons cs sets ih =>
    obtain ⟨b', happ, hall'⟩ := applyAll_cons_eq.mp hall
    obtain ⟨hr0, hrs⟩ := List.forall_mem_cons.mp hrange
    rw [framesOf_cons, List.length_append, frame_length] at hsz ⊢
    rw [List.append_assoc, frame_eq_rawFrame,
      replayRest_rawFrame cd _ _ _ _ off b rfl (by omega) (hv.crc_lt _), if_neg (by simp), hv.dec_enc cs hr0]
    simp only [happ]
    rw [ih _ _ hall' hrs (by omega)]
    congr 1
    omega

theorem replay_header (cd : Codec) (ext : Nat) (hext : ext < 2 ^ 16) (rest : Bytes) :
    replay cd (manifestHeader ext ++ rest) ext =
      replayRest cd rest 8 Manifest.empty := by
  have h4 : (manifestHeader ext ++ rest).take 4 = magicText := by simp [manifestHeader, magicText]
  have h46 : ((manifestHeader ext ++ rest).drop 4).take 2 = beBytes ext 2 := by simp [manifestHeader, magicText]
  have h68 : ((manifestHeader ext ++ rest).drop 6).take 2 = beBytes badgerMagicVersion 2 := by
    simp [manifestHeader, magicText]
  have h8 : (manifestHeader ext ++ rest).drop 8 = rest := List.drop_left' (manifestHeader_length ext)
  have hlen : ¬ (manifestHeader ext ++ rest).length < 8 := by simp
  simp only [replay, if_neg hlen, h4, h46, h68, h8, beNat_beBytes2 _ hext, beNat_beBytes2 badgerMagicVersion (by decide),
    Nat.mod_eq_of_lt hext, ne_eq, not_true_eq_false, if_false]
  exact replayLoop_eq_replayRest cd _ rest 8 _ (by simp)

/-- Core's `List.lookup_cons` with the `==` test on keys as an `if … = …`. -/
theorem lookup_cons' {β : Type} (id k : Nat) (v : β) (l : List (Nat × β)) :
    List.lookup id ((k, v) :: l) = if id = k then some v else List.lookup id l := by
  rw [List.lookup_cons]
  by_cases h : id = k
  · simp [h]
  · simp [beq_false_of_ne h, h]

theorem lookup_filter_ne {β : Type} (id k : Nat) (l : List (Nat × β)) :
    List.lookup id (l.filter (fun e => e.1 ≠ k)) = if id = k then none else List.lookup id l := by
  induction l with
  | nil => simp
  | cons e l ih =>
    obtain ⟨k', v⟩ := e
    by_cases hk : k' = k
    · subst hk
      simp only [List.filter_cons, ne_eq, not_true_eq_false, decide_false, Bool.false_eq_true, if_false, ih,
        lookup_cons']
      split <;> rfl
    · simp only [List.filter_cons, ne_eq, hk, not_false_eq_true, decide_true, if_true, lookup_cons', ih]
      by_cases h : id = k <;> simp [h, Ne.symm hk]

theorem lookup_eq_some_iff_mem {β : Type} {l : List (Nat × β)} (hnd : (l.map Prod.fst).Nodup) (id : Nat) (v : β) :
    List.lookup id l = some v ↔ (id, v) ∈ l := by
  induction l with
  | nil => simp
  | cons e l ih =>
    obtain ⟨k, w⟩ := e
    simp only [List.map_cons, List.nodup_cons] at hnd
    rw [lookup_cons', List.mem_cons, Prod.mk.injEq]
    by_cases hk : id = k
    · subst hk
      have : (id, v) ∉ l := fun hin => hnd.1 (List.mem_map.mpr ⟨_, hin, rfl⟩)
      simp [this, eq_comm]
    · simp [hk, ih hnd.2]

theorem lookup_perm {β : Type} {l1 l2 : List (Nat × β)} (hp : l1.Perm l2)
    (hnd : (l1.map Prod.fst).Nodup) (id : Nat) : List.lookup id l1 = List.lookup id l2 := by
  have hnd2 : (l2.map Prod.fst).Nodup := (List.Perm.nodup_iff (hp.map Prod.fst)).mp hnd
  apply Option.ext
  intro v
  rw [lookup_eq_some_iff_mem hnd, lookup_eq_some_iff_mem hnd2, hp.mem_iff]

theorem not_mem_keys_of_lookup_eq_none {β : Type} {id : Nat} {l : List (Nat × β)}
    (h : List.lookup id l = none) : id ∉ l.map Prod.fst := by
  intro hin
  obtain ⟨e, he, hid⟩ := List.mem_map.mp hin
  rw [List.lookup_eq_none_iff] at h
  have := h e he
  simp [hid] at this

/-- Well-formed manifest: one entry per table id, levels are `uint8`s, the other fields fit
    their Go types. -/
structure Manifest.WF (m : Manifest) : Prop where
  nodup : (m.tables.map Prod.fst).Nodup
  level_lt : ∀ e, e ∈ m.tables → e.2.level < 256
  range : ∀ e, e ∈ m.tables → e.1 < 2 ^ 64 ∧ e.2.keyID < 2 ^ 64 ∧ e.2.compression < 2 ^ 32

theorem Manifest.WF_empty : Manifest.empty.WF := by
  constructor <;> simp [Manifest.empty]

/-- Same table map (id ↦ level, key id, compression) and same counters. -/
def Manifest.Equiv (a b : Manifest) : Prop :=
  (∀ id, a.lookup id = b.lookup id) ∧ a.creations = b.creations ∧ a.deletions = b.deletions

theorem Manifest.Equiv.refl (a : Manifest) : a.Equiv a := ⟨fun _ => rfl, rfl, rfl⟩

theorem Manifest.Equiv.symm {a b : Manifest} (h : a.Equiv b) : b.Equiv a :=
  ⟨fun id => (h.1 id).symm, h.2.1.symm, h.2.2.symm⟩

theorem Manifest.Equiv.trans {a b c : Manifest} (h1 : a.Equiv b) (h2 : b.Equiv c) : a.Equiv c :=
  ⟨fun id => (h1.1 id).trans (h2.1 id), h1.2.1.trans h2.2.1, h1.2.2.trans h2.2.2⟩

/-- Same table map; the counters are compared only when `cn` is set (after a reopen the
    in-memory manifest is a clone whose counters restart from the number of tables). -/
def Manifest.EquivC (cn : Bool) (a b : Manifest) : Prop :=
  (∀ id, a.lookup id = b.lookup id) ∧ (cn = true → a.creations = b.creations ∧ a.deletions = b.deletions)

theorem Manifest.Equiv.toC {a b : Manifest} (h : a.Equiv b) (cn : Bool) : a.EquivC cn b :=
  ⟨h.1, fun _ => h.2⟩

theorem Manifest.EquivC.symm {cn : Bool} {a b : Manifest} (h : a.EquivC cn b) : b.EquivC cn a :=
  ⟨fun id => (h.1 id).symm, fun hc => ⟨(h.2 hc).1.symm, (h.2 hc).2.symm⟩⟩

theorem Manifest.EquivC.trans {cn : Bool} {a b c : Manifest} (h1 : a.EquivC cn b) (h2 : b.EquivC cn c) :
    a.EquivC cn c :=
  ⟨fun id => (h1.1 id).trans (h2.1 id), fun hc => ⟨(h1.2 hc).1.trans (h2.2 hc).1, (h1.2 hc).2.trans (h2.2 hc).2⟩⟩

theorem Manifest.EquivC.weaken {cn : Bool} {a b : Manifest} (h : a.EquivC cn b) : a.EquivC false b :=
  ⟨h.1, fun hc => by cases hc⟩

/-- The three ways `applyManifestChange` succeeds: a CREATE of a fresh id, a DELETE of an unknown
    id, a DELETE of a known id. -/
theorem applyChange_eq_ok_iff {m m' : Manifest} {c : Change} :
    applyChange m c = .ok m' ↔
      (c.op = 0 ∧ m.lookup c.id = none ∧
        m' = { levels := (growLevels m.levels c.level).modify c.level (setInsert c.id)
               tables := (c.id, ⟨c.level % 256, c.keyId, c.compression⟩) :: m.tables
               creations := m.creations + 1
               deletions := m.deletions }) ∨
      (c.op = 1 ∧ m.lookup c.id = none ∧
        m' = { m with levels := m.levels.map (setErase c.id), deletions := m.deletions + 1 }) ∨
      (c.op = 1 ∧ ∃ tm, m.lookup c.id = some tm ∧
        m' = { levels := m.levels.modify tm.level (setErase c.id)
               tables := m.tables.filter (fun e => e.1 ≠ c.id)
               creations := m.creations
               deletions := m.deletions + 1 }) := by
  unfold applyChange
  by_cases h0 : c.op = 0
  · cases m.lookup c.id <;> simp [h0, eq_comm]
  · by_cases h1 : c.op = 1
    · cases m.lookup c.id <;> simp [h1, eq_comm]
    · simp [h0, h1]

theorem applyChange_lookup {m m' : Manifest} {c : Change} (h : applyChange m c = .ok m') (id : Nat) :
    m'.lookup id =
      if id = c.id then (if c.op = 0 then some ⟨c.level % 256, c.keyId, c.compression⟩ else none)
      else m.lookup id := by
  rcases applyChange_eq_ok_iff.mp h with ⟨h0, hl, rfl⟩ | ⟨h1, hl, rfl⟩ | ⟨h1, tm, hl, rfl⟩
  · simp only [Manifest.lookup, lookup_cons', h0, if_true]
  · split
    · next hid => rw [hid, h1, if_neg (by decide)]; exact hl
    · rfl
  · simp only [Manifest.lookup, lookup_filter_ne, h1, if_neg (show ¬ (1 = 0) by decide)]

theorem applyChange_counters {m m' : Manifest} {c : Change} (h : applyChange m c = .ok m') :
    m'.creations = m.creations + (if c.op = 0 then 1 else 0) ∧
    m'.deletions = m.deletions + (if c.op = 0 then 0 else 1) := by
  rcases applyChange_eq_ok_iff.mp h with ⟨h0, _, rfl⟩ | ⟨h1, _, rfl⟩ | ⟨h1, _, _, rfl⟩ <;> simp [*]

/-- `applyManifestChange` only looks at the table map and the counters. -/
theorem applyChange_congrC {a b a' : Manifest} (c : Change) (cn : Bool) (h : a.EquivC cn b)
    (ha : applyChange a c = .ok a') : ∃ b', applyChange b c = .ok b' ∧ a'.EquivC cn b' := by
  -- whether the change is accepted depends on `lookup c.id` only
  obtain ⟨b', hb⟩ : ∃ b', applyChange b c = .ok b' := by
    have hl := h.1 c.id
    rcases applyChange_eq_ok_iff.mp ha with ⟨h0, hla, _⟩ | ⟨h1, hla, _⟩ | ⟨h1, tm, hla, _⟩
    · exact ⟨_, applyChange_eq_ok_iff.mpr (Or.inl ⟨h0, hl ▸ hla, rfl⟩)⟩
    · exact ⟨_, applyChange_eq_ok_iff.mpr (Or.inr (Or.inl ⟨h1, hl ▸ hla, rfl⟩))⟩
    · exact ⟨_, applyChange_eq_ok_iff.mpr (Or.inr (Or.inr ⟨h1, tm, hl ▸ hla, rfl⟩))⟩
  refine ⟨b', hb, fun id => ?_, fun hc => ?_⟩
  · rw [applyChange_lookup ha, applyChange_lookup hb, h.1 id]
  · rw [(applyChange_counters ha).1, (applyChange_counters ha).2, (applyChange_counters hb).1,
      (applyChange_counters hb).2, (h.2 hc).1, (h.2 hc).2]
    exact ⟨rfl, rfl⟩

theorem applyChangeSet_induction {P : Manifest → Prop} {a a' : Manifest} (cs : ChangeSet)
    (hstep : ∀ c, c ∈ cs → ∀ m m', P m → applyChange m c = .ok m' → P m')
    (h : P a) (ha : applyChangeSet a cs = (a', none)) : P a' := by
  induction cs generalizing a with
  | nil =>
    cases ha
    exact h
  | cons c cs ih =>
    obtain ⟨a1, hc, ha'⟩ := applyChangeSet_cons_eq.mp ha
    obtain ⟨h0, hs⟩ := List.forall_mem_cons.mp hstep
    exact ih hs (h0 a a1 h hc) ha'

theorem applyAll_induction {P : Manifest → Prop} {a a' : Manifest} (sets : List ChangeSet)
    (hstep : ∀ cs, cs ∈ sets → ∀ m m', P m → applyChangeSet m cs = (m', none) → P m')
    (h : P a) (ha : applyAll a sets = some a') : P a' := by
  induction sets generalizing a with
  | nil =>
    cases ha
    exact h
  | cons cs sets ih =>
    obtain ⟨a1, hc, ha'⟩ := applyAll_cons_eq.mp ha
    obtain ⟨h0, hs⟩ := List.forall_mem_cons.mp hstep
    exact ih hs (h0 a a1 h hc) ha'

theorem applyChangeSet_congrC {a b a' : Manifest} (cs : ChangeSet) (cn : Bool) (h : a.EquivC cn b)
    (ha : applyChangeSet a cs = (a', none)) : ∃ b', applyChangeSet b cs = (b', none) ∧ a'.EquivC cn b' := by
  induction cs generalizing a b with
  | nil =>
    cases ha
    exact ⟨b, rfl, h⟩
  | cons c cs ih =>
    obtain ⟨a1, hc, ha'⟩ := applyChangeSet_cons_eq.mp ha
    obtain ⟨b1, hb1, he1⟩ := applyChange_congrC c cn h hc
    obtain ⟨b', hb', he'⟩ := ih he1 ha'
    exact ⟨b', applyChangeSet_cons_eq.mpr ⟨b1, hb1, hb'⟩, he'⟩

theorem applyChangeSet_congr {a b a' : Manifest} (cs : ChangeSet) (h : a.Equiv b)
    (ha : applyChangeSet a cs = (a', none)) : ∃ b', applyChangeSet b cs = (b', none) ∧ a'.Equiv b' := by
  obtain ⟨b', hb, he⟩ := applyChangeSet_congrC cs true (h.toC true) ha
  exact ⟨b', hb, he.1, he.2 rfl⟩

theorem applyChange_WF {a a' : Manifest} (c : Change) (hr : c.InRange) (hw : a.WF)
    (ha : applyChange a c = .ok a') : a'.WF := by
  obtain ⟨hid, _, _, hkid, _, hcomp⟩ := hr
  rcases applyChange_eq_ok_iff.mp ha with ⟨_, hl, rfl⟩ | ⟨_, _, rfl⟩ | ⟨_, tm, _, rfl⟩
  · exact ⟨List.nodup_cons.mpr ⟨not_mem_keys_of_lookup_eq_none hl, hw.nodup⟩,
      List.forall_mem_cons.mpr ⟨Nat.mod_lt _ (by decide), hw.level_lt⟩,
      List.forall_mem_cons.mpr ⟨⟨hid, hkid, hcomp⟩, hw.range⟩⟩
  · exact ⟨hw.nodup, hw.level_lt, hw.range⟩
  · exact ⟨List.Nodup.sublist (List.Sublist.map _ List.filter_sublist) hw.nodup,
      fun e he => hw.level_lt e (List.mem_filter.mp he).1, fun e he => hw.range e (List.mem_filter.mp he).1⟩

theorem applyChangeSet_WF {a a' : Manifest} (cs : ChangeSet) (hr : ChangeSet.InRange cs) (hw : a.WF)
    (ha : applyChangeSet a cs = (a', none)) : a'.WF :=
  applyChangeSet_induction cs (fun c hc _ _ hm h => applyChange_WF c (hr c hc) hm h) hw ha

theorem applyAll_WF {a a' : Manifest} (sets : List ChangeSet) (hr : ∀ cs, cs ∈ sets → ChangeSet.InRange cs)
    (hw : a.WF) (ha : applyAll a sets = some a') : a'.WF :=
  applyAll_induction sets (fun cs hcs _ _ hm h => applyChangeSet_WF cs (hr cs hcs) hm h) hw ha

/-- `newCreateChange` for a table entry. -/
def createOf (e : Nat × TableManifest) : Change := Change.create e.1 e.2.level e.2.keyID e.2.compression

theorem applyChangeSet_creates (es : List (Nat × TableManifest)) (m0 : Manifest)
    (hnd : (es.map Prod.fst).Nodup)
    (hfresh : ∀ e, e ∈ es → m0.lookup e.1 = none)
    (hlv : ∀ e, e ∈ es → e.2.level < 256) :
    ∃ m1, applyChangeSet m0 (es.map createOf) = (m1, none) ∧
      m1.tables = es.reverse ++ m0.tables ∧
      m1.creations = m0.creations + es.length ∧ m1.deletions = m0.deletions := by
  induction es generalizing m0 with
  | nil => exact ⟨m0, rfl, by simp, by simp, rfl⟩
  | cons e es ih =>
    simp only [List.map_cons, List.nodup_cons] at hnd
    obtain ⟨hfe, hfes⟩ := List.forall_mem_cons.mp hfresh
    obtain ⟨hle, hles⟩ := List.forall_mem_cons.mp hlv
    have hs : applyChange m0 (createOf e) = .ok _ := applyChange_eq_ok_iff.mpr (Or.inl ⟨rfl, hfe, rfl⟩)
    obtain ⟨m1, h1, ht, hc, hd⟩ := ih _ hnd.2 (fun x hx => by
      rw [applyChange_lookup hs, if_neg fun heq : x.1 = (createOf e).id => hnd.1 (List.mem_map.mpr ⟨x, hx, heq⟩)]
      exact hfes x hx) hles
    refine ⟨m1, by simp only [List.map_cons, applyChangeSet, hs, h1], ?_, ?_, hd⟩
    · rw [ht]
      simp [createOf, Change.create, Nat.mod_eq_of_lt hle]
    · rw [hc]
      simp
      omega

/-- The id set of level `l` (`[]` beyond `len(Levels)`). -/
def levelAt (L : List (List Nat)) (l : Nat) : List Nat := (L[l]?).getD []

theorem levelAt_grow (L : List (List Nat)) (k l : Nat) : levelAt (growLevels L k) l = levelAt L l := by
  unfold levelAt growLevels
  rw [List.getElem?_append]
  by_cases h : l < L.length
  · rw [if_pos h]
  · rw [if_neg h, List.getElem?_eq_none (Nat.le_of_not_lt h), List.getElem?_replicate]
    split <;> rfl

theorem growLevels_length (L : List (List Nat)) (k : Nat) : k < (growLevels L k).length := by
  unfold growLevels
  simp only [List.length_append, List.length_replicate]
  omega

theorem levelAt_modify (L : List (List Nat)) (k l : Nat) (f : List Nat → List Nat) (hk : k < L.length) :
    levelAt (L.modify k f) l = if k = l then f (levelAt L l) else levelAt L l := by
  unfold levelAt
  rw [List.getElem?_modify]
  by_cases h : k = l
  · subst h
    rw [List.getElem?_eq_getElem hk]
    rfl
  · simp only [h, if_false]
    cases L[l]? <;> rfl

theorem levelAt_map_erase (L : List (List Nat)) (id l : Nat) :
    levelAt (L.map (setErase id)) l = setErase id (levelAt L l) := by
  unfold levelAt
  rw [List.getElem?_map]
  cases L[l]? <;> rfl

theorem mem_setInsert (x id : Nat) (s : List Nat) : x ∈ setInsert id s ↔ x = id ∨ x ∈ s :=
  mem_insertNew

theorem mem_setErase (x id : Nat) (s : List Nat) : x ∈ setErase id s ↔ x ∈ s ∧ x ≠ id := by
  unfold setErase
  simp [List.mem_filter]

/-- `Levels[l]` is exactly the set of table ids whose `TableManifest.Level` is `l`. -/
def Manifest.LevelsOK (m : Manifest) : Prop :=
  ∀ l id, id ∈ levelAt m.levels l ↔ ∃ tm, m.lookup id = some tm ∧ tm.level = l

theorem Manifest.LevelsOK_empty : Manifest.empty.LevelsOK := by
  intro l id
  simp [levelAt, Manifest.empty, Manifest.lookup]

/-- Creates with a level below 256 (what badger emits: `TableManifest.Level` is a `uint8`). -/
def Change.SmallLevel (c : Change) : Prop := c.op = 0 → c.level < 256

theorem Manifest.LevelsOK.level_lt {m : Manifest} (hl : m.LevelsOK) {id : Nat} {tm : TableManifest}
    (h : m.lookup id = some tm) : tm.level < m.levels.length := by
  have hin : id ∈ levelAt m.levels tm.level := (hl tm.level id).mpr ⟨tm, h, rfl⟩
  unfold levelAt at hin
  cases hq : m.levels[tm.level]? with
  | none =>
    rw [hq] at hin
    cases hin
  | some s => exact (List.getElem?_eq_some_iff.mp hq).1

theorem applyChange_LevelsOK {a a' : Manifest} (c : Change) (hs : c.SmallLevel) (hl : a.LevelsOK)
    (ha : applyChange a c = .ok a') : a'.LevelsOK := by
  intro l id
  rw [applyChange_lookup ha]
  rcases applyChange_eq_ok_iff.mp ha with ⟨h0, hla, rfl⟩ | ⟨h1, hla, rfl⟩ | ⟨h1, tm, hla, rfl⟩
  · -- CREATE: the id enters level `c.level`, and it was in no level before
    simp only [levelAt_modify _ _ _ _ (growLevels_length _ _), levelAt_grow, h0, if_true,
      Nat.mod_eq_of_lt (hs h0)]
    have hnot : c.id ∉ levelAt a.levels l := fun hin => by
      obtain ⟨tm, htm, _⟩ := (hl l c.id).mp hin
      rw [hla] at htm
      cases htm
    by_cases hid : id = c.id <;> by_cases hlv : c.level = l <;> simp [hlv, hid, mem_setInsert, hnot, hl l]
  · -- DELETE of an unknown id: erased from every level, and it was in none
    simp only [levelAt_map_erase, mem_setErase, h1, hl l id]
    by_cases hid : id = c.id <;> simp [hid, hla]
  · -- DELETE of a known id: erased from the level its entry names, the only one that held it
    simp only [levelAt_modify _ _ _ _ (hl.level_lt hla), h1]
    have : c.id ∈ levelAt a.levels l ↔ tm.level = l := by
      rw [hl l c.id, hla]
      simp
    by_cases hid : id = c.id <;> by_cases hlv : tm.level = l <;> simp [hlv, hid, mem_setErase, this, hl l]

theorem applyChangeSet_LevelsOK {a a' : Manifest} (cs : ChangeSet) (hs : ∀ c, c ∈ cs → c.SmallLevel)
    (hl : a.LevelsOK) (ha : applyChangeSet a cs = (a', none)) : a'.LevelsOK :=
  applyChangeSet_induction cs (fun c hc _ _ hm h => applyChange_LevelsOK c (hs c hc) hm h) hl ha

theorem applyAll_LevelsOK {a a' : Manifest} (sets : List ChangeSet)
    (hs : ∀ s, s ∈ sets → ∀ c, c ∈ s → c.SmallLevel)
    (hl : a.LevelsOK) (ha : applyAll a sets = some a') : a'.LevelsOK :=
  applyAll_induction sets (fun cs hcs _ _ hm h => applyChangeSet_LevelsOK cs (hs cs hcs) hm h) hl ha

theorem asChanges_empty (cd : Codec) (hv : cd.Valid) : asChanges cd Manifest.empty = [] := by
  simp [asChanges, Manifest.empty, List.perm_nil.mp (hv.ord_perm [])]

theorem asChanges_inRange (cd : Codec) (hv : cd.Valid) (m : Manifest) (hw : m.WF) :
    ChangeSet.InRange (asChanges cd m) :=
  List.forall_mem_map.mpr fun e he => by
    have hin := (hv.ord_perm m.tables).mem_iff.mp he
    obtain ⟨hid, hkid, hcomp⟩ := hw.range e hin
    have h0 : 0 < 2 ^ 32 := by decide
    exact ⟨hid, h0, Nat.lt_trans (hw.level_lt e hin) (by decide), hkid, h0, hcomp⟩

/-- The single change set of a rewritten file replays to the same table map, with
    `Creations = len(Tables)` and `Deletions = 0`, for every iteration order of the Go map; the
    result is `WF` and `LevelsOK`. -/
theorem applyChangeSet_asChanges (cd : Codec) (hv : cd.Valid) (m : Manifest) (hw : m.WF) :
    ∃ m1, applyChangeSet Manifest.empty (asChanges cd m) = (m1, none) ∧ m1.WF ∧ m1.LevelsOK ∧
      m1.Equiv { m with creations := m.tables.length, deletions := 0 } := by
  have hperm := hv.ord_perm m.tables
  have hnd : ((cd.ord m.tables).map Prod.fst).Nodup :=
    (List.Perm.nodup_iff (hperm.map Prod.fst)).mpr hw.nodup
  obtain ⟨m1, h1, ht, hc, hd⟩ := applyChangeSet_creates (cd.ord m.tables) Manifest.empty hnd
    (by intro e _; rfl)
    (fun e he => hw.level_lt e (hperm.mem_iff.mp he))
  refine ⟨m1, h1, applyChangeSet_WF _ (asChanges_inRange cd hv m hw) Manifest.WF_empty h1,
    applyChangeSet_LevelsOK _ (List.forall_mem_map.mpr fun e he _ => hw.level_lt e (hperm.mem_iff.mp he))
      Manifest.LevelsOK_empty h1, ?_, ?_, ?_⟩
  · intro id
    simp only [Manifest.lookup, ht, Manifest.empty, List.append_nil]
    have hp2 : (cd.ord m.tables).reverse.Perm m.tables := (List.reverse_perm _).trans hperm
    exact lookup_perm hp2 ((List.Perm.nodup_iff (hp2.map Prod.fst)).mpr hw.nodup) id
  · simp only [hc, Manifest.empty, Nat.zero_add]
    exact hperm.length_eq
  · simp [hd, Manifest.empty]

end Badger
