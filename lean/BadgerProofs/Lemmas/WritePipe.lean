import BadgerModel.WritePipe
import BadgerProofs.Lemmas.Oracle
/-!
The invariant `PInv` of the write pipeline (`BadgerModel/WritePipe.lean`), behind `Props/C03Pipe.lean`. A request
is a history entry of the oracle (`HistEntry.toReq`), and the invariant's core is one list equation: the allocation
history without the rejected commits is everything enqueued so far plus the request the lock holder has just been
given (`histEnq`). The oracle inside a pipeline state is a reachable oracle state (`reach`), so `SysInv` is at hand;
preservation is by cases on the branches of `Pipe.step`.
-/
namespace Badger

theorem mem_entries (r : Req) (e : Nat × Nat) : e ∈ r.entries ↔ e.2 = r.ts ∧ e.1 ∈ r.keys := by
  simp only [Req.entries, List.mem_map]
  constructor
  · rintro ⟨k, hk, rfl⟩; exact ⟨rfl, hk⟩
  · rintro ⟨e1, e2⟩; exact ⟨e.1, e2, by cases e; simp at e1 ⊢; exact e1.symm⟩

theorem entries_sorted (l : List Req) (h : l.Pairwise (fun a b => a.ts < b.ts)) :
    (l.flatMap Req.entries).Pairwise (fun a b => a.2 ≤ b.2) := by
  induction l with
  | nil => simp
  | cons r rs ih =>
    have hp := List.pairwise_cons.mp h
    simp only [List.flatMap_cons]
    refine List.pairwise_append.mpr ⟨?_, ih hp.2, fun a ha b hb => ?_⟩
    · simp only [Req.entries, List.pairwise_map]
      exact List.pairwise_of_forall fun _ _ => Nat.le_refl _
    · obtain ⟨q, hq, hbq⟩ := List.mem_flatMap.mp hb
      rw [((mem_entries r a).mp ha).1, ((mem_entries q b).mp hbq).1]
      exact Nat.le_of_lt (hp.1 q hq)

/-- The commit timestamp handed out but not yet enqueued (its owner holds `writeChLock`). -/
def Pipe.stampedTs (p : Pipe) : List Nat :=
  match p.lockHolder with
  | some t => match p.cph t with
    | .stamped ts _ => [ts]
    | _ => []
  | none => []

/-- The request a commit turns into. -/
def HistEntry.toReq (e : HistEntry) : Req := ⟨e.ts, e.conflictKeys, e.tid⟩

/-- The requests of the commits that were given a timestamp and not rejected by `sendToWriteCh`, in
    allocation order. -/
def Pipe.liveReqs (p : Pipe) : List Req :=
  (p.sys.hist.filter (fun e => !p.rejected.contains e.ts)).map HistEntry.toReq

/-- The request the lock holder is about to enqueue (`Pipe.stampedTs` is its timestamp). -/
def Pipe.stampedReq (p : Pipe) : List Req :=
  match p.lockHolder with
  | some t => match p.cph t with
    | .stamped ts ks => [⟨ts, ks, t⟩]
    | _ => []
  | none => []

structure PInv (d : Bool) (n : Nat) (p : Pipe) : Prop where
  reach : OReach false d n p.sys
  /-- exactly the lock holder is between `lock` and `unlock` -/
  lockIff : ∀ tid, (p.cph tid).holds = true ↔ p.lockHolder = some tid
  /-- the allocation history (rejected commits left out) is the sequence of requests enqueued so far, in
      channel order, plus the one the lock holder has just been given -/
  histEnq : p.liveReqs = p.enq ++ p.stampedReq
  rejHist : ∀ t ∈ p.rejected, t ∈ p.sys.hist.map (·.ts) ∧ t ∈ p.sys.doneCommits
  /-- the memtable = all entries of the finished batches, then a prefix of the current batch -/
  memFlat : ∃ applied, p.memtable = p.finished.flatMap Req.entries ++ applied ∧
    applied ++ p.pending = (p.batch.getD []).flatMap Req.entries
  sigEq : p.signalled = p.finished.map (·.ts)
  ackSub : ∀ t ∈ p.sys.doneCommits, t ∈ p.signalled ∨ t ∈ p.rejected
  acked : ∀ tid ts, p.cph tid = .acked ts → ts ∈ p.sys.doneCommits ∧ ts ∈ p.signalled

theorem PInv.sysInv {d n p} (h : PInv d n p) : SysInv d n p.sys := h.reach.inv

theorem PInv.liveSorted {d n p} (h : PInv d n p) : p.liveReqs.Pairwise (fun a b => a.ts < b.ts) :=
  List.pairwise_map.mpr (h.sysInv.histSorted.sublist List.filter_sublist)

theorem PInv.enqSorted {d n p} (h : PInv d n p) : p.enq.Pairwise (fun a b => a.ts < b.ts) :=
  (List.pairwise_append.mp (h.histEnq ▸ h.liveSorted)).1

theorem Pipe.mem_liveReqs {p : Pipe} {q : Req} (hq : q ∈ p.liveReqs) :
    q.ts ∉ p.rejected ∧ ∃ e ∈ p.sys.hist, e.ts = q.ts ∧ e.conflictKeys = q.keys := by
  obtain ⟨e, he, rfl⟩ := List.mem_map.mp hq
  obtain ⟨h1, h2⟩ := List.mem_filter.mp he
  exact ⟨by simpa [HistEntry.toReq] using h2, e, h1, rfl, rfl⟩

theorem PInv.enq_live {d n p} (h : PInv d n p) {q : Req} (hq : q ∈ p.enq) : q ∈ p.liveReqs :=
  h.histEnq ▸ List.mem_append.mpr (.inl hq)

theorem PInv.memtable_pending {d n p} (hI : PInv d n p) :
    p.memtable ++ p.pending = (p.finished ++ p.batch.getD []).flatMap Req.entries := by
  obtain ⟨applied, hm1, hm2⟩ := hI.memFlat
  rw [hm1, List.append_assoc, hm2, List.flatMap_append]

/-- An entry applied or about to be applied stems from a commit in the history that was not rejected: its request
    was taken out of the channel, so it was enqueued, so it is a live one. -/
theorem PInv.entry_hist {d n p} (hI : PInv d n p) {kv : Nat × Nat} (h : kv ∈ p.memtable ++ p.pending) :
    ∃ e ∈ p.sys.hist, e.ts = kv.2 ∧ kv.1 ∈ e.conflictKeys ∧ e.ts ∉ p.rejected := by
  obtain ⟨q, hq, hqe⟩ := List.mem_flatMap.mp (hI.memtable_pending ▸ h)
  obtain ⟨hv, hkey⟩ := (mem_entries q kv).mp hqe
  obtain ⟨hnr, e, he, h1, h2⟩ := Pipe.mem_liveReqs (hI.enq_live (List.mem_append.mpr (.inl hq)))
  exact ⟨e, he, h1.trans hv.symm, h2 ▸ hkey, h1 ▸ hnr⟩

theorem PInv.applied_of_signalled {d n p} (hI : PInv d n p) (e : HistEntry) (he : e ∈ p.sys.hist)
    (hsig : e.ts ∈ p.signalled) : ∀ k ∈ e.conflictKeys, (k, e.ts) ∈ p.memtable := by
  intro k hk
  rw [hI.sigEq] at hsig
  obtain ⟨q, hq, hqt⟩ := List.mem_map.mp hsig
  obtain ⟨-, e', he', h1, h2⟩ := Pipe.mem_liveReqs (hI.enq_live (q := q) (by simp [Pipe.enq, hq]))
  have : e' = e := eq_of_key_eq (·.ts) (hI.sysInv.histSorted.imp Nat.ne_of_lt) he' he (by rw [h1, hqt])
  subst this
  obtain ⟨applied, hm1, _⟩ := hI.memFlat
  rw [hm1]
  apply List.mem_append.mpr; left
  exact List.mem_flatMap.mpr ⟨q, hq, (mem_entries q _).mpr ⟨by simp [hqt], by rw [← h2]; exact hk⟩⟩

theorem Pipe.setPh_same (p : Pipe) (tid : Nat) (c : CPhase) : p.setPh tid c tid = c := by simp [Pipe.setPh]
theorem Pipe.setPh_other (p : Pipe) (tid t : Nat) (c : CPhase) (h : t ≠ tid) : p.setPh tid c t = p.cph t := by
  simp [Pipe.setPh, h]

theorem PInv.init (d : Bool) (n : Nat) : PInv d n (Pipe.opened d n) where
  reach := .init
  lockIff := fun _ => ⟨nofun, nofun⟩
  histEnq := rfl
  rejHist := nofun
  memFlat := ⟨[], rfl, rfl⟩
  sigEq := rfl
  ackSub := nofun
  acked := nofun

/-- `lockIff` after `tid` has moved to phase `c` and the lock to `h'`. -/
theorem lockIff_set (p : Pipe) (tid : Nat) (c : CPhase) (h' : Option Nat)
    (h : ∀ t, (p.cph t).holds = true ↔ p.lockHolder = some t) (hc : c.holds = true ↔ h' = some tid)
    (ho : ∀ t, t ≠ tid → (p.lockHolder = some t ↔ h' = some t)) :
    ∀ t, (p.setPh tid c t).holds = true ↔ h' = some t := by
  intro t
  by_cases ht : t = tid
  · subst ht; rw [Pipe.setPh_same]; exact hc
  · rw [Pipe.setPh_other _ _ _ _ ht, h t]; exact ho t ht

theorem lockIff_keep (p : Pipe) (tid : Nat) (c : CPhase) (hc : c.holds = true)
    (h : ∀ t, (p.cph t).holds = true ↔ p.lockHolder = some t) (hh : p.lockHolder = some tid) :
    ∀ t, (p.setPh tid c t).holds = true ↔ p.lockHolder = some t :=
  lockIff_set p tid c _ h (by simp [hc, hh]) fun _ _ => Iff.rfl

theorem lockIff_release (p : Pipe) (tid : Nat) (c : CPhase) (hc : c.holds = false)
    (h : ∀ t, (p.cph t).holds = true ↔ p.lockHolder = some t) (hh : p.lockHolder = some tid) :
    ∀ t, (p.setPh tid c t).holds = true ↔ (none : Option Nat) = some t :=
  lockIff_set p tid c none h (by simp [hc]) fun t ht => by simp [hh, Ne.symm ht]

theorem PInv.holder {d n p} (ih : PInv d n p) {tid : Nat} (h : (p.cph tid).holds = true) :
    p.lockHolder = some tid := (ih.lockIff tid).mp h

/-- The acknowledged committers after `tid` has moved to phase `c`, the reported timestamps having grown at most. -/
theorem PInv.ackedFacts {d n p} (ih : PInv d n p) (tid : Nat) (c : CPhase) {done : List Nat}
    (hd : ∀ t ∈ p.sys.doneCommits, t ∈ done) (h2 : ∀ ts, c = .acked ts → ts ∈ done ∧ ts ∈ p.signalled) :
    ∀ t ts, p.setPh tid c t = .acked ts → ts ∈ done ∧ ts ∈ p.signalled := by
  intro t ts hc
  by_cases ht : t = tid
  · subst ht; rw [Pipe.setPh_same] at hc; exact h2 ts hc
  · rw [Pipe.setPh_other _ _ _ _ ht] at hc
    exact ⟨hd ts (ih.acked t ts hc).1, (ih.acked t ts hc).2⟩

theorem PInv.sysFrame {d n p} (ih : PInv d n p) {l : Label} {s : Sys} (hs : p.sys.step l = some s)
    (hh : s.hist = p.sys.hist) (hd : s.doneCommits = p.sys.doneCommits) : PInv d n { p with sys := s } := by
  refine { ih with reach := .step l ih.reach hs, histEnq := ?_, rejHist := ?_, ackSub := ?_, acked := ?_ } <;>
    simp only [Pipe.liveReqs, hh, hd]
  · exact ih.histEnq
  · exact ih.rejHist
  · exact ih.ackSub
  · exact ih.acked

/-- The cases are the branches of `Pipe.step`, numbered in the order of the `match` in its definition; those not
    listed return `none`. Where the live requests stay the same, `histEnq` is the old equation followed by the
    equality of the two right sides (`ih.histEnq.trans …`); they change in `stamp` (accepted) and `reject` only. -/
theorem PInv.step {d n p p'} {l : PLabel} (ih : PInv d n p) : p.step l = some p' → PInv d n p' := by
  have hI := ih.sysInv
  fun_cases Pipe.step p l <;> intro hstep <;> cases hstep
  case case1 l hal s hs => -- `sys`: an oracle step other than `commit`/`doneCommit`
    obtain ⟨hh, hd⟩ := (Sys.Step.of_step hI hs).frame (by rintro t rfl; cases hal) (by rintro t rfl; cases hal)
    exact ih.sysFrame hs hh hd
  case case5 tid hc => -- `lock`: nobody held it: nothing stamped before, and the new holder is only `locked`
    have hnone : p.lockHolder = none := Option.not_isSome_iff_eq_none.mp fun h => hc (.inl h)
    exact { ih with lockIff := lockIff_set p tid .locked _ ih.lockIff (by simp [CPhase.holds])
                      fun t ht => by simp [hnone, Ne.symm ht],
                    histEnq := ih.histEnq.trans (by simp only [Pipe.stampedReq, hnone, Pipe.setPh_same, Pipe.enq]),
                    acked := ih.ackedFacts tid .locked (fun _ => id) nofun }
  case case7 tid hlk s ts x hx hres hs => -- `stamp`, accepted: the history grows by the request now stamped
    have hlocked : p.cph tid = .locked := Decidable.not_not.mp hlk
    have hholder : p.lockHolder = some tid := ih.holder (by rw [hlocked]; rfl)
    obtain ⟨x', hx', hdc, hcase⟩ := Sys.step_commit hI tid hs
    rw [hx] at hx'; cases hx'
    rw [hres] at hcase
    obtain ⟨hres', hhist⟩ := hcase.resolve_left (by rintro ⟨h, -⟩; cases h)
    cases hres'
    have hfresh : p.sys.o.nextTxnTs ∉ p.rejected := by
      intro hm
      obtain ⟨e, he, ee⟩ := List.mem_map.mp (ih.rejHist _ hm).1
      have := (hI.histLt e he).2
      omega
    refine { ih with reach := .step _ ih.reach hs,
                     lockIff := lockIff_keep p tid _ rfl ih.lockIff hholder, histEnq := ?_,
                     rejHist := ?_, ackSub := ?_, acked := ?_ }
    · have := ih.histEnq
      simp only [Pipe.stampedReq, hholder, hlocked, Pipe.liveReqs, Pipe.enq, List.append_nil] at this
      simp only [hhist, Pipe.stampedReq, hholder, Pipe.setPh_same, Pipe.enq, Pipe.liveReqs, List.map_append,
        List.filter_append, this]
      congr 1
      simp [hfresh, HistEntry.toReq]
    · intro t ht
      obtain ⟨h1, h2⟩ := ih.rejHist t ht
      simp only [hhist, hdc, List.map_append, List.mem_append]
      exact ⟨.inl h1, h2⟩
    · simp only [hdc]; exact ih.ackSub
    · simp only [hdc]; exact ih.ackedFacts tid _ (fun _ => id) nofun
  case case8 tid hlk s hs hno => -- `stamp`, `ErrConflict`: the oracle step changes no history, the lock is released
    have hlocked : p.cph tid = .locked := Decidable.not_not.mp hlk
    have hholder : p.lockHolder = some tid := ih.holder (by rw [hlocked]; rfl)
    obtain ⟨x, hx, hdc, hcase⟩ := Sys.step_commit hI tid hs
    obtain ⟨-, hhist⟩ := hcase.resolve_right fun h => hno _ x h.1 hx
    have ih' := ih.sysFrame hs hhist hdc
    exact { ih' with lockIff := lockIff_release p tid .idle rfl ih.lockIff hholder,
                     histEnq := ih'.histEnq.trans (by simp only [Pipe.stampedReq, hholder, hlocked, Pipe.enq]),
                     acked := ih'.ackedFacts tid .idle (fun _ => id) nofun }
  case case10 tid ts keys hcp => -- `enqueue`: the stamped request becomes the last one of the channel
    have hholder : p.lockHolder = some tid := ih.holder (by rw [hcp]; rfl)
    exact { ih with lockIff := lockIff_keep p tid _ rfl ih.lockIff hholder,
                    histEnq := ih.histEnq.trans (by
                      simp only [Pipe.stampedReq, hholder, hcp, Pipe.setPh_same, Pipe.enq, List.append_nil,
                        List.append_assoc]),
                    acked := ih.ackedFacts tid _ (fun _ => id) nofun }
  case case12 tid ts keys hcp s hs => -- `reject`
    obtain ⟨hh, hd⟩ := Sys.step_doneCommit hI ts hs
    have hholder : p.lockHolder = some tid := ih.holder (by rw [hcp]; rfl)
    have hlive := ih.histEnq
    simp only [Pipe.stampedReq, hholder, hcp] at hlive
    obtain ⟨-, e0, he0, hts0, -⟩ := Pipe.mem_liveReqs (q := ⟨ts, keys, tid⟩)
      (hlive ▸ List.mem_append.mpr (.inr (List.mem_singleton.mpr rfl)))
    have hlt : ∀ a ∈ p.enq, a.ts < ts := fun a ha =>
      (List.pairwise_append.mp (hlive ▸ ih.liveSorted)).2.2 a ha _ (List.mem_singleton.mpr rfl)
    refine { ih with reach := .step _ ih.reach hs,
                     lockIff := lockIff_release p tid .idle rfl ih.lockIff hholder, histEnq := ?_,
                     rejHist := ?_, ackSub := ?_,
                     acked := ih.ackedFacts tid .idle (done := s.doneCommits)
                       (fun t ht => by rw [hd]; exact List.mem_append.mpr (.inl ht)) nofun }
    · -- the live requests lose exactly the one stamped `ts`
      have e1 : p.sys.hist.filter (fun e => !(p.rejected ++ [ts]).contains e.ts) =
          (p.sys.hist.filter (fun e => !p.rejected.contains e.ts)).filter
            ((fun q : Req => q.ts != ts) ∘ HistEntry.toReq) := by
        rw [List.filter_filter]
        apply List.filter_congr
        intro e _
        by_cases h1 : e.ts ∈ p.rejected <;> by_cases h2 : e.ts = ts <;> simp [h1, h2, HistEntry.toReq]
      simp only [Pipe.liveReqs, hh, Pipe.stampedReq, List.append_nil]
      rw [e1, ← List.filter_map]
      show p.liveReqs.filter (fun q => q.ts != ts) = p.enq
      rw [hlive, List.filter_append, List.filter_eq_self.mpr fun a ha => by have := hlt a ha; simp; omega]
      simp
    · simp only [hh, hd]
      exact List.forall_mem_append.mpr
        ⟨fun t ht => ⟨(ih.rejHist t ht).1, List.mem_append.mpr (.inl (ih.rejHist t ht).2)⟩,
         List.forall_mem_singleton.mpr
           ⟨List.mem_map.mpr ⟨e0, he0, hts0⟩, List.mem_append.mpr (.inr (List.mem_singleton.mpr rfl))⟩⟩
    · simp only [hd]
      exact List.forall_mem_append.mpr
        ⟨fun t ht => (ih.ackSub t ht).imp_right fun h1 => List.mem_append.mpr (.inl h1),
         fun t ht => .inr (List.mem_append.mpr (.inr ht))⟩
  case case15 tid ts hcp => -- `unlock`: the holder's request is in the channel already, nothing is stamped
    have hholder : p.lockHolder = some tid := ih.holder (by rw [hcp]; rfl)
    exact { ih with lockIff := lockIff_release p tid _ rfl ih.lockIff hholder,
                    histEnq := ih.histEnq.trans (by simp only [Pipe.stampedReq, hholder, hcp, Pipe.enq]),
                    acked := ih.ackedFacts tid _ (fun _ => id) nofun }
  case case18 k hc => -- `dequeue`: the sequence of everything enqueued is the same list
    have hb : p.batch = none := Option.not_isSome_iff_eq_none.mp fun h => hc (.inl h)
    obtain ⟨applied, hm1, hm2⟩ := ih.memFlat
    rw [hb] at hm2
    obtain ⟨rfl, -⟩ := List.append_eq_nil_iff.mp hm2
    have he : p.finished ++ p.writeCh.take k ++ p.writeCh.drop k = p.enq := by simp [Pipe.enq, hb]
    exact { ih with histEnq := ih.histEnq.trans (by rw [← he]; rfl), memFlat := ⟨[], by simpa using hm1, by simp⟩ }
  case case19 b e rest hp hb => -- `put`
    obtain ⟨applied, hm1, hm2⟩ := ih.memFlat
    exact { ih with memFlat := ⟨applied ++ [e], by simp [hm1], by rw [hp] at hm2; simpa using hm2⟩ }
  case case21 b hp hb => -- `signal`
    obtain ⟨applied, hm1, hm2⟩ := ih.memFlat
    rw [hp, hb] at hm2
    simp only [List.append_nil, Option.getD_some] at hm2
    have he : p.finished ++ b ++ [] ++ p.writeCh = p.enq := by simp [Pipe.enq, hb]
    refine { ih with histEnq := ih.histEnq.trans (by rw [← he]; rfl),
                     memFlat := ⟨[], by simp [hm1, hm2], by simp [hp]⟩,
                     sigEq := by simp [ih.sigEq], ackSub := ?_, acked := ?_ }
    · exact fun t ht => (ih.ackSub t ht).imp_left fun h1 => List.mem_append.mpr (.inl h1)
    · intro t ts hc
      obtain ⟨h1, h2⟩ := ih.acked t ts hc
      exact ⟨h1, List.mem_append.mpr (.inl h2)⟩
  case case24 tid ts hcp hsig s hs => -- `ack`: the committer waiting for its signal is not the lock holder
    have hsig' : ts ∈ p.signalled := by simpa using hsig
    obtain ⟨hh, hd⟩ := Sys.step_doneCommit hI ts hs
    have hne : ∀ t, p.lockHolder = some t → t ≠ tid := by
      rintro t hl rfl
      have := (ih.lockIff t).mpr hl
      rw [hcp] at this; cases this
    have hk2 := ih.ackedFacts tid (.acked ts) (done := s.doneCommits)
      (fun t ht => by rw [hd]; exact List.mem_append.mpr (.inl ht))
      (fun ts' hc => by
        cases hc
        exact ⟨by rw [hd]; exact List.mem_append.mpr (.inr (List.mem_singleton.mpr rfl)), hsig'⟩)
    refine { ih with reach := .step _ ih.reach hs,
                     lockIff := lockIff_set p tid _ _ ih.lockIff
                       (by simpa [hcp, CPhase.holds] using ih.lockIff tid) fun _ _ => Iff.rfl,
                     histEnq := ?_, rejHist := ?_, ackSub := ?_, acked := hk2 }
    · simp only [Pipe.liveReqs, hh]
      refine ih.histEnq.trans (congrArg _ ?_)
      simp only [Pipe.stampedReq]
      cases hl : p.lockHolder with
      | none => rfl
      | some t => simp only [Pipe.setPh_other _ _ _ _ (hne t hl)]
    · intro t ht
      obtain ⟨h1, h2⟩ := ih.rejHist t ht
      simp only [hh, hd]
      exact ⟨h1, List.mem_append.mpr (.inl h2)⟩
    · simp only [hd]
      exact List.forall_mem_append.mpr ⟨ih.ackSub, List.forall_mem_singleton.mpr (.inl hsig')⟩

theorem PReach.inv {d : Bool} {n : Nat} {p : Pipe} (h : PReach d n p) : PInv d n p := by
  induction h with
  | init => exact PInv.init d n
  | step l _ hstep ih => exact ih.step hstep

end Badger
