import BadgerModel.Picker
import BadgerProofs.Lemmas.LsmReads
/-!
# From the pickers' predicate `validChoice` (BadgerModel/Picker.lean) to the hypotheses of the compaction theorems

`validChoice_cases` reads the predicate as one of four shapes of choice. For `CompactOk`: the user-key hull `RangeOf`
is the common specification of `keyRangeOf` and `rangeOfTables`; the picker's `overlapIdx` and the drop's
`overlapRange` (BadgerModel/Drop.lean) model the same `overlappingTables` and cut out the same window
(`overlapIdx_eq_range`), which on a level ordered by user key holds exactly the overlapping tables (`cdBase_of_range`).
For `TopsOldest`: whatever the order of L0, from a choice that leaves no overlapping L0 table behind (`cdLeftBehind`,
`topsOldest_of_noLeftBehind`: the route Props/C12Choice.lean takes); and, for an L0 of the shape `L0SF` (kept by every
step except a re-ordering of L0), from taking the maximal chain-overlapping prefix `l0PrefixLen` (`topsOldest_of_prefix`,
which stands on its own).
The theorems about `validChoice` itself stand in Props/C12Choice.lean.
-/
namespace Badger
namespace LL

theorem eq_of_not_bne {α : Type} [BEq α] [LawfulBEq α] {a b : α} (h : ¬ (a != b) = true) : a = b :=
  eq_of_beq (by simpa [bne] using h)

theorem validChoice_cases {s : Lsm} {cd : CompactDef} (hv : validChoice s cd = true) (htop : cd.top ≠ []) :
    (cd.thisLevel = 0 ∧ cd.nextLevel = 0 ∧ cd.bot = [] ∧ 4 ≤ cd.top.length) ∨
    (cd.thisLevel = 0 ∧ cd.nextLevel ≠ 0 ∧
      cd.top = List.range (if cd.dropPrefixes.isEmpty then l0PickLen (cdThisT s cd) else (cdThisT s cd).length) ∧
      cd.bot = overlapIdx (cdNextT s cd) (rangeOfTables (cdTops s cd)) ∧
      ((List.range cd.nextLevel).drop 1).any (fun j => !(s.levels.getD j []).isEmpty) = false) ∨
    (cd.thisLevel ≠ 0 ∧ cd.thisLevel = cd.nextLevel ∧ ∃ i, cd.top = [i] ∧ isContiguousFrom cd.bot = true ∧
      (cd.bot = [] ∨ cd.bot.head? = some (i + 1))) ∨
    (cd.thisLevel ≠ 0 ∧ cd.nextLevel = cd.thisLevel + 1 ∧ ∃ i, cd.top = [i] ∧
      cd.bot = overlapIdx (cdNextT s cd) (rangeOfTables (cdTops s cd))) := by
  unfold validChoice at hv
  revert hv
  -- of the fifteen paths through `choiceProblem` ten report a problem
  fun_cases choiceProblem s cd <;> intro hv <;> try cases hv
  · -- no top table: a `DropPrefix` rewrite, not a picker's choice
    exact absurd (List.isEmpty_iff.mp ‹_›) htop
  · -- L0 → L0
    rename_i h1 h2 h3
    simp only [Bool.and_eq_true, beq_iff_eq] at h1
    exact .inl ⟨h1.1, h1.2, by simpa using h2, by omega⟩
  · -- L0 → Lbase
    rename_i _ h1 h2 _ _ _ _ h3 h4 h5
    have h0 : cd.thisLevel = 0 := by simpa using h2
    exact .inr (.inl ⟨h0, fun hn => h1 (by simp [h0, hn]), eq_of_not_bne h3, eq_of_not_bne h4, Bool.eq_false_iff.mpr h5⟩)
  · -- Lmax → Lmax
    rename_i _ _ h2 h3 i htp h4
    simp only [Bool.and_eq_true, Bool.or_eq_true, beq_iff_eq, List.isEmpty_iff] at h4
    exact .inr (.inr (.inl ⟨by simpa using h2, by simpa using h3, i, htp, h4.1, h4.2⟩))
  · -- Li → Li+1
    rename_i _ _ h2 _ h4 i htp _ h5
    exact .inr (.inr (.inr ⟨by simpa using h2, by simpa using h4, i, htp, eq_of_not_bne h5⟩))

theorem rangeOverlaps_false {lo hi : Bytes} {d : Bytes × Bytes} :
    rangeOverlaps (some (lo, hi)) d = false ↔ klt d.2 lo ∨ klt hi d.1 := by
  unfold rangeOverlaps
  simp only [Bool.and_eq_false_iff, bne_eq_false_iff_eq, cmpBytes_gt_iff_lt]
  rfl

theorem keyRange_of_ok {t : Tbl} (h : TblOk t) :
    ∃ a b, t.smallest = some a ∧ t.biggest = some b ∧ t.keyRange = some (a.key, b.key) ∧ kle a.key b.key := by
  obtain ⟨a, ha⟩ := smallest_some h.1
  obtain ⟨b, hb⟩ := biggest_some h.1
  refine ⟨a, b, ha, hb, by unfold Tbl.keyRange; rw [ha, hb], ?_⟩
  exact tbl_keys_ge_smallest h.2 ha b (biggest_mem hb)

theorem kmin_spec (a lo : Bytes) :
    kle (if cmpBytes a lo == .lt then a else lo) a ∧ kle (if cmpBytes a lo == .lt then a else lo) lo ∧
      ((if cmpBytes a lo == .lt then a else lo) = a ∨ (if cmpBytes a lo == .lt then a else lo) = lo) := by
  by_cases hc : cmpBytes a lo = .lt
  · rw [if_pos (by simp [hc])]
    exact ⟨kle_refl _, kle_of_klt hc, .inl rfl⟩
  · rw [if_neg (by simp [hc])]
    exact ⟨hc, kle_refl _, .inr rfl⟩

theorem kmax_spec (b hi : Bytes) :
    kle b (if cmpBytes b hi == .gt then b else hi) ∧ kle hi (if cmpBytes b hi == .gt then b else hi) ∧
      ((if cmpBytes b hi == .gt then b else hi) = b ∨ (if cmpBytes b hi == .gt then b else hi) = hi) := by
  by_cases hc : cmpBytes b hi = .gt
  · rw [if_pos (by simp [hc])]
    exact ⟨kle_refl _, kle_of_klt ((cmpBytes_gt_iff_lt _ _).mp hc), .inl rfl⟩
  · rw [if_neg (by simp [hc])]
    exact ⟨fun hlt => hc ((cmpBytes_gt_iff_lt _ _).mpr hlt), kle_refl _, .inr rfl⟩

theorem rangeOf_extend {S : List Tbl} {r : Option (Bytes × Bytes)} (hr : RangeOf S r) {t : Tbl} (ht : TblOk t)
    {a b : Ent} (ha : t.smallest = some a) (hb : t.biggest = some b) :
    RangeOf (S ++ [t]) (rangeExtend r (a.key, b.key)) := by
  have hin : ∀ x ∈ t.ents, kle a.key x.key ∧ kle x.key b.key :=
    fun x hx => ⟨tbl_keys_ge_smallest ht.2 ha x hx, tbl_keys_le_biggest ht.2 hb x hx⟩
  cases r with
  | none =>
    unfold RangeOf at hr; subst hr
    simp only [rangeExtend, RangeOf, List.nil_append, List.mem_singleton, forall_eq, exists_eq_left]
    exact ⟨hin, ⟨a, smallest_mem ha, rfl⟩, ⟨b, biggest_mem hb, rfl⟩⟩
  | some p =>
    obtain ⟨lo, hi⟩ := p
    obtain ⟨h1, ⟨t1, ht1, x1, hx1, e1⟩, ⟨t2, ht2, x2, hx2, e2⟩⟩ := hr
    obtain ⟨la, ll, lw⟩ := kmin_spec a.key lo
    obtain ⟨ub, uh, uw⟩ := kmax_spec b.key hi
    simp only [rangeExtend, RangeOf]
    refine ⟨?_, ?_, ?_⟩
    · intro t' ht' x hx
      rcases List.mem_append.mp ht' with h | h
      · exact ⟨kle_trans ll (h1 t' h x hx).1, kle_trans (h1 t' h x hx).2 uh⟩
      · obtain rfl : t' = t := by simpa using h
        exact ⟨kle_trans la (hin x hx).1, kle_trans (hin x hx).2 ub⟩
    · rcases lw with e | e
      · exact ⟨t, by simp, a, smallest_mem ha, e.symm⟩
      · exact ⟨t1, List.mem_append_left _ ht1, x1, hx1, e1.trans e.symm⟩
    · rcases uw with e | e
      · exact ⟨t, by simp, b, biggest_mem hb, e.symm⟩
      · exact ⟨t2, List.mem_append_left _ ht2, x2, hx2, e2.trans e.symm⟩

theorem rangeOf_foldl {f : Option (Bytes × Bytes) → Tbl → Option (Bytes × Bytes)}
    (hf : ∀ r t d, t.keyRange = some d → f r t = rangeExtend r d)
    {S ts : List Tbl} {r : Option (Bytes × Bytes)} (hr : RangeOf S r) (hok : ∀ t ∈ ts, TblOk t) :
    RangeOf (S ++ ts) (ts.foldl f r) := by
  induction ts generalizing S r with
  | nil => simpa using hr
  | cons t ts ih =>
    obtain ⟨a, b, ha, hb, hkr, _⟩ := keyRange_of_ok (hok t (by simp))
    simp only [List.foldl_cons, hf r t _ hkr]
    have := ih (rangeOf_extend hr (hok t (by simp)) ha hb) (fun t' ht' => hok t' (List.mem_cons_of_mem _ ht'))
    simpa using this

theorem rangeOfTables_spec {ts : List Tbl} (hok : ∀ t ∈ ts, TblOk t) : RangeOf ts (rangeOfTables ts) := by
  unfold rangeOfTables
  have h := fun f hf => @rangeOf_foldl f hf [] ts none (by simp [RangeOf]) hok
  simp only [List.nil_append] at h
  apply h
  intro r t d hd; simp only [hd]

theorem rangeOfTables_eq {ts : List Tbl} (hok : ∀ t ∈ ts, TblOk t) {lo hi : Ent}
    (hkr : keyRangeOf ts = some (lo, hi)) : rangeOfTables ts = some (lo.key, hi.key) :=
  (rangeOfTables_spec hok).unique (keyRangeOf_spec hok hkr).2.2

end LL

/-- what `validChoice` does not look at (the driver computes the indices as positions of the
    implementation's tables) -/
def ChoiceIdxOk (s : Lsm) (cd : CompactDef) : Prop :=
  cd.thisLevel < s.levels.length ∧ cd.nextLevel < s.levels.length ∧
  (∀ i ∈ cd.top, i < (cdThisT s cd).length) ∧ cd.top.Pairwise (· < ·) ∧
  (∀ j ∈ cd.bot, j < (cdNextT s cd).length) ∧
  (cd.thisLevel = cd.nextLevel → cd.thisLevel ≠ 0 → cd.thisLevel + 1 = s.levels.length)

instance (s : Lsm) (cd : CompactDef) : Decidable (ChoiceIdxOk s cd) := by unfold ChoiceIdxOk; infer_instance

/-- the two `sort.Search` predicates of `overlappingTables` on internal keys (`overlapRange`, BadgerModel/Drop.lean) -/
def ovL (lo : Ent) (t : Tbl) : Bool := match t.biggest with
  | some b => entCmp lo b != .gt
  | none => false
def ovR (hi : Ent) (t : Tbl) : Bool := match t.smallest with
  | some a => entCmp hi a == .lt
  | none => false

theorem overlapRange_eq (T : List Tbl) (lo hi : Ent) :
    overlapRange T lo hi = (T.findIdx (ovL lo), T.findIdx (ovR hi)) := rfl

theorem tblOverlaps_eq {t : Tbl} (hok : TblOk t) (lo hi : Ent) :
    tblOverlaps lo hi t = (ovL lo t && !ovR hi t) := by
  obtain ⟨a, ha⟩ := LL.smallest_some hok.1
  obtain ⟨b, hb⟩ := LL.biggest_some hok.1
  unfold tblOverlaps ovL ovR
  rw [ha, hb]
  rfl

theorem ov_mono {T : List Tbl} (hok : ∀ t ∈ T, TblOk t) (hkd : KeyDisjoint T) (lo hi : Ent) {i j : Nat}
    (hi' : i < T.length) (hj : j < T.length) (hij : i < j) :
    (ovL lo T[i] = true → ovL lo T[j] = true) ∧ (ovR hi T[i] = true → ovR hi T[j] = true) := by
  have hsep := List.pairwise_iff_getElem.mp hkd i j hi' hj hij
  obtain ⟨ai, hai⟩ := LL.smallest_some (hok _ (List.getElem_mem hi')).1
  obtain ⟨bi, hbi⟩ := LL.biggest_some (hok _ (List.getElem_mem hi')).1
  obtain ⟨aj, haj⟩ := LL.smallest_some (hok _ (List.getElem_mem hj)).1
  obtain ⟨bj, hbj⟩ := LL.biggest_some (hok _ (List.getElem_mem hj)).1
  have hb : entCmp bi bj = .lt :=
    (entCmp_lt_iff _ _).mpr (.inl (hsep bi (LL.biggest_mem hbi) bj (LL.biggest_mem hbj)))
  have ha : entCmp ai aj = .lt :=
    (entCmp_lt_iff _ _).mpr (.inl (hsep ai (LL.smallest_mem hai) aj (LL.smallest_mem haj)))
  unfold ovL ovR
  rw [hai, hbi, haj, hbj]
  constructor
  · intro h
    simp only [bne_iff_ne, ne_eq] at h ⊢
    exact fun hg => h (entCmp_gt_trans hg ((entCmp_lt_iff_gt _ _).mp hb))
  · intro h
    simp only [beq_iff_eq] at h ⊢
    exact entCmp_lt_trans h ha

/-- `overlappingTables` returns exactly the tables that intersect the range: on a level ordered by user key
    both scans are monotone -/
theorem overlapRange_exact {T : List Tbl} (hok : ∀ t ∈ T, TblOk t) (hkd : KeyDisjoint T) (lo hi : Ent)
    {j : Nat} (hj : j < T.length) :
    j ∈ List.range' (overlapRange T lo hi).1 ((overlapRange T lo hi).2 - (overlapRange T lo hi).1) ↔
      tblOverlaps lo hi T[j] = true := by
  rw [overlapRange_eq, tblOverlaps_eq (hok _ (List.getElem_mem hj)), List.mem_range'_1, Bool.and_eq_true,
    Bool.not_eq_true', ← findIdx_le_iff_of_mono (fun i j hi' hj' hij => (ov_mono hok hkd lo hi hi' hj' hij).1) hj,
    ← Bool.not_eq_true, ← findIdx_le_iff_of_mono (fun i j hi' hj' hij => (ov_mono hok hkd lo hi hi' hj' hij).2) hj]
  simp only
  omega

namespace LL

def ovLeft (lo : Bytes) (t : Tbl) : Bool :=
  match t.biggest with
  | some b => cmpBytes b.key lo == .lt
  | none => true

def ovRight (hi : Bytes) (t : Tbl) : Bool :=
  match t.smallest with
  | some a => cmpBytes a.key hi != .gt
  | none => true

theorem overlapIdx_some (tbls : List Tbl) (lo hi : Bytes) :
    overlapIdx tbls (some (lo, hi)) =
      (List.range (tbls.takeWhile (ovRight hi)).length).drop (tbls.takeWhile (ovLeft lo)).length := by
  rfl

/-- the picker's `overlapIdx` (user keys) and `overlapRange` (internal keys, the range widened to
    `lo.key@MaxUint64 … hi.key@0`) cut out the same window -/
theorem overlapIdx_eq_range {T : List Tbl} (hok : ∀ t ∈ T, TblOk t) (hv : ∀ t ∈ T, ∀ e ∈ t.ents, e.ver ≤ maxU64)
    {lo hi : Ent} (hlo : lo.ver = maxU64) (hhi : hi.ver = 0) :
    overlapIdx T (some (lo.key, hi.key)) =
      List.range' (overlapRange T lo hi).1 ((overlapRange T lo hi).2 - (overlapRange T lo hi).1) := by
  have hL : (T.takeWhile (ovLeft lo.key)).length = T.findIdx (ovL lo) := by
    refine takeWhile_length_eq_findIdx fun t ht => ?_
    obtain ⟨b, hb⟩ := biggest_some (hok t ht).1
    have hbv := hv t ht b (biggest_mem hb)
    have : entCmp lo b = .gt ↔ cmpBytes b.key lo.key = .lt := by
      rw [entCmp_gt_iff, cmpBytes_gt_iff_lt]
      exact or_iff_left fun h => by omega
    unfold ovLeft ovL
    rw [hb, Bool.eq_iff_iff]
    simp [this]
  have hR : (T.takeWhile (ovRight hi.key)).length = T.findIdx (ovR hi) := by
    refine takeWhile_length_eq_findIdx fun t ht => ?_
    obtain ⟨a, ha⟩ := smallest_some (hok t ht).1
    have : entCmp hi a = .lt ↔ cmpBytes a.key hi.key = .gt := by
      rw [entCmp_lt_iff, cmpBytes_gt_iff_lt]
      exact or_iff_left fun h => by omega
    unfold ovRight ovR
    rw [ha, Bool.eq_iff_iff]
    simp [this]
  rw [overlapIdx_some, hL, hR, overlapRange_eq, List.range_eq_range', List.drop_range']
  simp

theorem range'_bound {a c n : Nat} (h : a + c ≤ n) :
    (List.range' a c).headD 0 + (List.range' a c).length ≤ n := by
  cases c with
  | zero => simp
  | succ c => simp [List.range'_succ]; omega

/-- a bottom run that is the `overlapRange` window of the range of the tops, on a level `≥ 1` -/
theorem cdBase_of_range {s : Lsm} {cd : CompactDef} (h : LsmInv s) (hth : cd.thisLevel < s.levels.length)
    (hnx : cd.nextLevel < s.levels.length) (htr : ∀ i ∈ cd.top, i < (cdThisT s cd).length)
    (hinc : cd.top.Pairwise (· < ·)) (htop : cd.top ≠ []) (hn : 1 ≤ cd.nextLevel) {lo hi : Ent}
    (hkr : keyRangeOf (cdTops s cd) = some (lo, hi))
    (hb : cd.bot = List.range' (overlapRange (cdNextT s cd) lo hi).1
      ((overlapRange (cdNextT s cd) lo hi).2 - (overlapRange (cdNextT s cd) lo hi).1)) :
    CdBase s cd ∧ BotExact s cd := by
  obtain ⟨hokT, hkdT⟩ := h.level (show s.levels[cd.nextLevel]? = some (cdNextT s cd) from levels_getD hnx)
  refine ⟨⟨hth, hnx, htr, hinc, htop, ?_, ?_⟩, ?_⟩
  · rw [hb]; exact range'_eq_headD _ _
  · rw [hb, overlapRange_eq]
    have := @List.findIdx_le_length _ (ovR hi) (cdNextT s cd)
    have := @List.findIdx_le_length _ (ovL lo) (cdNextT s cd)
    exact range'_bound (by simp only; omega)
  · unfold BotExact
    rw [hkr]
    intro j hj
    rw [hb, overlapRange_exact hokT (hkdT hn) lo hi hj, getD_eq_getElem _ _ hj]

theorem contiguous_shape {l : List Nat} (h : isContiguousFrom l = true) :
    l = List.range' (l.headD 0) l.length := by
  cases l with
  | nil => rfl
  | cons a t =>
    unfold isContiguousFrom at h
    simp only [beq_iff_eq] at h
    have e : List.map (fun x => x + a) (List.range (a :: t).length) = List.range' a (a :: t).length := by
      rw [List.range'_eq_map_range]
      apply List.map_congr_left
      intro x _; omega
    rw [e] at h
    simpa using h

end LL

/-- a shape of level 0 that commits, flushes and well-formed compactions keep (`C14_l0sf_*`, Props/C12Choice.lean)
    as long as nothing re-orders the level (`Open` sorts L0 by file id, and the shape is not carried across that):
    the first `m` tables are ordered by their
    smallest user key (what `replaceTables`' re-sort leaves after an L0 → L0 compaction), and every
    table from index `m` on (flushed afterwards) holds, per key, only versions at least as new as
    those of every table before it. `m = 0` is "L0 in age order". -/
def L0SFm (l0 : List Tbl) (m : Nat) : Prop :=
  m ≤ l0.length ∧
  (∀ (i j : Nat) (a b : Tbl) (x y : Ent), i < j → j < m → l0[i]? = some a → l0[j]? = some b →
    a.smallest = some x → b.smallest = some y → ¬ cmpBytes y.key x.key = .lt) ∧
  (∀ (j j' : Nat) (a b : Tbl), j' < j → m ≤ j → l0[j]? = some a → l0[j']? = some b →
    ∀ x ∈ a.ents, ∀ e ∈ b.ents, x.key = e.key → e.ver ≤ x.ver)

def L0SF (s : Lsm) : Prop := ∃ m, L0SFm (s.levels.getD 0 []) m

namespace LL

theorem l0PrefixLen_le (l : List Tbl) (kr : Option (Bytes × Bytes)) : l0PrefixLen l kr ≤ l.length := by
  fun_induction l0PrefixLen l kr with
  | case1 => exact Nat.le_refl _  -- no table left
  | case2 => exact Nat.zero_le _  -- an empty table stops the prefix
  | case3 t ts kr d _ _ ih => rw [List.length_cons]; omega  -- the table overlaps the range so far
  | case4 => exact Nat.zero_le _  -- the table does not overlap: the prefix ends

/-- the first table `fillTablesL0ToLbase` leaves out does not overlap the key hull of the prefix it takes -/
theorem l0PrefixLen_spec (l : List Tbl) (hok : ∀ t ∈ l, TblOk t) (S : List Tbl) (kr : Option (Bytes × Bytes))
    (hr : RangeOf S kr) :
    ∃ krn, RangeOf (S ++ l.take (l0PrefixLen l kr)) krn ∧
      ∀ c d, l[l0PrefixLen l kr]? = some c → c.keyRange = some d → rangeOverlaps krn d = false := by
  induction l generalizing S kr with
  | nil => exact ⟨kr, by simpa [l0PrefixLen] using hr, by simp⟩
  | cons t ts ih =>
    obtain ⟨a, b, ha, hb, hkr, _⟩ := keyRange_of_ok (hok t (by simp))
    unfold l0PrefixLen
    rw [hkr]
    simp only
    by_cases hov : rangeOverlaps kr (a.key, b.key) = true
    · rw [if_pos hov, Nat.add_comm, List.take_succ_cons]
      obtain ⟨krn, h2, h3⟩ := ih (fun t' ht' => hok t' (List.mem_cons_of_mem _ ht')) (S ++ [t]) _
        (rangeOf_extend hr (hok t (by simp)) ha hb)
      exact ⟨krn, by simpa using h2, fun c d hc => h3 c d (by simpa using hc)⟩
    · rw [if_neg hov]
      refine ⟨kr, by simpa using hr, ?_⟩
      intro c d hc hd
      simp at hc; subst hc
      rw [hkr] at hd; cases hd
      simpa using hov

theorem prefix_oldest {l0 : List Tbl} {m : Nat} (hok : ∀ t ∈ l0, TblOk t) (hsf : L0SFm l0 m)
    (hnpos : 0 < l0PrefixLen l0 none) {t t' : Tbl} (ht : t ∈ l0.drop (l0PrefixLen l0 none))
    (ht' : t' ∈ l0.take (l0PrefixLen l0 none)) {x e : Ent} (hx : x ∈ t.ents) (he : e ∈ t'.ents)
    (hk : x.key = e.key) : e.ver ≤ x.ver := by
  have hn_le := l0PrefixLen_le l0 none
  obtain ⟨krn, hrn, hstop⟩ := l0PrefixLen_spec l0 hok [] none (by simp [RangeOf])
  generalize l0PrefixLen l0 none = n at *
  obtain ⟨_, hsorted, haged⟩ := hsf
  obtain ⟨j0, hj0, rfl⟩ := List.getElem_of_mem ht
  obtain ⟨j', hj', rfl⟩ := List.getElem_of_mem ht'
  simp only [List.length_drop] at hj0
  simp only [List.length_take] at hj'
  rw [List.getElem_drop] at hx
  rw [List.getElem_take] at he
  have hjl : n + j0 < l0.length := by omega
  have hj'l : j' < l0.length := by omega
  by_cases hm : m ≤ n + j0
  · exact haged (n + j0) j' _ _ (by omega) hm (List.getElem?_eq_getElem hjl) (List.getElem?_eq_getElem hj'l)
      x hx e he hk
  · exfalso
    -- both tables are in the part ordered by smallest key; the first excluded table `C` lies above the range
    have hnl : n < l0.length := by omega
    obtain ⟨c1, c2, hc1, hc2, hckr, _⟩ := keyRange_of_ok (hok _ (List.getElem_mem hnl))
    have hstop' := hstop _ _ (List.getElem?_eq_getElem hnl) hckr
    simp only [List.nil_append] at hrn
    cases krn with
    | none =>
      unfold RangeOf at hrn
      have : (l0.take n).length = 0 := by rw [hrn]; rfl
      rw [List.length_take] at this; omega
    | some p =>
      obtain ⟨lo, hi⟩ := p
      obtain ⟨hcov, _, _⟩ := hrn
      have h0l : 0 < l0.length := by omega
      obtain ⟨f1, f2, hf1, hf2, _, _⟩ := keyRange_of_ok (hok _ (List.getElem_mem h0l))
      have hf1m : f1 ∈ l0[0].ents := smallest_mem hf1
      have hlo_f : kle lo f1.key := (hcov l0[0] (by
        rw [List.mem_take_iff_getElem]; exact ⟨0, by omega, rfl⟩) f1 hf1m).1
      have hf_c : kle f1.key c1.key :=
        hsorted 0 n _ _ f1 c1 hnpos (by omega) (List.getElem?_eq_getElem h0l) (List.getElem?_eq_getElem hnl) hf1 hc1
      have hc12 : kle c1.key c2.key := tbl_keys_ge_smallest (hok _ (List.getElem_mem hnl)).2 hc1 c2 (biggest_mem hc2)
      have hlo_c2 : kle lo c2.key := kle_trans hlo_f (kle_trans hf_c hc12)
      have hhi_c1 : klt hi c1.key := (rangeOverlaps_false.mp hstop').resolve_left fun h1 => hlo_c2 h1
      -- `x` lies at or above `C`'s smallest key, `e` inside the range
      have he_hi : kle e.key hi := (hcov _ (by
        rw [List.mem_take_iff_getElem]; exact ⟨j', by omega, rfl⟩) e he).2
      obtain ⟨g1, g2, hg1, hg2, _, _⟩ := keyRange_of_ok (hok _ (List.getElem_mem hjl))
      have hc_g : kle c1.key g1.key := by
        rcases Nat.eq_zero_or_pos j0 with rfl | hpos
        · rw [show g1 = c1 from Option.some.inj (hg1.symm.trans hc1)]; exact kle_refl _
        · exact hsorted n (n + j0) _ _ c1 g1 (by omega) (by omega) (List.getElem?_eq_getElem hnl)
            (List.getElem?_eq_getElem hjl) hc1 hg1
      have hg_x : kle g1.key x.key := tbl_keys_ge_smallest (hok _ (List.getElem_mem hjl)).2 hg1 x hx
      have : klt e.key x.key := klt_of_kle_of_klt he_hi (klt_of_klt_of_kle hhi_c1 (kle_trans hc_g hg_x))
      exact klt_ne this hk.symm

/-- the maximal chain-overlapping prefix of an `L0SF`-shaped level 0 leaves behind only tables that
    share no user key with it or are newer -/
theorem topsOldest_of_prefix {s : Lsm} {cd : CompactDef} {m : Nat} (h : LsmInv s)
    (hsf : L0SFm (cdThisT s cd) m) (hth : cd.thisLevel < s.levels.length)
    (htop : cd.top = List.range (l0PrefixLen (cdThisT s cd) none)) (hne : cd.top ≠ []) :
    TopsOldest s cd := by
  have hnpos : 0 < l0PrefixLen (cdThisT s cd) none := by
    rcases Nat.eq_zero_or_pos (l0PrefixLen (cdThisT s cd) none) with h0 | h0
    · rw [htop, h0] at hne; exact absurd rfl hne
    · exact h0
  intro t ht x hx t' ht' e he hk
  unfold cdTops at ht'
  rw [htop, removeIdx_range] at ht
  rw [htop, pickIdx_range _ _ (l0PrefixLen_le _ _)] at ht'
  exact prefix_oldest (h.level (levels_getD hth)).1 hsf hnpos ht ht' hx he hk

/-- an L0 table that is not compacted has a user-key range overlapping the range of the L0 tables
    that are. Since the F28 repair of `fillTablesL0ToLbase` the picker never makes such a choice. -/
def cdLeftBehind (s : Lsm) (cd : CompactDef) : Bool :=
  cd.thisLevel == 0 && (removeIdx (cdThisT s cd) cd.top).any (fun t =>
    match t.keyRange with
    | some d => rangeOverlaps (rangeOfTables (cdTops s cd)) d
    | none => false)

/-- an L0 → Lbase choice that leaves no overlapping L0 table behind: the tables left in L0 share no
    user key with the tops — whatever the order of L0 -/
theorem topsOldest_of_noLeftBehind {s : Lsm} {cd : CompactDef} (h : LsmInv s) (hth : cd.thisLevel < s.levels.length)
    (h0 : cd.thisLevel = 0) (hlb : cdLeftBehind s cd = false) : TopsOldest s cd := by
  have hthis := levels_getD hth
  have hok : ∀ t ∈ cdThisT s cd, TblOk t := (h.level hthis).1
  have htok : ∀ t ∈ cdTops s cd, TblOk t := fun t ht => hok t (tops_mem ht)
  unfold cdLeftBehind at hlb
  simp only [h0, beq_self_eq_true, Bool.true_and] at hlb
  intro t ht x hx t' ht' e he hk
  exfalso
  have hno := List.any_eq_false.mp hlb t ht
  obtain ⟨a, b, ha, hb, hkr, _⟩ := keyRange_of_ok (hok t ((removeIdx_sublist _ _).subset ht))
  rw [hkr] at hno
  simp only [Bool.not_eq_true] at hno
  have hsp := rangeOfTables_spec htok
  cases hr : rangeOfTables (cdTops s cd) with
  | none =>
    rw [hr] at hsp; unfold RangeOf at hsp; rw [hsp] at ht'; simp at ht'
  | some p =>
    obtain ⟨lo, hi⟩ := p
    rw [hr] at hsp hno
    obtain ⟨hcov, _, _⟩ := hsp
    obtain ⟨h1, h2⟩ := hcov t' ht' e he
    have hx1 := tbl_keys_ge_smallest (hok t ((removeIdx_sublist _ _).subset ht)).2 ha x hx
    have hx2 := tbl_keys_le_biggest (hok t ((removeIdx_sublist _ _).subset ht)).2 hb x hx
    rcases rangeOverlaps_false.mp hno with h3 | h3
    · -- lo > b.key, but lo ≤ e.key = x.key ≤ b.key
      exact (kle_trans h1 (hk ▸ hx2)) h3
    · -- hi < a.key, but a.key ≤ x.key = e.key ≤ hi
      exact (kle_trans hx1 (hk ▸ h2)) h3

end LL
end Badger
