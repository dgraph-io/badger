import BadgerProofs.Lemmas.CrashFs
/-!
# The power-loss view of the file system

For every name four candidates for "what a power loss leaves in the file called `p`":
bound as in the directory (`f…`) or as in the durable directory (`d…`), with the page-cache
(`…v`) or the durable (`…d`) content of that inode; `lk` says that both directories bind the
name to the same inode. Without `rename` (the protocol renames during the very first `Open`
only) and under `Fs.WF2` every `FsOp` acts on this view pointwise (`qstep`). The component `fv` is
the kill view (`Fs.quad_fv`), on which `qstep` is `kstep` (`fvOf_qstep`): the kill side of the
development follows the file system through this view as well. `qstep`'s `rename` case follows `fv`
only: enough for `fvOf_qstep`, which holds for every operation, but it leaves `fd` and `lk` as they
were, which is not what `Fs.step` does; `Fs.quad_step` excludes `rename` (`hr`). At the end: what any power-loss choice
leaves under a name is one of the four candidates (`crashPowerWith_file`).
-/
namespace Badger

@[ext] structure PV where
  fv : Option Inode := none
  fd : Option Inode := none
  dv : Option Inode := none
  dd : Option Inode := none
  lk : Bool := true

abbrev QFs := Path → PV

def PV.setV (v : PV) (f : Option Inode) : PV := { v with fv := f, dv := if v.lk then f else v.dv }
def PV.setD (v : PV) (f : Option Inode) : PV := { v with fd := f, dd := if v.lk then f else v.dd }

/-- page-cache and durable content exchanged: `setD` is `setV` seen through it -/
def PV.swap (v : PV) : PV := { fv := v.fd, fd := v.fv, dv := v.dd, dd := v.dv, lk := v.lk }

def cOf (d : List (Nat × Inode)) (i : Nat) : Inode := (aget i d).getD {}

def Fs.quad (s : Fs) : QFs := fun p =>
  { fv := (aget p s.dir).map (cOf s.data), fd := (aget p s.dir).map (cOf s.ddata),
    dv := (aget p s.ddir).map (cOf s.data), dd := (aget p s.ddir).map (cOf s.ddata),
    lk := decide (aget p s.dir = aget p s.ddir) }

def fvOf (Q : QFs) : KFs := fun p => (Q p).fv

theorem Fs.quad_fv (s : Fs) : fvOf s.quad = s.file := by
  funext p; simp only [fvOf, Fs.quad, Fs.file_def]; rfl

def qstep (Q : QFs) : FsOp → QFs
  | .create p => fun q => if q = p then { Q p with fv := some {}, fd := some {}, lk := false } else Q q
  | .extend p => fun q => if q = p then
      (match (Q p).fv with
       | some f => ((Q p).setV (some { f with size := .alloc })).setD (some { chunks := [], size := .alloc })
       | none => Q p) else Q q
  | .append p c => fun q => if q = p then (Q p).setV ((Q p).fv.map (appendChunk c)) else Q q
  | .zero _ => Q
  | .truncate p n => fun q => if q = p then (Q p).setV ((Q p).fv.map (truncChunks n)) else Q q
  | .sync p => fun q => if q = p then (Q p).setD (Q p).fv else Q q
  | .rename a b => fun q =>
    match (Q a).fv with
    | some f => if q = b then { Q q with fv := some f } else if q = a then { Q q with fv := none } else Q q
    | none => Q q
  | .unlink p => fun q => if q = p then { Q p with fv := none, fd := none, lk := (Q p).dv.isNone } else Q q
  | .syncDir => fun q => { Q q with dv := (Q q).fv, dd := (Q q).fd, lk := true }

def qrun (Q : QFs) (ops : List FsOp) : QFs := ops.foldl qstep Q

@[simp] theorem qrun_nil (Q : QFs) : qrun Q [] = Q := rfl
@[simp] theorem qrun_cons (Q : QFs) (op : FsOp) (ops : List FsOp) :
    qrun Q (op :: ops) = qrun (qstep Q op) ops := rfl

theorem fvOf_qstep (Q : QFs) (op : FsOp) : fvOf (qstep Q op) = kstep (fvOf Q) op := by
  funext q
  cases op with
  | create p | unlink p => dsimp only [fvOf, qstep, kstep]; by_cases h : q = p <;> simp [h]
  | extend p =>
    dsimp only [fvOf, qstep, kstep]
    by_cases h : q = p
    · subst h
      cases hf : (Q q).fv <;> simp [hf, PV.setV, PV.setD]
    · simp [h]
  | append p _ | truncate p _ => dsimp only [fvOf, qstep, kstep]; by_cases h : q = p <;> simp [h, PV.setV]
  | zero p | syncDir => rfl
  | sync p => dsimp only [fvOf, qstep, kstep]; by_cases h : q = p <;> simp [h, PV.setD]
  | rename a b =>
    dsimp only [fvOf, qstep, kstep]
    cases hf : (Q a).fv with
    | none => simp
    | some f =>
      dsimp only
      by_cases h1 : q = b
      · simp [h1]
      · by_cases h2 : q = a
        · subst h2; simp [h1]
        · simp [h1, h2]

theorem fvOf_qrun (Q : QFs) (ops : List FsOp) : fvOf (qrun Q ops) = krun (fvOf Q) ops := by
  induction ops generalizing Q with
  | nil => rfl
  | cons op ops ih => simp only [qrun_cons, krun_cons, ih, fvOf_qstep]

/-- Well-formedness over the two directories (hence `2`), the current `dir` and the durable `ddir`: an
    inode has one name, within `dir` (`inj`) and across the two (`xinj`: there are no hard links, and
    without `rename` a name never moves), and neither directory nor the durable contents know an inode
    at or above `next` (`fresh`, `dfresh`, `ddfresh`), so that a newly created inode is a candidate
    under its own name only. -/
structure Fs.WF2 (s : Fs) : Prop where
  inj : ∀ p q i, aget p s.dir = some i → aget q s.dir = some i → p = q
  fresh : ∀ p i, aget p s.dir = some i → i < s.next
  dfresh : ∀ p i, aget p s.ddir = some i → i < s.next
  xinj : ∀ p q i, aget p s.dir = some i → aget q s.ddir = some i → p = q
  ddfresh : ∀ i, s.next ≤ i → aget i s.ddata = none

def FsOp.isRename : FsOp → Bool
  | .rename _ _ => true
  | _ => false

def noRen (ops : List FsOp) : Bool := ops.all (fun o => !o.isRename)

theorem noRen_spec (ops : List FsOp) (h : noRen ops = true) : ∀ op ∈ ops, op.isRename = false := by
  intro op hop
  have := List.all_eq_true.mp h op hop
  simpa using this

theorem cOf_aset (d : List (Nat × Inode)) (i : Nat) (x : Inode) (j : Nat) :
    cOf (aset i x d) j = if i = j then x else cOf d j := by
  simp only [cOf, aget_aset]; split <;> rfl

theorem map_cOf_aset_ne {d : List (Nat × Inode)} {i : Nat} {x : Inode} {o : Option Nat} (h : o ≠ some i) :
    o.map (cOf (aset i x d)) = o.map (cOf d) := by
  cases o with
  | none => rfl
  | some j => simp [cOf_aset, show i ≠ j from fun e => h (e ▸ rfl)]

/-- the page-cache content of the inode of `p` is replaced: by `inj`/`xinj` no other name sees it,
    and the durable binding of `p` sees it exactly when it is the same inode (`lk`). Of `Fs.WF2` only these
    two fields are asked for: they do not mention the contents, so the lemma can be read with the two
    contents exchanged (`quad_setDData`); `ddfresh` would not survive that -/
theorem quad_setData (s : Fs) (hinj : ∀ p q i, aget p s.dir = some i → aget q s.dir = some i → p = q)
    (hxinj : ∀ p q i, aget p s.dir = some i → aget q s.ddir = some i → p = q)
    (p : Path) (i : Nat) (hp : aget p s.dir = some i) (x : Inode) :
    Fs.quad { s with data := aset i x s.data } = fun q => if q = p then (s.quad p).setV (some x) else s.quad q := by
  funext q
  by_cases hq : q = p
  · subst hq
    by_cases hl : aget q s.ddir = some i
    · simp [Fs.quad, PV.setV, hp, hl, cOf_aset]
    · simp [Fs.quad, PV.setV, hp, cOf_aset, map_cOf_aset_ne hl, Ne.symm hl]
  · have h1 : aget q s.dir ≠ some i := fun e => hq (hinj q p i e hp)
    have h2 : aget q s.ddir ≠ some i := fun e => hq (hxinj p q i hp e).symm
    simp [Fs.quad, hq, map_cOf_aset_ne h1, map_cOf_aset_ne h2]

/-- the same for the durable content: `quad_setData` with the two contents exchanged -/
theorem quad_setDData (s : Fs) (hinj : ∀ p q i, aget p s.dir = some i → aget q s.dir = some i → p = q)
    (hxinj : ∀ p q i, aget p s.dir = some i → aget q s.ddir = some i → p = q)
    (p : Path) (i : Nat) (hp : aget p s.dir = some i) (x : Inode) :
    Fs.quad { s with ddata := aset i x s.ddata } = fun q => if q = p then (s.quad p).setD (some x) else s.quad q := by
  funext q
  have := congrArg PV.swap (congrFun (quad_setData { s with data := s.ddata, ddata := s.data } hinj hxinj p i hp x) q)
  rwa [apply_ite PV.swap] at this

theorem quad_fv_bound {s : Fs} {p : Path} {i : Nat} (hp : aget p s.dir = some i) :
    (s.quad p).fv = some (cOf s.data i) := by
  simp [Fs.quad, hp]

theorem quad_unbound (s : Fs) (p : Path) (hp : aget p s.dir = none) :
    (s.quad p).fv = none ∧ (s.quad p).setV none = s.quad p ∧ (s.quad p).setD none = s.quad p := by
  refine ⟨by simp [Fs.quad, hp], ?_, ?_⟩ <;>
  · by_cases h : aget p s.ddir = none
    · simp [Fs.quad, PV.setV, PV.setD, hp, h]
    · simp [Fs.quad, PV.setV, PV.setD, hp, Ne.symm h]

theorem fun_upd_self {α β : Type} [DecidableEq α] (f : α → β) (p : α) {v : β} (h : v = f p) :
    (fun q => if q = p then v else f q) = f := by
  funext q
  by_cases hq : q = p
  · rw [if_pos hq, h, hq]
  · rw [if_neg hq]

theorem Fs.quad_modify (s : Fs) (h : s.WF2) (p : Path) (g : Inode → Inode) :
    (s.modify p g).quad = fun q => if q = p then (s.quad p).setV ((s.quad p).fv.map g) else s.quad q := by
  unfold Fs.modify
  cases hp : aget p s.dir with
  | none =>
    obtain ⟨h1, h2, _⟩ := quad_unbound s p hp
    exact (fun_upd_self _ p (by rw [h1]; exact h2)).symm
  | some i =>
    rw [quad_fv_bound hp]
    exact quad_setData s h.inj h.xinj p i hp _

theorem Fs.quad_step (s : Fs) (h : s.WF2) (op : FsOp) (hr : op.isRename = false) :
    (s.step op).quad = qstep s.quad op := by
  cases op with
  | rename a b => cases hr
  | create p =>
    -- the new inode `s.next` is bound nowhere, durably neither, and has no durable content
    funext q
    have hd : aget q s.dir ≠ some s.next := fun e => Nat.lt_irrefl _ (h.fresh q _ e)
    have hdd : aget q s.ddir ≠ some s.next := fun e => Nat.lt_irrefl _ (h.dfresh q _ e)
    by_cases hq : q = p
    · subst hq
      simp [Fs.step, qstep, Fs.quad, aget_aset, map_cOf_aset_ne hdd, Ne.symm hdd, cOf,
        h.ddfresh s.next (Nat.le_refl _)]
    · simp [Fs.step, qstep, Fs.quad, aget_aset, hq, Ne.symm hq, map_cOf_aset_ne hd, map_cOf_aset_ne hdd]
  | extend p =>
    dsimp only [Fs.step, qstep]
    cases hp : aget p s.dir with
    | none => exact (fun_upd_self _ p (by rw [(quad_unbound s p hp).1])).symm
    | some i =>
      have hfv := quad_fv_bound hp
      have h1 := quad_setData s h.inj h.xinj p i hp { cOf s.data i with size := .alloc }
      have h2 := quad_setDData { s with data := aset i { cOf s.data i with size := .alloc } s.data }
        h.inj h.xinj p i hp { chunks := [], size := .alloc }
      funext q
      refine (congrFun h2 q).trans ?_
      rw [h1]
      by_cases hq : q = p
      · subst hq; simp [hfv]
      · simp [hq]
  | append p _ | truncate p _ => exact Fs.quad_modify s h p _
  | zero p => rfl
  | sync p =>
    dsimp only [Fs.step, qstep]
    cases hp : aget p s.dir with
    | none =>
      obtain ⟨h1, _, h3⟩ := quad_unbound s p hp
      exact (fun_upd_self _ p (by rw [h1]; exact h3)).symm
    | some i =>
      rw [quad_fv_bound hp]
      exact quad_setDData s h.inj h.xinj p i hp _
  | unlink p =>
    funext q
    by_cases hq : q = p
    · subst hq
      cases hd : aget q s.ddir <;> simp [Fs.step, qstep, Fs.quad, aget_aerase, hd]
    · simp [Fs.step, qstep, Fs.quad, aget_aerase, hq]
  | syncDir =>
    funext q
    simp [Fs.step, qstep, Fs.quad]

theorem Fs.WF2_step (s : Fs) (h : s.WF2) (op : FsOp) (hr : op.isRename = false) : (s.step op).WF2 := by
  -- the content of a bound inode changes, durably or not
  have hdata : ∀ (p : Path) (i : Nat) (d : List (Nat × Inode)) (x : Inode), aget p s.dir = some i →
      Fs.WF2 { s with data := d, ddata := aset i x s.ddata } := by
    intro p i d x hp
    refine ⟨h.inj, h.fresh, h.dfresh, h.xinj, fun j hj => ?_⟩
    have := h.fresh p i hp
    have hne : i ≠ j := by have : s.next ≤ j := hj; omega
    simp only [aget_aset, hne, if_false]
    exact h.ddfresh j hj
  cases op with
  | rename a b => cases hr
  | create p =>
    have key : ∀ a i, aget a (aset p s.next s.dir) = some i → (a = p ∧ i = s.next) ∨ aget a s.dir = some i := by
      intro a i ha
      rw [aget_aset] at ha
      split at ha
      · rename_i e; exact Or.inl ⟨e.symm, (Option.some.inj ha).symm⟩
      · exact Or.inr ha
    refine ⟨fun a b i ha hb => ?_, fun a i ha => ?_, fun a i ha => Nat.lt_succ_of_lt (h.dfresh a i ha),
      fun a b i ha hb => ?_, fun i hi => h.ddfresh i (Nat.le_of_succ_le hi)⟩
    · rcases key a i ha with ⟨ea, ei⟩ | ha' <;> rcases key b i hb with ⟨eb, ei'⟩ | hb'
      · rw [ea, eb]
      · exact absurd (h.fresh b i hb') (by omega)
      · exact absurd (h.fresh a i ha') (by omega)
      · exact h.inj a b i ha' hb'
    · rcases key a i ha with ⟨_, ei⟩ | ha'
      · show i < s.next + 1; omega
      · exact Nat.lt_succ_of_lt (h.fresh a i ha')
    · rcases key a i ha with ⟨_, ei⟩ | ha'
      · exact absurd (h.dfresh b i hb) (by omega)
      · exact h.xinj a b i ha' hb
  | zero p => exact h
  | append p _ | truncate p _ =>
    dsimp only [Fs.step, Fs.modify]
    cases hp : aget p s.dir with
    | none => exact h
    | some i => exact ⟨h.inj, h.fresh, h.dfresh, h.xinj, h.ddfresh⟩
  | extend p | sync p =>
    dsimp only [Fs.step]
    cases hp : aget p s.dir with
    | none => exact h
    | some i => exact hdata p i _ _ hp
  | unlink p =>
    have key : ∀ x j, aget x (aerase p s.dir) = some j → aget x s.dir = some j := by
      intro x j hx
      rw [aget_aerase] at hx
      split at hx
      · cases hx
      · exact hx
    exact ⟨fun x y j hx hy => h.inj x y j (key x j hx) (key y j hy), fun x j hx => h.fresh x j (key x j hx),
      h.dfresh, fun a b i ha hb => h.xinj a b i (key a i ha) hb, h.ddfresh⟩
  | syncDir =>
    exact ⟨h.inj, h.fresh, h.fresh, h.inj, h.ddfresh⟩

theorem Fs.quad_run (s : Fs) (h : s.WF2) (ops : List FsOp) (hr : ∀ op ∈ ops, op.isRename = false) :
    (s.run ops).WF2 ∧ (s.run ops).quad = qrun s.quad ops := by
  induction ops generalizing s with
  | nil => exact ⟨h, rfl⟩
  | cons op ops ih =>
    have h1 := hr op List.mem_cons_self
    have := ih (s.step op) (Fs.WF2_step s h op h1) (fun o ho => hr o (List.mem_cons_of_mem _ ho))
    simp only [Fs.run, List.foldl_cons, qrun] at this ⊢
    rw [← Fs.quad_step s h op h1]
    exact this

theorem crashPowerWith_file (s : Fs) (kd : Path → Bool) (ks : Nat → Bool) (p : Path) :
    Image.file (crashPowerWith s kd ks) p = (s.quad p).fv ∨ Image.file (crashPowerWith s kd ks) p = (s.quad p).fd ∨
    Image.file (crashPowerWith s kd ks) p = (s.quad p).dv ∨ Image.file (crashPowerWith s kd ks) p = (s.quad p).dd := by
  unfold Image.file crashPowerWith
  extract_lets sel
  -- the content chosen for an inode is its page-cache or its durable content
  have key : ∀ o : Option Nat, o.map sel = o.map (cOf s.data) ∨ o.map sel = o.map (cOf s.ddata) := by
    intro o
    cases o with
    | none => exact Or.inl rfl
    | some i => by_cases hs : ks i = true <;> simp [sel, hs, cOf]
  rw [aget_append, aget_map_val, aget_filter p kd, aget_map_val, aget_filter p (fun q => !kd q)]
  by_cases hk : kd p = true
  · simp only [hk, if_true, Bool.not_true, Bool.false_eq_true, if_false, Option.map_none, Option.or_none]
    exact (key (aget p s.dir)).elim Or.inl fun h => Or.inr (Or.inl h)
  · have hk' : kd p = false := by simpa using hk
    simp only [hk', Bool.false_eq_true, if_false, Bool.not_false, if_true, Option.map_none, Option.none_or]
    exact (key (aget p s.ddir)).elim (fun h => Or.inr (Or.inr (Or.inl h))) fun h => Or.inr (Or.inr (Or.inr h))

end Badger
