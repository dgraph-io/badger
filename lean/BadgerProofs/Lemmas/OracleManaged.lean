import BadgerProofs.Lemmas.Oracle
/-!
Managed mode (`OpenManaged`): invariant of the oracle with conflict detection. The watermarks are
unused (`doneCommit` does nothing; `doneRead` and `readTs` are never called: `Sys.step .discard`
skips `doneRead` in managed mode, as the guards at txn.go:162, :520 do); the conflict log is pruned
by `SetDiscardTs`.
-/
namespace Badger

/-- The conflict log is pruned only at or below `lastCleanupTs ≤ discardTs`, and contains nothing
    that is not in the history. -/
structure MgdInv (s : Sys) : Prop where
  managed : s.o.isManaged = true
  detect : s.o.detectConflicts = true
  lcLe : s.o.lastCleanupTs ≤ s.o.discardTs
  kept : ∀ c ∈ s.hist, s.o.lastCleanupTs < c.ts → toCommitted c ∈ s.o.committedTxns
  fromHist : ∀ c ∈ s.o.committedTxns, ∃ h ∈ s.hist, toCommitted h = c

/-- The invariant reads six components of the state. -/
theorem MgdInv.congr {s s' : Sys} (h : MgdInv s) (e1 : s'.o.isManaged = s.o.isManaged := by rfl)
    (e2 : s'.o.detectConflicts = s.o.detectConflicts := by rfl)
    (e3 : s'.o.lastCleanupTs = s.o.lastCleanupTs := by rfl) (e4 : s'.o.discardTs = s.o.discardTs := by rfl)
    (e5 : s'.o.committedTxns = s.o.committedTxns := by rfl) (e6 : s'.hist = s.hist := by rfl) :
    MgdInv s' := by
  refine ⟨by rw [e1]; exact h.managed, by rw [e2]; exact h.detect, by rw [e3, e4]; exact h.lcLe, ?_, ?_⟩
  · intro c hc hlt; rw [e5]; rw [e6] at hc; rw [e3] at hlt; exact h.kept c hc hlt
  · intro c hc; rw [e5] at hc; rw [e6]; exact h.fromHist c hc

theorem Oracle.cleanup_managed (o : Oracle) (hm : o.isManaged = true) (hd : o.detectConflicts = true) :
    o.cleanup =
      if o.discardTs < o.lastCleanupTs then none
      else if o.discardTs = o.lastCleanupTs then some o
      else some { o with lastCleanupTs := o.discardTs,
                         committedTxns := o.committedTxns.filter (fun c => !(decide (c.ts ≤ o.discardTs))) } := by
  obtain ⟨m, dc, nx, tm, rm, dt, ct, lc⟩ := o
  simp only at hm hd
  subst hm hd
  simp [Oracle.cleanup]

theorem MgdInv.cleanup {s : Sys} (h : MgdInv s) (o' : Oracle) (ho : s.o.cleanup = some o') :
    MgdInv { s with o := o' } := by
  rw [Oracle.cleanup_managed _ h.managed h.detect, if_neg (Nat.not_lt.mpr h.lcLe)] at ho
  by_cases heq : s.o.discardTs = s.o.lastCleanupTs
  · rw [if_pos heq] at ho; cases ho; exact h
  · rw [if_neg heq] at ho; cases ho
    refine ⟨h.managed, h.detect, Nat.le_refl _, fun c hc hlt => ?_,
      fun c hc => h.fromHist c (List.mem_filter.mp hc).1⟩
    exact List.mem_filter.mpr
      ⟨h.kept c hc (Nat.lt_of_le_of_lt h.lcLe hlt), by simp [toCommitted, Nat.not_le.mpr hlt]⟩

theorem Oracle.newCommitTs_managed (o : Oracle) (t : Txn) (hm : o.isManaged = true)
    (hd : o.detectConflicts = true) :
    o.newCommitTs t =
      if o.hasConflict t then (o, t, .conflict)
      else if t.commitTs < o.lastCleanupTs then (o, t, .fatal)
      else ({ o with committedTxns := o.committedTxns ++ [⟨t.commitTs, t.conflictKeys⟩] }, t, .ok t.commitTs) := by
  rw [Oracle.newCommitTs]
  by_cases hc : o.hasConflict t = true
  · rw [if_pos hc, if_pos hc]
  · rw [if_neg hc, if_neg hc, if_neg (by simp [hm])]
    simp only [hd, if_true]

theorem MgdInv.init (n : Nat) : MgdInv (Sys.opened true true n) :=
  ⟨rfl, rfl, Nat.le_refl _, nofun, nofun⟩

/-- `CommitAt`, whatever the answer: a conflict or a failed assertion leaves the oracle as it is, success logs
    the commit. -/
theorem MgdInv.commitAt {s s' : Sys} (h : MgdInv s) (t : Txn) (r : Nat) (reads : List Nat) (tid : Nat)
    (eo : s'.o = (s.o.newCommitTs t).1)
    (eh : s'.hist = match (s.o.newCommitTs t).2.2 with
      | .ok cts => s.hist ++ [⟨cts, r, reads, t.conflictKeys, tid⟩]
      | _ => s.hist) : MgdInv s' := by
  obtain ⟨o', tx, hist', dc, rm, tm, n0, cr⟩ := s'
  simp only at eo eh
  subst eo eh
  rw [Oracle.newCommitTs_managed _ _ h.managed h.detect]
  by_cases hc : s.o.hasConflict t = true
  · rw [if_pos hc]; exact h.congr
  rw [if_neg hc]
  by_cases hlt : t.commitTs < s.o.lastCleanupTs
  · rw [if_pos hlt]; exact h.congr
  rw [if_neg hlt]
  refine ⟨h.managed, h.detect, h.lcLe, ?_, ?_⟩
  · exact List.forall_mem_append.mpr ⟨fun c hc hlt => List.mem_append.mpr (.inl (h.kept c hc hlt)),
      List.forall_mem_singleton.mpr fun _ => by simp [toCommitted]⟩
  · refine List.forall_mem_append.mpr ⟨fun c hc => ?_, List.forall_mem_singleton.mpr
      ⟨_, List.mem_append.mpr (.inr (List.mem_singleton.mpr rfl)), rfl⟩⟩
    obtain ⟨h0, hh0, e⟩ := h.fromHist c hc
    exact ⟨h0, List.mem_append.mpr (.inl hh0), e⟩

/-- Only `CommitAt`, `SetDiscardTs` and `cleanup` touch the conflict log, its bounds or the history. The
    cases are the branches of `Sys.step`, numbered in the order of its definition. -/
theorem MgdInv.step {s s' : Sys} {l : Label} (h : MgdInv s) : s.step l = some s' → MgdInv s' := by
  have hm := h.managed
  fun_cases Sys.step s l <;> intro hs <;> cases hs
  case case25 hg _ _ _ _ _ | case26 hg _ _ _ _ _ | case27 hg _ _ _ _ _ _ => -- `commit`: normal mode only
    exact absurd (.inr hm) hg
  case case32 hn _ => exact absurd hm hn -- `discard` calling `doneRead`: normal mode only
  case case5 tid _ x _ _ r _ | case6 tid _ x _ _ r _ => -- `waitCheck`, either way: `readTsWait` touches `txnMark` only
    obtain ⟨a, e⟩ := s.o.readTsWait_fst x.t.readTs tid
    simp only [r, e]
    exact h.congr
  case case35 => -- `doneCommit`: does nothing to the oracle in managed mode
    simp only [Oracle.doneCommit, hm, if_true]; exact h.congr
  case case40 tid ts _ x _ _ t r hr | case41 tid ts _ x _ _ t r hr => -- `commitAt`, answers `conflict` and `fatal`
    exact h.commitAt t x.t.readTs x.t.reads tid rfl (by simp only [r] at hr; simp only [hr])
  case case42 tid ts _ x _ _ t r cts hr => -- `commitAt`, answer `ok cts`
    exact h.commitAt t x.t.readTs x.t.reads tid rfl (by simp only [r] at hr; simp only [hr]; rfl)
  case case45 ts _ o' ho => -- `setDiscardTs`: set the field, then cleanup, which asserts `lastCleanupTs ≤ discardTs`
    have hle : s.o.lastCleanupTs ≤ ts := by
      rw [Oracle.setDiscardTs, Oracle.cleanup_managed { s.o with discardTs := ts } hm h.detect] at ho
      by_cases hlt : ts < s.o.lastCleanupTs
      · rw [if_pos hlt] at ho; cases ho
      · exact Nat.le_of_not_lt hlt
    exact MgdInv.cleanup (s := { s with o := { s.o with discardTs := ts } })
      ⟨hm, h.detect, hle, h.kept, h.fromHist⟩ o' ho
  case case48 _ o' ho => exact h.cleanup _ ho -- `cleanup`
  -- every other step leaves the six components alone
  all_goals exact h.congr

theorem OReach.mgdInv {n : Nat} {s : Sys} (h : OReach true true n s) : MgdInv s := by
  induction h with
  | init => exact MgdInv.init n
  | step _ _ hstep ih => exact ih.step hstep

end Badger
