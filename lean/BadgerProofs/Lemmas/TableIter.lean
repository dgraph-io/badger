import BadgerProofs.Lemmas.Table
/-!
Reader side of C18: the table iterator on a table satisfying `TableOK`. `At` places the iterator on an
entry of a block; `AtPos` is the same position counted in `G.flatten`, and `next` / `prev` move it by one.
At the end `OpenTable` (`openTable_ok`).
-/
namespace Badger.Tbl
open Badger

variable {env : Env} {t : TableCore} {G : List (List Entry)}

/-- The block iterator stands in block `j` at index `r`, which may be `g.length`: a seek beyond the last key
    of the table leaves the iterator one past the last row of the last block. -/
structure InBlock (G : List (List Entry)) (it : TIter) (j r : Nat) (g : List Entry) : Prop where
  gj : G[j]? = some g
  bpos : it.bpos = j
  inv : BlockInv g it.bi
  idx : it.bi.idx = r

structure At (G : List (List Entry)) (it : TIter) (j r : Nat) (g : List Entry) (e : Entry) : Prop
    extends InBlock G it j r g where
  gr : g[r]? = some e
  key : it.key = e.key
  val : it.val = encVS e.vs
  err : it.err = none

theorem load_ok (ok : TableOK env t G)
    (it : TIter) (j : Nat) (g : List Entry) (hg : G[j]? = some g) (hb : it.bpos = j)
    (op : BlockIter → Option BlockIter) :
    ∃ bi0, BlockInv g bi0 ∧
      it.load env t op = (op bi0).bind fun bi => some { it with bi := bi, err := bi.err } := by
  obtain ⟨b, hblk, hsl, hoffs, _⟩ := ok.blocks j g hg
  unfold TIter.load
  rw [hb, hblk]
  simp only
  unfold BlockIter.setBlock
  rw [hsl]
  simp only [Option.bind_some]
  refine ⟨_, ?_, rfl⟩
  exact ⟨rfl, hoffs, Or.inl rfl, by simp, by simp, Or.inl rfl⟩

theorem load_at (ok : TableOK env t G)
    (it : TIter) (j r : Nat) (g : List Entry) (e : Entry) (hg : G[j]? = some g) (he : g[r]? = some e)
    (hb : it.bpos = j) (op : BlockIter → Option BlockIter)
    (hop : ∀ bi, BlockInv g bi → op bi = bi.setIdx r) :
    ∃ it', it.load env t op = some it' ∧ At G it' j r g e ∧ it'.reversed = it.reversed := by
  obtain ⟨bi0, hinv, hload⟩ := load_ok ok it j g hg hb op
  obtain ⟨bi', hset, hinv', hk, hv, hidx, herr⟩ :=
    setIdx_ok (ok.wf g (List.mem_of_getElem? hg)) hinv r e he
  rw [hload, hop bi0 hinv, hset, Option.bind_some]
  exact ⟨_, rfl, ⟨⟨hg, hb, hinv', hidx⟩, he, hk, hv, herr⟩, rfl⟩

theorem load_first_ok (ok : TableOK env t G)
    (it : TIter) (j : Nat) (g : List Entry) (e : Entry) (hg : G[j]? = some g) (he : g[0]? = some e)
    (hb : it.bpos = j) :
    ∃ it', it.load env t BlockIter.seekToFirst = some it' ∧ At G it' j 0 g e ∧
      it'.reversed = it.reversed :=
  load_at ok it j 0 g e hg he hb _ (fun _ _ => rfl)

theorem load_last_ok (ok : TableOK env t G)
    (it : TIter) (j : Nat) (g : List Entry) (e : Entry) (hg : G[j]? = some g)
    (he : g[g.length - 1]? = some e) (hb : it.bpos = j) :
    ∃ it', it.load env t BlockIter.seekToLast = some it' ∧ At G it' j (g.length - 1) g e ∧
      it'.reversed = it.reversed := by
  refine load_at ok it j _ g e hg he hb _ (fun bi hinv => ?_)
  have hgl := lt_of_getElem?_some he
  unfold BlockIter.seekToLast
  rw [hinv.offs_length, show ((g.length : Int) - 1) = ((g.length - 1 : Nat) : Int) by omega]

def AtPos (G : List (List Entry)) (it : TIter) (p : Nat) (e : Entry) : Prop :=
  ∃ j r g, At G it j r g e ∧ p = (G.take j).flatten.length + r

theorem AtPos.get {it : TIter} {p : Nat} {e : Entry} (h : AtPos G it p e) :
    G.flatten[p]? = some e := by
  obtain ⟨j, r, g, hat, rfl⟩ := h
  exact flatten_getElem? G j r g e hat.gj hat.gr

theorem AtPos.err {it : TIter} {p : Nat} {e : Entry} (h : AtPos G it p e) :
    it.err = none := by
  obtain ⟨_, _, _, hat, _⟩ := h
  exact hat.err

theorem AtPos.key {it : TIter} {p : Nat} {e : Entry} (h : AtPos G it p e) :
    it.key = e.key := by
  obtain ⟨_, _, _, hat, _⟩ := h
  exact hat.key

theorem AtPos.entry {it : TIter} {p : Nat} {e : Entry} (h : AtPos G it p e)
    (hexp : e.vs.expiresAt < 2 ^ 64) :
    it.valid = true ∧ decodeVS it.val = some e.vs ∧ (⟨it.key, e.vs⟩ : Entry) = e := by
  obtain ⟨_, _, _, hat, _⟩ := h
  refine ⟨by simp [TIter.valid, hat.err], ?_, ?_⟩
  · rw [hat.val]; exact decodeVS_encVS _ hexp
  · rw [hat.key]

theorem AtPos.entry? {it : TIter} {p : Nat} {e : Entry} (h : AtPos G it p e)
    (hexp : e.vs.expiresAt < 2 ^ 64) : it.entry? = some e := by
  obtain ⟨hv, hd, hent⟩ := h.entry hexp
  simp [TIter.entry?, hv, hd, hent]

theorem seekToFirst_pos (ok : TableOK env t G)
    (hG : G ≠ []) (it : TIter) :
    ∃ it' e, it.seekToFirst env t = some it' ∧ AtPos G it' 0 e ∧ it'.reversed = it.reversed := by
  obtain ⟨g, hg⟩ := getElem?_some_of_lt G 0 (List.length_pos_iff.mpr hG)
  obtain ⟨e, he⟩ := getElem?_some_of_lt g 0 (List.length_pos_iff.mpr (ok.ne g (List.mem_of_getElem? hg)))
  unfold TIter.seekToFirst
  have hnb : ¬ (t.offsetsLength = 0) := by
    rw [ok.nb]; have := lt_of_getElem?_some hg; omega
  simp only [hnb, if_false]
  obtain ⟨it', hload, hat, hrev⟩ := load_first_ok ok ({ it with bpos := 0 } : TIter) 0 g e hg he rfl
  exact ⟨it', e, hload, ⟨0, 0, g, hat, rfl⟩, hrev⟩

theorem seekToLast_pos (ok : TableOK env t G)
    (hG : G ≠ []) (it : TIter) :
    ∃ it' e, it.seekToLast env t = some it' ∧ AtPos G it' (G.flatten.length - 1) e ∧
      it'.reversed = it.reversed := by
  have hGpos := List.length_pos_iff.mpr hG
  obtain ⟨g, hg⟩ := getElem?_some_of_lt G (G.length - 1) (by omega)
  have hgpos := List.length_pos_iff.mpr (ok.ne g (List.mem_of_getElem? hg))
  obtain ⟨e, he⟩ := getElem?_some_of_lt g (g.length - 1) (by omega)
  unfold TIter.seekToLast
  have hnb : ¬ (t.offsetsLength = 0) := by rw [ok.nb]; omega
  simp only [hnb, if_false]
  have hbp : ((t.offsetsLength : Int) - 1) = ((G.length - 1 : Nat) : Int) := by rw [ok.nb]; omega
  obtain ⟨it', hload, hat, hrev⟩ := load_last_ok ok ({ it with bpos := (t.offsetsLength : Int) - 1 } : TIter) (G.length - 1) g e hg he hbp
  refine ⟨it', e, hload, ⟨_, _, g, hat, ?_⟩, hrev⟩
  have := take_succ_flatten_length G (G.length - 1) g hg
  rw [Nat.sub_add_cancel hGpos, List.take_length] at this
  omega

theorem apiRewind_pos (ok : TableOK env t G)
    (hG : G ≠ []) (it : TIter) :
    ∃ it' e, it.apiRewind env t = some it' ∧ it'.reversed = it.reversed ∧
      AtPos G it' (if it.reversed then G.flatten.length - 1 else 0) e := by
  unfold TIter.apiRewind
  cases hr : it.reversed with
  | false =>
    obtain ⟨it', e, h, hat, hrev⟩ := seekToFirst_pos ok hG it
    exact ⟨it', e, h, hrev.trans hr, hat⟩
  | true =>
    obtain ⟨it', e, h, hat, hrev⟩ := seekToLast_pos ok hG it
    exact ⟨it', e, h, hrev.trans hr, hat⟩

theorem next_pos (ok : TableOK env t G)
    {it : TIter} {p : Nat} {e : Entry} (h : AtPos G it p e) :
    ∃ it', it.next env t = some it' ∧ it'.reversed = it.reversed ∧
      ((∃ e', AtPos G it' (p + 1) e') ∨ (p + 1 = G.flatten.length ∧ it'.err = some .eof)) := by
  obtain ⟨j, r, g, hat, rfl⟩ := h
  have wf := ok.wf g (List.mem_of_getElem? hat.gj)
  have hjl := lt_of_getElem?_some hat.gj
  have hrl := lt_of_getElem?_some hat.gr
  have hoff := take_succ_flatten_length G j g hat.gj
  unfold TIter.next
  have h1 : ¬ (it.bpos ≥ (t.offsetsLength : Int)) := by rw [hat.bpos, ok.nb]; omega
  have h2 : ¬ (it.bi.data.length = 0) := by rw [hat.inv.data]; exact blockData_length_pos wf
  simp only [h1, h2, if_false]
  unfold BlockIter.next
  rw [hat.idx]
  rcases Nat.lt_or_ge (r + 1) g.length with hlt | hge
  · obtain ⟨e', he'⟩ := getElem?_some_of_lt g (r + 1) hlt
    obtain ⟨bi', hset, hinv', hk, hv, hidx, herr⟩ := setIdx_ok wf hat.inv (r + 1) e' he'
    have : ((r : Int) + 1) = ((r + 1 : Nat) : Int) := rfl
    rw [this, hset, Option.bind_some]
    simp only [BlockIter.valid, herr, Option.isNone_none, Bool.not_true, Bool.false_eq_true, if_false]
    exact ⟨_, rfl, rfl, Or.inl ⟨e', j, r + 1, g,
      ⟨⟨hat.gj, hat.bpos, hinv', hidx⟩, he', hk, hv, rfl⟩, Nat.add_assoc _ _ _⟩⟩
  · rw [(setIdx_oob hat.inv ((r : Int) + 1) (Or.inl (by omega))).1, Option.bind_some]
    simp only [BlockIter.valid, Option.isNone_some, Bool.not_false, if_true]
    unfold TIter.nextReenter
    rcases Nat.lt_or_ge (j + 1) G.length with hjl' | hjg
    · have h3 : ¬ (it.bpos + 1 ≥ (t.offsetsLength : Int)) := by rw [hat.bpos, ok.nb]; omega
      simp only [h3, if_false]
      obtain ⟨g', hg'⟩ := getElem?_some_of_lt G (j + 1) hjl'
      obtain ⟨e', he'⟩ := getElem?_some_of_lt g' 0
        (List.length_pos_iff.mpr (ok.ne g' (List.mem_of_getElem? hg')))
      obtain ⟨it', hload, hat', hrev⟩ := load_first_ok ok
        ({ it with err := none, bi := { it.bi with idx := (r : Int) + 1, err := some Err.eof, data := [] },
                   bpos := it.bpos + 1 } : TIter) (j + 1) g' e' hg' he' (by simp [hat.bpos])
      exact ⟨it', hload, hrev, Or.inl ⟨e', j + 1, 0, g', hat', by omega⟩⟩
    · have h3 : (it.bpos + 1 ≥ (t.offsetsLength : Int)) := by rw [hat.bpos, ok.nb]; omega
      simp only [h3, if_true]
      rw [List.take_of_length_le hjg] at hoff
      exact ⟨_, rfl, rfl, Or.inr ⟨by omega, rfl⟩⟩

theorem prev_cur (ok : TableOK env t G) {it : TIter} {j r : Nat} {g : List Entry}
    (h : InBlock G it j r g) (hr : r ≤ g.length) :
    ∃ it', it.prev env t = some it' ∧ it'.reversed = it.reversed ∧
      ((∃ p' e', (G.take j).flatten.length + r = p' + 1 ∧ AtPos G it' p' e') ∨
       ((G.take j).flatten.length + r = 0 ∧ it'.err = some .eof)) := by
  have wf := ok.wf g (List.mem_of_getElem? h.gj)
  have hjl := lt_of_getElem?_some h.gj
  unfold TIter.prev
  have h1 : ¬ (it.bpos < 0) := by rw [h.bpos]; omega
  have h2 : ¬ (it.bi.data.length = 0) := by rw [h.inv.data]; exact blockData_length_pos wf
  simp only [h1, h2, if_false]
  unfold BlockIter.prev
  rw [h.idx]
  cases r with
  | succ r' =>
    obtain ⟨e', he'⟩ := getElem?_some_of_lt g r' (by omega)
    obtain ⟨bi', hset, hinv', hk, hv, hidx, herr⟩ := setIdx_ok wf h.inv r' e' he'
    have : (((r' + 1 : Nat) : Int) - 1) = (r' : Int) := by omega
    rw [this, hset, Option.bind_some]
    simp only [BlockIter.valid, herr, Option.isNone_none, Bool.not_true, Bool.false_eq_true, if_false]
    exact ⟨_, rfl, rfl, Or.inl ⟨_, e', rfl, j, r', g, ⟨⟨h.gj, h.bpos, hinv', hidx⟩, he', hk, hv, rfl⟩, rfl⟩⟩
  | zero =>
    rw [(setIdx_oob h.inv (((0 : Nat) : Int) - 1) (Or.inr (by omega))).1, Option.bind_some]
    simp only [BlockIter.valid, Option.isNone_some, Bool.not_false, if_true]
    unfold TIter.prevReenter
    cases j with
    | succ j' =>
      have h3 : ¬ (it.bpos - 1 < 0) := by rw [h.bpos]; omega
      simp only [h3, if_false]
      obtain ⟨g', hg'⟩ := getElem?_some_of_lt G j' (by omega)
      have hg'pos := List.length_pos_iff.mpr (ok.ne g' (List.mem_of_getElem? hg'))
      obtain ⟨e', he'⟩ := getElem?_some_of_lt g' (g'.length - 1) (by omega)
      obtain ⟨it', hload, hat', hrev⟩ := load_last_ok ok
        ({ it with err := none, bi := { it.bi with idx := ((0 : Nat) : Int) - 1, err := some Err.eof, data := [] },
                   bpos := it.bpos - 1 } : TIter) j' g' e' hg' he' (by simp [h.bpos])
      have hoff := take_succ_flatten_length G j' g' hg'
      exact ⟨it', hload, hrev, Or.inl ⟨_, e', by omega, j', _, g', hat', rfl⟩⟩
    | zero =>
      have h3 : (it.bpos - 1 < 0) := by rw [h.bpos]; omega
      simp only [h3, if_true]
      exact ⟨_, rfl, rfl, Or.inr ⟨by simp, rfl⟩⟩

theorem prev_pos (ok : TableOK env t G) {it : TIter} {p : Nat} {e : Entry} (h : AtPos G it p e) :
    ∃ it', it.prev env t = some it' ∧ it'.reversed = it.reversed ∧
      ((∃ p' e', p = p' + 1 ∧ AtPos G it' p' e') ∨ (p = 0 ∧ it'.err = some .eof)) := by
  obtain ⟨j, r, g, hat, rfl⟩ := h
  exact prev_cur ok hat.toInBlock (Nat.le_of_lt (lt_of_getElem?_some hat.gr))

theorem verifyChecksum_ok (ok : TableOK env t G) : t.verifyChecksum env = some true := by
  suffices h : ∀ (fuel i : Nat), TableCore.verifyChecksum.go env t fuel i = some true from h _ _
  intro fuel
  induction fuel with
  | zero => intro i; rfl
  | succ f ih =>
    intro i
    simp only [TableCore.verifyChecksum.go]
    by_cases hi : i ≥ t.offsetsLength
    · simp [hi]
    · simp only [hi, if_false]
      obtain ⟨g, hg⟩ := getElem?_some_of_lt G i (by rw [← ok.nb]; omega)
      obtain ⟨b, hb, _, _, hver⟩ := ok.blocks i g hg
      rw [hb]
      simp only [hver, Bool.not_true, Bool.and_false, Bool.false_eq_true, if_false]
      exact ih (i + 1)

theorem base_get (hne : ∀ g ∈ G, g ≠ []) {j : Nat} {g : List Entry}
    (hg : G[j]? = some g) :
    ∃ e0, g[0]? = some e0 ∧ baseOf g = e0.key ∧ G.flatten[(G.take j).flatten.length]? = some e0 := by
  obtain ⟨e0, r, rfl⟩ := List.exists_cons_of_ne_nil (hne g (List.mem_of_getElem? hg))
  exact ⟨e0, rfl, rfl, flatten_getElem? G j 0 (e0 :: r) e0 hg rfl⟩

/-- `OpenTable` / `OpenInMemoryTable`: `Smallest()` is the base key of block 0, `Biggest()` the key a
    reversed `Rewind` lands on. -/
theorem openTable_ok {o : Opts} {tf : TableFile} (ok : TableOK env ⟨o, tf⟩ G)
    (hG : G ≠ []) (inMemory : Bool) :
    ∃ sk bk, openTable env o tf inMemory = .ok ⟨⟨o, tf⟩, sk, bk⟩ ∧
      (∀ e0, G.flatten[0]? = some e0 → sk = e0.key) ∧
      (∀ el, G.flatten[G.flatten.length - 1]? = some el → bk = el.key) := by
  obtain ⟨g0, hg0⟩ := getElem?_some_of_lt G 0 (List.length_pos_iff.mpr hG)
  obtain ⟨ko, hko, hkk⟩ := ok.keys 0 g0 hg0
  obtain ⟨e0, he0, hb0, hf0⟩ := base_get ok.ne hg0
  obtain ⟨it', el, hrw', _, hat⟩ := apiRewind_pos ok hG ({ reversed := true } : TIter)
  have hvalid : it'.valid = true := by simp [TIter.valid, hat.err]
  refine ⟨ko.key, it'.key, ?_, fun e hE => ?_, fun e hE => ?_⟩
  · unfold openTable
    have hko' : tf.index.offsets[0]? = some ko := hko
    simp only [hko', hrw', hvalid, Bool.not_true, Bool.false_eq_true, if_false]
    rw [verifyChecksum_ok ok]
    split <;> rfl
  · simp only [List.take_zero, List.flatten_nil, List.length_nil] at hf0
    rw [hf0] at hE; cases hE; rw [hkk, hb0]
  · have := hat.get
    simp only [if_true] at this
    rw [this] at hE; cases hE; exact hat.key

end Badger.Tbl
