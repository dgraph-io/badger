import BadgerModel.CompactStatus
import BadgerProofs.Lemmas.Lists
/-! What `compareAndAdd`, `delete` and the L0→L0 registration do to the per-level range lists and to
the table-id set, in membership form. -/
namespace Badger.CS
open Badger

theorem modAt_eq_modify {α : Type} (i : Nat) (f : α → α) (xs : List α) : modAt i f xs = xs.modify i f := by
  fun_induction modAt i f xs <;> simp [*]

theorem length_modAt {α : Type} (i : Nat) (f : α → α) (xs : List α) : (modAt i f xs).length = xs.length := by
  rw [modAt_eq_modify, List.length_modify]

theorem getD_modAt {α : Type} (i j : Nat) (f : α → α) (xs : List α) (d : α) :
    (modAt i f xs).getD j d = if i = j ∧ i < xs.length then f (xs.getD j d) else xs.getD j d := by
  rw [List.getD_eq_getElem?_getD, List.getD_eq_getElem?_getD, modAt_eq_modify, List.getElem?_modify]
  by_cases hij : i = j <;> by_cases hj : j < xs.length <;> simp [hij, hj]

theorem ranges_modAt_append (ls : List LevelCS) (i l : Nat) (f : LevelCS → LevelCS) (r : KeyRange)
    (hf : ∀ x, (f x).ranges = x.ranges ++ [r]) (hi : i < ls.length) :
    ((modAt i f ls).getD l {}).ranges = (ls.getD l {}).ranges ++ (if i = l then [r] else []) := by
  rw [getD_modAt]
  by_cases h : i = l
  · subst h
    rw [if_pos ⟨rfl, hi⟩, if_pos rfl, hf]
  · rw [if_neg (fun h' => h h'.1), if_neg h, List.append_nil]

theorem mem_setAdd (a : Nat) (t : List Nat) (x : Nat) : x ∈ setAdd a t ↔ x = a ∨ x ∈ t :=
  mem_insertNew

theorem mem_addIds (ids t : List Nat) (x : Nat) : x ∈ addIds ids t ↔ x ∈ ids ∨ x ∈ t := by
  induction ids generalizing t with
  | nil => simp [addIds]
  | cons a as ih =>
    simp only [addIds, List.foldl_cons] at ih ⊢
    rw [ih, mem_setAdd, List.mem_cons, or_left_comm, or_assoc]

theorem delIds_eq (ids t : List Nat) (hn : ids.Nodup) (hm : ∀ id ∈ ids, id ∈ t) :
    delIds ids t = some (t.filter (fun x => decide (x ∉ ids))) := by
  fun_induction delIds ids t with
  | case1 t => simp [List.filter_eq_self.mpr]
  | case2 a as t ha ih =>  -- `a` is registered: on with the rest, `a` taken out
    rw [ih (List.nodup_cons.mp hn).2, List.filter_filter]
    · congr 2
      funext x
      simp only [List.mem_cons, not_or, Bool.decide_and, Bool.and_comm, ne_eq, decide_not]
    · intro id hid
      have : id ≠ a := by intro h; subst h; exact (List.nodup_cons.mp hn).1 hid
      simp [hm id (by simp [hid]), this]
  | case3 a as t ha => exact absurd (hm a (by simp)) ha  -- `a` is not registered: excluded by `hm`

theorem equals_iff (r d : KeyRange) : r.equals d = true ↔ r = d := by
  cases r; cases d; simp [KeyRange.equals, and_assoc]

def rangesAt (l : Nat) (cd : CDef) : List KeyRange :=
  (if cd.thisLevel = l then [cd.thisRange] else []) ++ (if cd.nextLevel = l then [cd.nextRange] else [])

theorem mem_rangesAt {l : Nat} {cd : CDef} {r : KeyRange} :
    r ∈ rangesAt l cd ↔ (cd.thisLevel = l ∧ r = cd.thisRange) ∨ (cd.nextLevel = l ∧ r = cd.nextRange) := by
  unfold rangesAt
  by_cases a : cd.thisLevel = l <;> by_cases b : cd.nextLevel = l <;> simp [a, b]

theorem caa_spec {cs cs' : CStatus} {cd : CDef} {ok : Bool} (h : cs.compareAndAdd cd = some (cs', ok)) :
    if ok then
      cs'.levels.length = cs.levels.length ∧ cd.thisLevel < cs.levels.length ∧ cd.nextLevel < cs.levels.length ∧
      (cs.level cd.thisLevel).overlapsWith cd.thisRange = false ∧
      (cs.level cd.nextLevel).overlapsWith cd.nextRange = false ∧
      (∀ l, (cs'.level l).ranges = (cs.level l).ranges ++ rangesAt l cd) ∧
      (∀ x, x ∈ cs'.tables ↔ x ∈ cd.ids ∨ x ∈ cs.tables)
    else cs' = cs := by
  revert h
  fun_cases CStatus.compareAndAdd cs cd <;> intro h <;> cases h
  case case1 | case2 => rfl  -- refused: this level, or the next, overlaps
  case case3 hl h1 h2 l1 l2 =>  -- admitted
    refine ⟨by simp [l1, l2, length_modAt], hl.1, hl.2, by simpa using h1, by simpa using h2, ?_, ?_⟩
    · intro l
      simp only [CStatus.level, l1, l2]
      rw [ranges_modAt_append _ _ _ _ cd.nextRange (fun _ => rfl) (by rw [length_modAt]; exact hl.2),
        ranges_modAt_append _ _ _ _ cd.thisRange (fun _ => rfl) hl.1, List.append_assoc]
      rfl
    · intro x; exact mem_addIds _ _ _

theorem l0l0_spec {cs cs' : CStatus} {cands : List Nat} {r : Option (List Nat)} (h : cs.l0l0 cands = (cs', r)) :
    match r with
    | none => cs' = cs
    | some out =>
      cs'.levels.length = cs.levels.length ∧ out = cands.filter (fun id => !(cs.tables.contains id)) ∧
      (∀ l, (cs'.level l).ranges = (cs.level l).ranges ++ (if l = 0 ∧ 0 < cs.levels.length then [infRange] else [])) ∧
      (∀ x, x ∈ cs'.tables ↔ x ∈ out ∨ x ∈ cs.tables) := by
  unfold CStatus.l0l0 at h
  simp only at h
  split at h <;> cases h
  · rfl
  · refine ⟨by simp [length_modAt], rfl, ?_, fun x => mem_addIds _ _ _⟩
    intro l
    simp only [CStatus.level]
    by_cases hpos : 0 < cs.levels.length
    · rw [ranges_modAt_append _ _ _ _ infRange (fun _ => rfl) hpos]
      simp [hpos, eq_comm]
    · have : cs.levels = [] := List.eq_nil_of_length_eq_zero (Nat.eq_zero_of_not_pos hpos)
      simp [this, modAt]

def delAt (l : Nat) (cd : CDef) : List KeyRange :=
  (if cd.thisLevel = l then [cd.thisRange] else []) ++
  (if cd.thisLevel ≠ cd.nextLevel ∧ cd.nextRange.isEmpty = false ∧ cd.nextLevel = l then [cd.nextRange] else [])

theorem mem_remove (lv : LevelCS) (d r : KeyRange) : r ∈ (lv.remove d).1.ranges ↔ r ∈ lv.ranges ∧ r ≠ d := by
  have : (r.equals d = false) ↔ ¬ r = d := by rw [← equals_iff]; simp
  simp [LevelCS.remove, List.mem_filter, this]

theorem remove_found (lv : LevelCS) (d : KeyRange) : (lv.remove d).2 = true ↔ d ∈ lv.ranges := by
  simp only [LevelCS.remove, List.any_eq_true, equals_iff]
  constructor
  · rintro ⟨x, hx, rfl⟩; exact hx
  · intro h; exact ⟨d, h, rfl⟩

theorem mem_ranges_modAt_remove (ls : List LevelCS) (i l : Nat) (f : LevelCS → LevelCS) (d : KeyRange)
    (hf : ∀ x r, r ∈ (f x).ranges ↔ r ∈ x.ranges ∧ r ≠ d) (hi : i < ls.length) (r : KeyRange) :
    r ∈ ((modAt i f ls).getD l {}).ranges ↔
      r ∈ (ls.getD l {}).ranges ∧ r ∉ (if i = l then [d] else []) := by
  rw [getD_modAt]
  by_cases h : i = l
  · subst h
    rw [if_pos ⟨rfl, hi⟩, if_pos rfl, hf, List.mem_singleton]
  · rw [if_neg (fun h' => h h'.1), if_neg h]
    simp

theorem delete_spec {cs cs' : CStatus} {cd : CDef} (h : cs.delete cd = some cs') :
    cs'.levels.length = cs.levels.length ∧
    (∀ l r, r ∈ (cs'.level l).ranges ↔ r ∈ (cs.level l).ranges ∧ r ∉ delAt l cd) ∧
    delIds cd.ids cs.tables = some cs'.tables := by
  unfold CStatus.delete at h
  by_cases hl : cd.thisLevel < cs.levels.length ∧ cd.nextLevel < cs.levels.length
  · simp only [hl, and_self, if_true] at h
    by_cases hb : (decide (cd.thisLevel ≠ cd.nextLevel) && !cd.nextRange.isEmpty) = true
    · -- two levels and a non-empty `nextRange`: both ranges are removed
      simp only [hb, if_true, Option.ite_none_right_eq_some, Option.map_eq_some_iff] at h
      obtain ⟨_, t, ht, rfl⟩ := h
      refine ⟨by simp [length_modAt], fun l r => ?_, ht⟩
      simp only [Bool.and_eq_true, decide_eq_true_eq, Bool.not_eq_true'] at hb
      simp only [CStatus.level]
      rw [mem_ranges_modAt_remove _ _ _ _ cd.nextRange ?_ (by rw [length_modAt]; exact hl.2),
        mem_ranges_modAt_remove _ _ _ _ cd.thisRange ?_ hl.1, and_assoc]
      · simp [delAt, hb.1, hb.2]
      all_goals exact fun x r => mem_remove x _ r
    · -- same level, or `nextRange` empty: only `thisRange` is removed
      simp only [hb, Option.ite_none_right_eq_some, Option.map_eq_some_iff] at h
      obtain ⟨_, t, ht, rfl⟩ := h
      refine ⟨by simp [length_modAt], fun l r => ?_, ht⟩
      have hb' : ¬(cd.thisLevel ≠ cd.nextLevel ∧ cd.nextRange.isEmpty = false ∧ cd.nextLevel = l) := by
        rintro ⟨x, y, _⟩; apply hb; simp [x, y]
      simp only [CStatus.level, Bool.false_eq_true, if_false]
      rw [mem_ranges_modAt_remove _ _ _ _ cd.thisRange ?_ hl.1]
      · simp [delAt, hb']
      · exact fun x r => mem_remove x _ r
  · simp [hl] at h

theorem delete_isSome {cs : CStatus} {cd : CDef}
    (hl : cd.thisLevel < cs.levels.length ∧ cd.nextLevel < cs.levels.length)
    (h1 : cd.thisRange ∈ (cs.level cd.thisLevel).ranges)
    (h2 : cd.thisLevel ≠ cd.nextLevel → cd.nextRange.isEmpty = false → cd.nextRange ∈ (cs.level cd.nextLevel).ranges)
    (h3 : (delIds cd.ids cs.tables).isSome) : (cs.delete cd).isSome := by
  unfold CStatus.delete
  simp only [hl, and_self, if_true]
  have f1 : ((cs.level cd.thisLevel).remove cd.thisRange).2 = true := (remove_found _ _).mpr h1
  by_cases hb : (decide (cd.thisLevel ≠ cd.nextLevel) && !cd.nextRange.isEmpty) = true
  · simp only [hb, if_true, f1, Bool.and_true]
    simp only [Bool.and_eq_true, decide_eq_true_eq, Bool.not_eq_true'] at hb
    have f2 := h2 hb.1 hb.2
    have : ((List.getD (modAt cd.thisLevel
        (fun l => { (l.remove cd.thisRange).1 with delSize := l.delSize - cd.thisSize }) cs.levels)
        cd.nextLevel {}).remove cd.nextRange).2 = true := by
      rw [remove_found, getD_modAt]; simp [hb.1]; exact f2
    simp only [this, if_true]
    simpa using h3
  · simp only [hb, f1]
    simpa using h3

end Badger.CS
