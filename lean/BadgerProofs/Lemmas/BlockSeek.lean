import BadgerProofs.Lemmas.Block
import BadgerProofs.Lemmas.IterOrder
/-!
The stateful `sort.Search` model, and `blockIterator.seek` on a block built from a sorted entry list.
-/
namespace Badger.Tbl
open Badger

theorem compareKeysP_eq {a b : Bytes} (ha : 8 ≤ a.length) (hb : 8 ≤ b.length) :
    compareKeysP a b = some (compareKeys a b) :=
  if_neg (by omega)

theorem ge_key_mono {a b key : Bytes} (hab : compareKeys a b = .lt) (h : (compareKeys a key != .lt) = true) :
    (compareKeys b key != .lt) = true := by
  simp only [bne_iff_ne, ne_eq] at h ⊢
  exact fun hlt => h (compareKeys_total.trans hab hlt)

theorem le_key_mono {a b key : Bytes} (hab : compareKeys a b = .lt) (h : (compareKeys b key != .gt) = true) :
    (compareKeys a key != .gt) = true := by
  simp only [bne_iff_ne, ne_eq, compareKeys_total.gt_iff] at h ⊢
  exact fun hlt => h (compareKeys_total.trans hlt hab)

def Sorted (es : List Entry) : Prop := es.Pairwise (fun a b => compareKeys a.key b.key = .lt)

theorem Sorted.lt {es : List Entry} (hs : Sorted es) {i j : Nat} {a b : Entry} (hij : i < j)
    (ha : es[i]? = some a) (hb : es[j]? = some b) : compareKeys a.key b.key = .lt := by
  obtain ⟨hi, rfl⟩ := List.getElem?_eq_some_iff.mp ha
  obtain ⟨hj, rfl⟩ := List.getElem?_eq_some_iff.mp hb
  exact List.pairwise_iff_getElem.mp hs i j hi hj hij

theorem sorted_of_mem_flatten {G : List (List Entry)} (hs : Sorted G.flatten) {g : List Entry}
    (hg : g ∈ G) : Sorted g :=
  List.Pairwise.sublist (List.sublist_flatten_of_mem hg) hs

theorem searchM_list {σ α : Type} (f : Nat → σ → Option (Bool × σ)) (P : σ → Prop)
    (xs : List α) (c : α → Bool)
    (hf : ∀ (h : Nat) x s, xs[h]? = some x → P s → ∃ s', f h s = some (c x, s') ∧ P s')
    (hmono : xs.Pairwise fun x y => c x = true → c y = true)
    (s : σ) (hP : P s) :
    ∃ r s', searchM f 0 xs.length s = some (r, s') ∧ P s' ∧ r = xs.findIdx c ∧ r ≤ xs.length ∧
      (∀ k x, k < r → xs[k]? = some x → c x = false) ∧
      (∀ k x, r ≤ k → xs[k]? = some x → c x = true) := by
  -- the search ends at `xs.findIdx c`: every probe keeps it between the bounds
  have hle : ∀ {m : Nat} (hm : m < xs.length), xs.findIdx c ≤ m ↔ c xs[m] = true :=
    findIdx_le_iff_of_mono (List.pairwise_iff_getElem.mp hmono)
  suffices h : ∀ (i j : Nat) (s : σ), i ≤ xs.findIdx c → xs.findIdx c ≤ j → j ≤ xs.length → P s →
      ∃ s', searchM f i j s = some (xs.findIdx c, s') ∧ P s' by
    obtain ⟨s', hs, hP'⟩ := h 0 xs.length s (Nat.zero_le _) List.findIdx_le_length (Nat.le_refl _) hP
    refine ⟨_, s', hs, hP', rfl, List.findIdx_le_length, fun k x hk hx => ?_, fun k x hk hx => ?_⟩
    · obtain ⟨hk', rfl⟩ := List.getElem?_eq_some_iff.mp hx
      exact List.not_of_lt_findIdx hk
    · obtain ⟨hk', rfl⟩ := List.getElem?_eq_some_iff.mp hx
      exact (hle hk').mp hk
  intro i j s
  induction i, j, s using searchM.induct f with
  | case1 i j s hlt m hnone =>  -- the probe fails: excluded by `hf`
    intro _ _ hjn hP
    obtain ⟨s', hfs, _⟩ := hf m _ s (List.getElem?_eq_getElem (show m < xs.length by omega)) hP
    rw [hfs] at hnone; cases hnone
  | case2 i j s hlt m b s' hfs hb ih =>  -- `c xs[m]` is false: on with `m + 1 .. j`
    intro hi hj hjn hP
    have hmn : m < xs.length := by omega
    rw [searchM, dif_pos hlt, show (i + j) / 2 = m from rfl]
    clear_value m
    obtain ⟨s₁, hfs₁, hP'⟩ := hf m _ s (List.getElem?_eq_getElem hmn) hP
    rw [hfs] at hfs₁
    cases hfs₁
    simp only [hfs, hb, if_true]
    exact ih (Nat.lt_of_not_le fun h => by rw [(hle hmn).mp h] at hb; cases hb) hj hjn hP'
  | case3 i j s hlt m b s' hfs hb ih =>  -- `c xs[m]` is true: on with `i .. m`
    intro hi hj hjn hP
    have hmn : m < xs.length := by omega
    rw [searchM, dif_pos hlt, show (i + j) / 2 = m from rfl]
    clear_value m
    obtain ⟨s₁, hfs₁, hP'⟩ := hf m _ s (List.getElem?_eq_getElem hmn) hP
    rw [hfs] at hfs₁
    cases hfs₁
    simp only [hfs, hb]
    exact ih hi ((hle hmn).mpr (by simpa using hb)) (by omega) hP'
  | case4 i j s hlt =>  -- the bounds have met
    intro hi hj hjn hP
    rw [searchM, dif_neg hlt, show i = xs.findIdx c by omega]
    exact ⟨s, rfl, hP⟩

theorem searchM_list_pure {α : Type} (f : Nat → Unit → Option (Bool × Unit)) (xs : List α) (c : α → Bool)
    (hf : ∀ (h : Nat) x, xs[h]? = some x → f h () = some (c x, ()))
    (hmono : xs.Pairwise fun x y => c x = true → c y = true) :
    ∃ r, searchM f 0 xs.length () = some (r, ()) ∧ r = xs.findIdx c ∧ r ≤ xs.length ∧
      (∀ k x, k < r → xs[k]? = some x → c x = false) ∧
      (∀ k x, r ≤ k → xs[k]? = some x → c x = true) := by
  obtain ⟨r, _, hsearch, _, h⟩ :=
    searchM_list f (fun _ => True) xs c (fun h x _ hx _ => ⟨(), hf h x hx, trivial⟩) hmono () trivial
  exact ⟨r, hsearch, h⟩

theorem blockSeek_ok {es : List Entry} {it : BlockIter} (wf : BlockWF es) (hs : Sorted es)
    (hk8 : ∀ e ∈ es, 8 ≤ e.key.length) (inv : BlockInv es it) (key : Bytes) (hkey : 8 ≤ key.length) :
    ∃ r it', it.seek key false = some it' ∧ BlockInv es it' ∧ r ≤ es.length ∧
      (∀ k e, k < r → es[k]? = some e → compareKeys e.key key = .lt) ∧
      (∀ k e, r ≤ k → es[k]? = some e → compareKeys e.key key ≠ .lt) ∧
      it'.idx = r ∧
      (r < es.length → ∃ e, es[r]? = some e ∧ it'.key = e.key ∧ it'.val = encVS e.vs ∧ it'.err = none) ∧
      (r = es.length → it'.err = some .eof) := by
  unfold BlockIter.seek
  simp only [Bool.false_eq_true, if_false]
  let f : Nat → BlockIter → Option (Bool × BlockIter) := fun idx (it : BlockIter) =>
      if (idx : Int) < 0 then some (false, it)
      else
        (it.setIdx idx).bind fun it =>
        (compareKeysP it.key key).bind fun o => some (o != .lt, it)
  have hlen : ({ it with err := none } : BlockIter).entryOffsets.length = es.length := inv.offs_length
  have hf : ∀ h e s, es[h]? = some e → BlockInv es s →
      ∃ s', f h s = some (compareKeys e.key key != .lt, s') ∧ BlockInv es s' := by
    intro h e s he hinv
    obtain ⟨s', hset, hinv', hk, _, _, _⟩ := setIdx_ok wf hinv h e he
    refine ⟨s', ?_, hinv'⟩
    have hneg : ¬ ((h : Int) < 0) := by omega
    simp only [f, hneg, if_false, hset, Option.bind_some, hk,
      compareKeysP_eq (hk8 e (List.mem_of_getElem? he)) hkey]
  obtain ⟨r, s', hsearch, hinv', -, hrn, hlo, hhi⟩ :=
    searchM_list f (BlockInv es) es (fun e => compareKeys e.key key != .lt) hf
      (hs.imp ge_key_mono)
      { it with err := none } (inv.with_idx_err it.idx none)
  rw [hlen]
  show ∃ r it', ((searchM f 0 es.length { it with err := none }).bind fun x => x.2.setIdx x.1) = some it' ∧ _
  rw [hsearch, Option.bind_some]
  have hlo' : ∀ k e, k < r → es[k]? = some e → compareKeys e.key key = .lt :=
    fun k e hk he => by simpa using hlo k e hk he
  have hhi' : ∀ k e, r ≤ k → es[k]? = some e → compareKeys e.key key ≠ .lt :=
    fun k e hk he => by simpa using hhi k e hk he
  rcases Nat.lt_or_eq_of_le hrn with hr | hre
  · obtain ⟨e, he⟩ := getElem?_some_of_lt es r hr
    obtain ⟨it', hset, hinv'', hk, hv, hidx, herr⟩ := setIdx_ok wf hinv' r e he
    exact ⟨r, it', hset, hinv'', hrn, hlo', hhi', hidx, fun _ => ⟨e, he, hk, hv, herr⟩, fun h => by omega⟩
  · have hoob := setIdx_oob hinv' (r : Int) (Or.inl (by omega))
    exact ⟨r, _, hoob.1, hoob.2, hrn, hlo', hhi', rfl, fun h => by omega, fun _ => rfl⟩

end Badger.Tbl
