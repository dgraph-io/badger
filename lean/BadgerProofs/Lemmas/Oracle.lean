import BadgerModel.Oracle
import BadgerProofs.Lemmas.WatermarkInv
import BadgerProofs.Lemmas.Lists
/-!
A watermark behind its channel (`AWM.Tracks`: `process` has handled a prefix of the marks sent), what a list of
wake-ups does to one entry of the transaction table (`wakeOne`), what `hasConflict`, a rejecting `newCommitTs` and
normal-mode `cleanup` answer in any state, then the invariant `SysInv` of the oracle transition system
(`BadgerModel/Oracle.lean`, normal mode), with one lemma per elementary change of the state (`setTxn`, `begin`,
`sendWait`, `rmDone`, `cleanup`, `alloc`, …).
`Sys.step` from a state with `SysInv` is then read once as the relation `Sys.Step`; `SysInv` here and
`LiveInv` are preserved by cases on it, and the pipeline invariant `PInv` (over `PReach`) uses it for its
oracle steps. Managed mode has its own, much smaller invariant (`MgdInv`, `Lemmas/OracleManaged.lean`), preserved
over the branches of `Sys.step` itself. `Sys.runLabels` at the end runs a list of labels: the sample runs of
`Props/C02.lean`, `C03.lean`, `C34.lean`; where such a run arrives is a reachable state (`OReach.ofRun`).
-/
namespace Badger

/-- The pair (process state, channel) has received exactly `Done(n)` followed by `sent`:
    `process` has handled a prefix, the rest is still queued. -/
def AWM.Tracks (a : AWM) (n : Nat) (sent : List Mark) : Prop :=
  ∃ pre, Mark.done n :: sent = pre ++ a.q ∧ a.wm = WM.init.run pre

theorem AWM.Tracks.opened (n : Nat) : (({} : AWM).send (.done n)).Tracks n [] :=
  ⟨[], by simp [AWM.send], rfl⟩

theorem AWM.Tracks.send {a : AWM} {n : Nat} {sent : List Mark} (h : a.Tracks n sent) (m : Mark) :
    (a.send m).Tracks n (sent ++ [m]) := by
  obtain ⟨pre, e, hw⟩ := h
  refine ⟨pre, ?_, hw⟩
  simp only [AWM.send]
  rw [← List.append_assoc, ← e]; rfl

theorem AWM.Tracks.process {a a' : AWM} {n : Nat} {sent : List Mark} {wk : List Wakeup}
    (h : a.Tracks n sent) (hp : a.process = some (a', wk)) :
    a'.Tracks n sent ∧ ∃ m, a' = { wm := (a.wm.step m).1, q := a.q.tail } ∧ wk = (a.wm.step m).2 ∧
      a.q = m :: a'.q := by
  obtain ⟨pre, e, hw⟩ := h
  unfold AWM.process at hp
  cases hq : a.q with
  | nil => rw [hq] at hp; simp at hp
  | cons m q =>
    rw [hq] at hp
    simp only [Option.some.injEq, Prod.mk.injEq] at hp
    obtain ⟨e1, e2⟩ := hp
    subst e1 e2
    refine ⟨⟨pre ++ [m], ?_, ?_⟩, m, ?_, rfl, rfl⟩
    · rw [e, hq]; simp
    · simp only [hw, WM.run_append]; rfl
    · simp

theorem AWM.Tracks.inv {a : AWM} {n : Nat} {sent : List Mark} (h : a.Tracks n sent) : a.wm.Inv := by
  obtain ⟨pre, _, hw⟩ := h
  rw [hw]; exact WM.run_inv pre

theorem AWM.Tracks.virt {a : AWM} {n : Nat} {sent : List Mark} (h : a.Tracks n sent) :
    a.virt = (WM.opened n).run sent := by
  obtain ⟨pre, e, hw⟩ := h
  rw [WM.opened_run, e, WM.run_append, ← hw]; rfl

theorem AWM.Tracks.le_virt {a : AWM} {n : Nat} {sent : List Mark} (h : a.Tracks n sent) :
    a.wm.doneUntil ≤ ((WM.opened n).run sent).doneUntil := by
  rw [← h.virt]
  exact (WM.runW_trans _ h.inv a.q).mono

theorem AWM.Tracks.live {a : AWM} {n : Nat} {sent : List Mark} (h : a.Tracks n sent) (strict : Bool)
    (hok : marksOK strict (Ghost.opened n) sent) : a.wm.failed = false :=
  -- an exited process stays exited, and the drained watermark has not
  Bool.eq_false_iff.mpr fun hf => by
    have := (WM.runW_trans _ h.inv a.q).failedMono hf
    rw [show (a.wm.runW a.q).1 = a.virt from rfl, h.virt, (WM.opened_ghost n sent hok).live] at this
    cases this

theorem wait_sent_of_prefix {n : Nat} {sent pre q : List Mark} (e : Mark.done n :: sent = pre ++ q)
    {k : Wakeup} (h : k ∈ (WM.init.runW pre).2 ∨ k ∈ (WM.init.run pre).waiters.flat) :
    Mark.wait k.idx k.waiter ∈ sent := by
  rcases (WM.runW_trans _ WM.init_inv pre).src k h with h0 | h0
  · simp [WM.init, Waiters.flat] at h0
  · have hin : Mark.wait k.idx k.waiter ∈ Mark.done n :: sent := e ▸ List.mem_append.mpr (.inl h0)
    exact (List.mem_cons.mp hin).resolve_left nofun

theorem AWM.Tracks.woke_sent {a a' : AWM} {n : Nat} {sent : List Mark} {wk : List Wakeup}
    (h : a.Tracks n sent) (hp : a.process = some (a', wk)) {k : Wakeup} (hk : k ∈ wk) :
    Mark.wait k.idx k.waiter ∈ sent ∧ k.idx ≤ a'.wm.doneUntil := by
  obtain ⟨_, m, ea, ewk, eq⟩ := h.process hp
  have hk' : k ∈ (a.wm.step m).2 := ewk ▸ hk
  refine ⟨?_, by rw [ea]; exact (WM.step_trans _ h.inv m).woke k hk'⟩
  obtain ⟨pre, epre, hwm⟩ := h
  refine wait_sent_of_prefix (pre := pre ++ [m]) (q := a'.q) (by rw [epre, eq]; simp) (.inl ?_)
  rw [WM.runW_append, WM.runW_single, ← hwm]
  exact List.mem_append.mpr (.inr hk')

theorem countP_set_balance {α : Type} (p : α → Bool) (l : List α) (i : Nat) (a x : α)
    (hx : l[i]? = some x) :
    (l.set i a).countP p + (if p x then 1 else 0) = l.countP p + (if p a then 1 else 0) := by
  obtain ⟨hi, rfl⟩ := List.getElem?_eq_some_iff.mp hx
  have : (if p l[i] then 1 else 0) ≤ l.countP p := by
    split
    · exact List.countP_pos_iff.mpr ⟨_, List.getElem_mem hi, ‹_›⟩
    · exact Nat.zero_le _
  rw [List.countP_set hi]
  omega

theorem countP_set_same {α : Type} (p : α → Bool) (l : List α) (i : Nat) (a x : α)
    (hx : l[i]? = some x) (hp : p a = p x) : (l.set i a).countP p = l.countP p := by
  have := countP_set_balance p l i a x hx
  rw [hp] at this; omega

/-- What `wakeFrom` does to the entry of transaction `i`. -/
def wakeOne (i : Nat) (wk : List Wakeup) (x : TxnSt) : TxnSt :=
  if x.phase = .parked ∧ wk.any (fun k => k.waiter == i) then { x with phase := .active } else x

theorem wakeFrom_getElem? (i : Nat) (wk : List Wakeup) (l : List TxnSt) (j : Nat) :
    (wakeFrom i wk l)[j]? = (l[j]?).map (wakeOne (i + j) wk) := by
  induction l generalizing i j with
  | nil => simp [wakeFrom]
  | cons x xs ih =>
    cases j with
    | zero => simp [wakeFrom, wakeOne]
    | succ j =>
      simp only [wakeFrom, List.getElem?_cons_succ]
      rw [ih (i + 1) j]
      have : i + 1 + j = i + (j + 1) := by omega
      rw [this]

theorem wakeOne_t (i : Nat) (wk : List Wakeup) (x : TxnSt) : (wakeOne i wk x).t = x.t := by
  unfold wakeOne; split <;> rfl

theorem wakeOne_holdsRead (i : Nat) (wk : List Wakeup) (x : TxnSt) :
    (wakeOne i wk x).holdsRead = x.holdsRead := by
  unfold wakeOne; split
  · rename_i h
    simp only [TxnSt.holdsRead, h.1]
    rfl
  · rfl

theorem wakeOne_closed (i : Nat) (wk : List Wakeup) (x : TxnSt) :
    (wakeOne i wk x).phase = .closed ↔ x.phase = .closed := by
  unfold wakeOne; split
  · rename_i h; simp [h.1]
  · rfl

theorem wakeOne_parked (i : Nat) (wk : List Wakeup) (x : TxnSt) (h : (wakeOne i wk x).phase = .parked) :
    x.phase = .parked ∧ wk.any (fun k => k.waiter == i) = false := by
  unfold wakeOne at h
  split at h
  · simp at h
  · rename_i hc
    refine ⟨h, ?_⟩
    cases hv : wk.any (fun k => k.waiter == i) with
    | false => rfl
    | true => exact absurd ⟨h, hv⟩ hc

theorem wakeOne_started (i : Nat) (wk : List Wakeup) (x : TxnSt) (h : (wakeOne i wk x).phase = .started) :
    x.phase = .started := by
  unfold wakeOne at h
  split at h
  · simp at h
  · exact h

theorem wakeFrom_countP (p : TxnSt → Bool) (hp : ∀ i wk x, p (wakeOne i wk x) = p x)
    (i : Nat) (wk : List Wakeup) (l : List TxnSt) : (wakeFrom i wk l).countP p = l.countP p := by
  induction l generalizing i with
  | nil => rfl
  | cons x xs ih =>
    simp only [wakeFrom, List.countP_cons, ih]
    have := hp i wk x
    unfold wakeOne at this
    rw [this]

theorem wakeTxns_getElem? (l : List TxnSt) (wk : List Wakeup) (j : Nat) :
    (wakeTxns l wk)[j]? = (l[j]?).map (wakeOne j wk) := by
  rw [wakeTxns, wakeFrom_getElem?, Nat.zero_add]

theorem wakeTxns_getElem?_some {l : List TxnSt} {wk : List Wakeup} {j : Nat} {y : TxnSt}
    (h : (wakeTxns l wk)[j]? = some y) : ∃ x, l[j]? = some x ∧ y = wakeOne j wk x := by
  rw [wakeTxns_getElem?] at h
  obtain ⟨x, hx, e⟩ := Option.map_eq_some_iff.mp h
  exact ⟨x, hx, e.symm⟩

theorem mem_wakeTxns {l : List TxnSt} {wk : List Wakeup} {y : TxnSt} (h : y ∈ wakeTxns l wk) :
    ∃ j x, l[j]? = some x ∧ y = wakeOne j wk x := by
  obtain ⟨j, hj⟩ := List.mem_iff_getElem?.mp h
  exact ⟨j, wakeTxns_getElem?_some hj⟩

theorem Oracle.readTsWait_fst (o : Oracle) (r w : Nat) : ∃ a, (o.readTsWait r w).1 = { o with txnMark := a } := by
  unfold Oracle.readTsWait
  split
  · exact ⟨o.txnMark, rfl⟩
  · exact ⟨_, rfl⟩

theorem Oracle.hasConflict_eq_true (o : Oracle) (t : Txn) :
    o.hasConflict t = true ↔
      ∃ c ∈ o.committedTxns, t.readTs < c.ts ∧ ∃ fp ∈ t.reads, fp ∈ c.conflictKeys := by
  unfold Oracle.hasConflict
  split
  · rename_i he
    simp [List.isEmpty_iff.mp he]
  · simp

theorem Oracle.hasConflict_eq_false (o : Oracle) (t : Txn) :
    o.hasConflict t = false ↔
      ∀ c ∈ o.committedTxns, t.readTs < c.ts → ∀ fp ∈ t.reads, fp ∉ c.conflictKeys := by
  rw [← Bool.not_eq_true, Oracle.hasConflict_eq_true]
  simp only [not_exists, not_and]

theorem Oracle.newCommitTs_of_conflict {o : Oracle} {t : Txn} (h : o.hasConflict t = true) :
    o.newCommitTs t = (o, t, .conflict) := by
  simp [Oracle.newCommitTs, h]

theorem Oracle.hasConflict_of_conflict {o : Oracle} {t : Txn} :
    (o.newCommitTs t).2.2 = .conflict → o.hasConflict t = true := by
  fun_cases Oracle.newCommitTs o t <;> intro h
  case case1 hc => exact hc -- the only branch that answers `conflict`
  all_goals cases h

theorem Oracle.cleanup_normal (o : Oracle) (hm : o.isManaged = false) :
    o.cleanup =
      if o.detectConflicts = false then some o
      else if o.readMark.wm.doneUntil < o.lastCleanupTs then none
      else if o.readMark.wm.doneUntil = o.lastCleanupTs then some o
      else some { o with lastCleanupTs := o.readMark.wm.doneUntil,
                         committedTxns := o.committedTxns.filter
                           (fun c => !(decide (c.ts ≤ o.readMark.wm.doneUntil))) } := by
  obtain ⟨m, dc, nx, tm, rm, dt, ct, lc⟩ := o
  simp only at hm
  subst hm
  cases dc <;> simp [Oracle.cleanup, AWM.doneUntil]

/-- The predicate counted by the read mark: transaction holds `readMark` at read timestamp `r`. -/
def holdsAt (r : Nat) (x : TxnSt) : Bool := x.holdsRead && x.t.readTs == r

def rmGhost (n : Nat) (s : Sys) : Ghost := (Ghost.opened n).run s.rmSent
def tmGhost (n : Nat) (s : Sys) : Ghost := (Ghost.opened n).run s.tmSent

def toCommitted (h : HistEntry) : CommittedTxn := ⟨h.ts, h.conflictKeys⟩

/-- Phases in which `NewTransaction` has returned. -/
def Phase.returned (p : Phase) : Prop := p = .active ∨ p = .closing ∨ p = .closed

structure SysInv (d : Bool) (n : Nat) (s : Sys) : Prop where
  notManaged : s.o.isManaged = false
  detect : s.o.detectConflicts = d
  live : s.crashed = false
  nextGt : n < s.o.nextTxnTs
  histSorted : s.hist.Pairwise (fun a b => a.ts < b.ts)
  histLt : ∀ h ∈ s.hist, n < h.ts ∧ h.ts < s.o.nextTxnTs
  /-- `committedTxns` is the part of the history above `lastCleanupTs` (nothing else is pruned) -/
  committed : s.o.committedTxns =
    if d then (s.hist.filter (fun h => decide (s.o.lastCleanupTs < h.ts))).map toCommitted
    else []
  cleanupLe : s.o.lastCleanupTs ≤ s.o.readMark.wm.doneUntil
  doneSub : ∀ t ∈ s.doneCommits, t ∈ s.hist.map (·.ts)
  rmTracks : s.o.readMark.Tracks n s.rmSent
  tmTracks : s.o.txnMark.Tracks n s.tmSent
  rmOK : marksOK false (Ghost.opened n) s.rmSent
  tmOK : marksOK true (Ghost.opened n) s.tmSent
  /-- the read mark's pending count of `r` = number of transactions holding it at `r` -/
  rmCnt : ∀ r, (rmGhost n s).cnt r = ((s.txns.countP (holdsAt r) : Nat) : Int)
  rmMax : (rmGhost n s).maxSeen < s.o.nextTxnTs
  /-- the txn mark's pending count of `t` is 1 while `t` is allocated and not reported done -/
  tmCnt : ∀ t, (tmGhost n s).cnt t = if t ∈ s.allocatedNotDone then 1 else 0
  tmMax : (tmGhost n s).maxSeen < s.o.nextTxnTs
  readTsLt : ∀ x ∈ s.txns, x.t.readTs < s.o.nextTxnTs
  closedIff : ∀ x ∈ s.txns, (x.t.doneRead = true ↔ x.phase = .closed)
  waitIdx : ∀ idx w, Mark.wait idx w ∈ s.tmSent → ∃ x, s.txns[w]? = some x ∧ x.t.readTs = idx
  /-- **C34 at the oracle**: once `readTs` has returned `r`, every allocated commit timestamp
      `≤ r` has been reported done -/
  applied : ∀ x ∈ s.txns, x.phase.returned → ∀ h ∈ s.hist, h.ts ≤ x.t.readTs → h.ts ∈ s.doneCommits
  /-- **C02 on the history**: with conflict detection, no transaction that obtained a commit
      timestamp inside `(h.readTs, h.ts)` wrote a fingerprint that `h` read -/
  ssi : d = true → ∀ h ∈ s.hist, ∀ c ∈ s.hist, h.readTs < c.ts → c.ts < h.ts →
    ∀ fp ∈ h.reads, fp ∉ c.conflictKeys

theorem mem_allocatedNotDone (s : Sys) (t : Nat) :
    t ∈ s.allocatedNotDone ↔ t ∈ s.hist.map (·.ts) ∧ t ∉ s.doneCommits := by
  simp [Sys.allocatedNotDone, List.mem_filter]

theorem SysInv.rmVirt {d n s} (hI : SysInv d n s) :
    GRel false ((WM.opened n).run s.rmSent) (rmGhost n s) :=
  WM.opened_ghost n s.rmSent hI.rmOK

theorem SysInv.tmVirt {d n s} (hI : SysInv d n s) :
    GRel true ((WM.opened n).run s.tmSent) (tmGhost n s) :=
  WM.opened_ghost n s.tmSent hI.tmOK

/-- `readMark.DoneUntil()` never exceeds the read timestamp of a
    transaction that still holds the read mark. -/
theorem SysInv.readMark_le {d n s} (hI : SysInv d n s) (x : TxnSt) (hx : x ∈ s.txns)
    (hh : x.holdsRead = true) : s.o.readMark.wm.doneUntil ≤ x.t.readTs := by
  have hv := hI.rmVirt
  have hcnt : (rmGhost n s).cnt x.t.readTs > 0 := by
    rw [hI.rmCnt]
    have : 0 < s.txns.countP (holdsAt x.t.readTs) :=
      List.countP_pos_iff.mpr ⟨x, hx, by simp [holdsAt, hh]⟩
    omega
  have hp : ((WM.opened n).run s.rmSent).pending.val x.t.readTs > 0 := by rw [hv.cnt]; exact hcnt
  exact Nat.le_trans hI.rmTracks.le_virt (hv.inv.le_of_pending_pos hp)

/-- If `DoneUntil() ≥ r` for `txnMark` — as it is now, or as any `process`
    iteration leaves it (`a`) — every allocated commit timestamp `≤ r` has been reported done. -/
theorem SysInv.applied_of_tracks {d n s} (hI : SysInv d n s) {a : AWM} (hT : a.Tracks n s.tmSent)
    {r : Nat} (hr : r ≤ a.wm.doneUntil) : ∀ h ∈ s.hist, h.ts ≤ r → h.ts ∈ s.doneCommits := by
  intro h hh hle
  apply Classical.byContradiction
  intro hnd
  have hmem : h.ts ∈ s.allocatedNotDone :=
    (mem_allocatedNotDone s h.ts).mpr ⟨List.mem_map.mpr ⟨h, hh, rfl⟩, hnd⟩
  have hv := hI.tmVirt
  have hp : ((WM.opened n).run s.tmSent).pending.val h.ts > 0 := by
    rw [hv.cnt, hI.tmCnt, if_pos hmem]; decide
  have h1 := hv.strictGt rfl _ hp
  have h2 := hT.le_virt
  omega

theorem SysInv.init (d : Bool) (n : Nat) : SysInv d n (Sys.opened false d n) := by
  refine { notManaged := rfl, detect := rfl, live := rfl, nextGt := by simp [Sys.opened, Oracle.opened],
           histSorted := by simp [Sys.opened], histLt := by simp [Sys.opened],
           committed := by cases d <;> simp [Sys.opened, Oracle.opened],
           cleanupLe := by simp [Sys.opened, Oracle.opened],
           doneSub := by simp [Sys.opened],
           rmTracks := AWM.Tracks.opened n, tmTracks := AWM.Tracks.opened n,
           rmOK := by simp [Sys.opened, marksOK], tmOK := by simp [Sys.opened, marksOK],
           rmCnt := by intro r; simp [rmGhost, Sys.opened, Ghost.run, Ghost.opened],
           rmMax := by simp [rmGhost, Sys.opened, Ghost.run, Ghost.opened, Oracle.opened],
           tmCnt := by intro t; simp [tmGhost, Sys.opened, Ghost.run, Ghost.opened, Sys.allocatedNotDone],
           tmMax := by simp [tmGhost, Sys.opened, Ghost.run, Ghost.opened, Oracle.opened],
           readTsLt := by simp [Sys.opened], closedIff := by simp [Sys.opened],
           waitIdx := by simp [Sys.opened], applied := by simp [Sys.opened],
           ssi := by simp [Sys.opened] }

theorem SysInv.setTxn_table {d n s} (hI : SysInv d n s) (tid : Nat) (x x' : TxnSt)
    (hx : s.txns[tid]? = some x) (h1 : x'.t.readTs = x.t.readTs)
    (h3 : x'.t.doneRead = true ↔ x'.phase = .closed)
    (h4 : x'.phase.returned → x.phase.returned ∨
      ∀ h ∈ s.hist, h.ts ≤ x.t.readTs → h.ts ∈ s.doneCommits) :
    (∀ y ∈ s.txns.set tid x', y.t.readTs < s.o.nextTxnTs) ∧
    (∀ y ∈ s.txns.set tid x', (y.t.doneRead = true ↔ y.phase = .closed)) ∧
    (∀ idx w, Mark.wait idx w ∈ s.tmSent → ∃ y, (s.txns.set tid x')[w]? = some y ∧ y.t.readTs = idx) ∧
    (∀ y ∈ s.txns.set tid x', y.phase.returned → ∀ h ∈ s.hist, h.ts ≤ y.t.readTs → h.ts ∈ s.doneCommits) := by
  have hxm : x ∈ s.txns := List.mem_of_getElem? hx
  refine ⟨?_, ?_, ?_, ?_⟩
  · intro y hy
    rcases List.mem_or_eq_of_mem_set hy with hy | rfl
    · exact hI.readTsLt y hy
    · rw [h1]; exact hI.readTsLt x hxm
  · intro y hy
    rcases List.mem_or_eq_of_mem_set hy with hy | rfl
    · exact hI.closedIff y hy
    · exact h3
  · intro idx w hw
    obtain ⟨y, hy, e⟩ := hI.waitIdx idx w hw
    by_cases hwt : tid = w
    · subst hwt
      rw [hx] at hy; cases hy
      exact ⟨x', List.getElem?_set_self (lt_of_getElem?_some hx), by rw [h1]; exact e⟩
    · exact ⟨y, by rw [List.getElem?_set_ne hwt]; exact hy, e⟩
  · intro y hy hret h hh hle
    rcases List.mem_or_eq_of_mem_set hy with hy | rfl
    · exact hI.applied y hy hret h hh hle
    · rw [h1] at hle
      rcases h4 hret with hr | ha
      · exact hI.applied x hxm hr h hh hle
      · exact ha h hh hle

theorem SysInv.setTxn {d n s} (hI : SysInv d n s) (tid : Nat) (x x' : TxnSt)
    (hx : s.txns[tid]? = some x) (h1 : x'.t.readTs = x.t.readTs) (h2 : x'.holdsRead = x.holdsRead)
    (h3 : x'.t.doneRead = true ↔ x'.phase = .closed)
    (h4 : x'.phase.returned → x.phase.returned ∨
      ∀ h ∈ s.hist, h.ts ≤ x.t.readTs → h.ts ∈ s.doneCommits) :
    SysInv d n { s with txns := s.txns.set tid x' } := by
  obtain ⟨t1, t2, t3, t4⟩ := hI.setTxn_table tid x x' hx h1 h3 h4
  refine { hI with rmCnt := ?_, readTsLt := t1, closedIff := t2, waitIdx := t3, applied := t4 }
  intro r
  exact (hI.rmCnt r).trans (by rw [countP_set_same _ _ _ _ _ hx (by simp [holdsAt, h1, h2])])

theorem SysInv.begin {d n s} (hI : SysInv d n s) (upd : Bool) :
    SysInv d n { s with o := s.o.readTsBegin.1,
                        txns := s.txns ++ [{ t := { readTs := s.o.readTsBegin.2, update := upd }, phase := .started }],
                        rmSent := s.rmSent ++ [.begin s.o.readTsBegin.2] } := by
  have hn := hI.nextGt
  have hmax := hI.rmMax
  refine { hI with rmTracks := hI.rmTracks.send _, rmOK := ?_, rmCnt := ?_, rmMax := ?_, readTsLt := ?_,
                   closedIff := ?_, waitIdx := ?_, applied := ?_ }
  · refine (marksOK_snoc_begin _ _ _ _).mpr ⟨hI.rmOK, ?_⟩
    simp only [Oracle.readTsBegin, Bool.false_eq_true, if_false]
    simp only [rmGhost] at hmax; omega
  · intro r -- the new entry holds the read mark at exactly the timestamp just begun
    have := hI.rmCnt r
    simp only [rmGhost, Ghost.run_snoc_begin, Ghost.proc, List.countP_append, List.countP_cons,
      List.countP_nil] at this ⊢
    rw [this]
    simp only [holdsAt, TxnSt.holdsRead, Oracle.readTsBegin]
    have e1 : (Phase.started != Phase.closed) = true := by decide
    simp only [e1, Bool.not_false, Bool.and_self, Bool.true_and, beq_iff_eq, Bool.false_eq_true, if_false]
    split <;> simp <;> omega
  · simp only [rmGhost, Ghost.run_snoc_begin, Ghost.proc, Oracle.readTsBegin] at hmax ⊢
    omega
  · refine List.forall_mem_append.mpr ⟨hI.readTsLt, List.forall_mem_singleton.mpr ?_⟩
    simp only [Oracle.readTsBegin]; omega
  · exact List.forall_mem_append.mpr ⟨hI.closedIff, List.forall_mem_singleton.mpr (by simp)⟩
  · intro idx w hw
    obtain ⟨y, hy, e⟩ := hI.waitIdx idx w hw
    exact ⟨y, getElem?_append_some _ _ _ _ hy, e⟩
  · refine List.forall_mem_append.mpr ⟨hI.applied, List.forall_mem_singleton.mpr ?_⟩
    rintro (h' | h' | h') <;> simp at h'

theorem SysInv.sendWait {d n s} (hI : SysInv d n s) (tid : Nat) (x : TxnSt)
    (hx : s.txns[tid]? = some x) :
    SysInv d n { s with o := { s.o with txnMark := s.o.txnMark.send (.wait x.t.readTs tid) },
                        tmSent := s.tmSent ++ [.wait x.t.readTs tid] } := by
  refine { hI with tmTracks := hI.tmTracks.send _, tmOK := (marksOK_snoc_wait _ _ _ _ _).mpr hI.tmOK,
                   tmCnt := ?_, tmMax := ?_, waitIdx := ?_ }
  · simp only [tmGhost, Ghost.run_snoc_wait]; exact hI.tmCnt
  · simp only [tmGhost, Ghost.run_snoc_wait]; exact hI.tmMax
  · intro idx w hw
    rcases List.mem_append.mp hw with hw | hw
    · exact hI.waitIdx idx w hw
    · simp at hw; obtain ⟨e1, e2⟩ := hw; subst e1 e2; exact ⟨x, hx, rfl⟩

theorem SysInv.procReadMark {d n s} (hI : SysInv d n s) (a : AWM) (wk : List Wakeup)
    (hp : s.o.readMark.process = some (a, wk)) :
    SysInv d n { s with o := { s.o with readMark := a }, crashed := a.wm.failed } := by
  obtain ⟨hT, m, ea, _, _⟩ := hI.rmTracks.process hp
  refine { hI with live := hT.live false hI.rmOK, cleanupLe := ?_, rmTracks := hT }
  have h1 := hI.cleanupLe
  have h2 := (WM.step_trans _ hI.rmTracks.inv m).mono
  simp only [ea]; omega

theorem SysInv.procTxnMark {d n s} (hI : SysInv d n s) (a : AWM) (wk : List Wakeup)
    (hp : s.o.txnMark.process = some (a, wk)) :
    SysInv d n { s with o := { s.o with txnMark := a }, txns := wakeTxns s.txns wk, crashed := a.wm.failed } := by
  have hT := (hI.tmTracks.process hp).1
  have hpred : ∀ r i wk x, holdsAt r (wakeOne i wk x) = holdsAt r x := by
    intro r i wk x; simp [holdsAt, wakeOne_holdsRead, wakeOne_t]
  refine { hI with live := hT.live true hI.tmOK, tmTracks := hT, rmCnt := ?_, readTsLt := ?_,
                   closedIff := ?_, waitIdx := ?_, applied := ?_ }
  · intro r
    have := hI.rmCnt r
    simp only [rmGhost, wakeTxns] at this ⊢
    rw [this, wakeFrom_countP _ (hpred r)]
  · intro y hy
    obtain ⟨j, x, hx, e⟩ := mem_wakeTxns hy
    rw [e, wakeOne_t]; exact hI.readTsLt x (List.mem_of_getElem? hx)
  · intro y hy
    obtain ⟨j, x, hx, e⟩ := mem_wakeTxns hy
    rw [e, wakeOne_t, wakeOne_closed]; exact hI.closedIff x (List.mem_of_getElem? hx)
  · intro idx w hw
    obtain ⟨y, hy, e⟩ := hI.waitIdx idx w hw
    exact ⟨wakeOne w wk y, by rw [wakeTxns_getElem?, hy]; rfl, by rw [wakeOne_t]; exact e⟩
  · intro y hy hret h hh hle
    obtain ⟨j, x, hx, e⟩ := mem_wakeTxns hy
    have hxm := List.mem_of_getElem? hx
    rw [e, wakeOne_t] at hle
    by_cases hxr : x.phase.returned
    · exact hI.applied x hxm hxr h hh hle
    · -- `x` was parked and has just been woken by some `k ∈ wk` with `k.waiter = j`
      have hw : x.phase = .parked ∧ wk.any (fun k => k.waiter == j) = true := by
        rw [e] at hret
        unfold wakeOne at hret
        split at hret
        · rename_i hc; exact hc
        · exact absurd hret hxr
      obtain ⟨k, hk, hkw⟩ := List.any_eq_true.mp hw.2
      simp only [beq_iff_eq] at hkw
      -- the wake-up stems from a `wait` mark that `x` sent, so `readTs ≤ doneUntil` of the new `txnMark`
      obtain ⟨hmark, hwoke⟩ := hI.tmTracks.woke_sent hp hk
      obtain ⟨x2, hx2, e2⟩ := hI.waitIdx _ _ hmark
      rw [hkw, hx] at hx2; cases hx2
      exact hI.applied_of_tracks hT (by rw [e2]; exact hwoke) h hh hle

theorem committed_filter (hist : List HistEntry) (lc m : Nat) (hle : lc ≤ m) :
    ((hist.filter (fun h => decide (lc < h.ts))).map toCommitted).filter (fun c => !(decide (c.ts ≤ m))) =
      (hist.filter (fun h => decide (m < h.ts))).map toCommitted := by
  rw [List.filter_map, List.filter_filter]
  congr 1
  apply List.filter_congr
  intro h _
  show (!decide (h.ts ≤ m) && decide (lc < h.ts)) = decide (m < h.ts)
  by_cases h1 : m < h.ts
  · simp [h1, Nat.not_le.mpr h1, Nat.lt_of_le_of_lt hle h1]
  · simp [h1, Nat.not_lt.mp h1]

/-- What `cleanupCommittedTransactions` leaves in a reachable state (`d` = `detectConflicts`): the
    conflict log pruned at `readMark.DoneUntil()`. -/
def Oracle.pruned (d : Bool) (o : Oracle) : Oracle :=
  { o with lastCleanupTs := if d then o.readMark.wm.doneUntil else o.lastCleanupTs,
           committedTxns := if d then
               o.committedTxns.filter (fun c => !(decide (c.ts ≤ o.readMark.wm.doneUntil)))
             else o.committedTxns }

theorem SysInv.cleanup_eq {d n s} (hI : SysInv d n s) : s.o.cleanup = some (s.o.pruned d) := by
  have hc := hI.cleanupLe
  have hd := hI.detect
  rw [Oracle.cleanup_normal _ hI.notManaged]
  cases d with
  | false => rw [if_pos hd]; rfl
  | true =>
    rw [if_neg (by simp [hd]), if_neg (by omega)]
    split
    · rename_i heq
      -- nothing to prune: every entry is above `lastCleanupTs = doneUntil`
      have hf : s.o.committedTxns.filter (fun c => !(decide (c.ts ≤ s.o.readMark.wm.doneUntil))) =
          s.o.committedTxns := by
        rw [hI.committed, if_pos rfl,
          committed_filter s.hist s.o.lastCleanupTs s.o.readMark.wm.doneUntil hc, heq]
      simp only [Oracle.pruned, if_true]
      rw [hf, heq]
    · rfl

theorem SysInv.cleanup {d n s} (hI : SysInv d n s) (o' : Oracle) (ho : s.o.cleanup = some o') :
    SysInv d n { s with o := o' } := by
  rw [hI.cleanup_eq] at ho
  cases ho
  cases d with
  | false => exact hI
  | true =>
    refine { hI with committed := ?_, cleanupLe := Nat.le_refl _ }
    have hcm := hI.committed
    simp only [Oracle.pruned, if_true] at hcm ⊢
    rw [hcm]
    exact committed_filter s.hist _ _ hI.cleanupLe

theorem SysInv.rmDone {d n s} (hI : SysInv d n s) (tid : Nat) (x x' : TxnSt)
    (hx : s.txns[tid]? = some x) (hh : x.holdsRead = true)
    (h1 : x'.t.readTs = x.t.readTs) (h2 : x'.phase = .closed) (h3 : x'.t.doneRead = true)
    (h4 : x.phase.returned) :
    SysInv d n { s with o := { s.o with readMark := s.o.readMark.send (.done x.t.readTs) },
                        txns := s.txns.set tid x', rmSent := s.rmSent ++ [.done x.t.readTs] } := by
  have hxm : x ∈ s.txns := List.mem_of_getElem? hx
  have hpos : 0 < s.txns.countP (holdsAt x.t.readTs) :=
    List.countP_pos_iff.mpr ⟨x, hxm, by simp [holdsAt, hh]⟩
  have hx'h : x'.holdsRead = false := by simp [TxnSt.holdsRead, h2]
  obtain ⟨t1, t2, t3, t4⟩ := hI.setTxn_table tid x x' hx h1 (by simp [h2, h3]) (fun _ => .inl h4)
  refine { hI with rmTracks := hI.rmTracks.send _, rmOK := ?_, rmCnt := ?_, rmMax := ?_, readTsLt := t1,
                   closedIff := t2, waitIdx := t3, applied := t4 }
  · refine (marksOK_snoc_done _ _ _ _).mpr ⟨hI.rmOK, ?_⟩
    have := hI.rmCnt x.t.readTs
    simp only [rmGhost] at this
    rw [this]; omega
  · intro r
    have := hI.rmCnt r
    have hb := countP_set_balance (holdsAt r) s.txns tid x' x hx
    simp only [rmGhost, Ghost.run_snoc_done, Ghost.proc] at this ⊢
    rw [this]
    have e1 : holdsAt r x' = false := by simp [holdsAt, hx'h]
    have e2 : holdsAt r x = (x.t.readTs == r) := by rw [holdsAt, hh, Bool.true_and]
    rw [e1, e2] at hb
    by_cases hr : x.t.readTs = r <;> simp [hr] at hb ⊢ <;> omega
  · have h := hI.rmMax
    have h' := hI.readTsLt x hxm
    simp only [rmGhost, Ghost.run_snoc_done, Ghost.proc] at h ⊢
    omega

theorem SysInv.doneCommit {d n s} (hI : SysInv d n s) (ts : Nat) (hts : ts ∈ s.allocatedNotDone) :
    SysInv d n { s with o := { s.o with txnMark := s.o.txnMark.send (.done ts) },
                        doneCommits := s.doneCommits ++ [ts], tmSent := s.tmSent ++ [.done ts] } := by
  obtain ⟨hm1, hm2⟩ := (mem_allocatedNotDone s ts).mp hts
  obtain ⟨h0, hh0, e0⟩ := List.mem_map.mp hm1
  have hlt : ts < s.o.nextTxnTs := by rw [← e0]; exact (hI.histLt h0 hh0).2
  refine { hI with doneSub := ?_, tmTracks := hI.tmTracks.send _, tmOK := ?_, tmCnt := ?_, tmMax := ?_,
                   waitIdx := ?_, applied := ?_ }
  · exact List.forall_mem_append.mpr ⟨hI.doneSub, List.forall_mem_singleton.mpr hm1⟩
  · refine (marksOK_snoc_done _ _ _ _).mpr ⟨hI.tmOK, ?_⟩
    have := hI.tmCnt ts
    simp only [tmGhost] at this
    rw [this, if_pos hts]; decide
  · intro t
    have := hI.tmCnt t
    simp only [tmGhost, Ghost.run_snoc_done, Ghost.proc] at this ⊢
    rw [this]
    simp only [mem_allocatedNotDone, List.mem_append, List.mem_singleton]
    by_cases hts' : ts = t
    · subst hts'; simp [hm1, hm2]
    · have hne : ¬ t = ts := fun h => hts' h.symm
      simp [hts', hne]
  · have h := hI.tmMax
    simp only [tmGhost, Ghost.run_snoc_done, Ghost.proc] at h ⊢
    omega
  · exact fun idx w hw => hI.waitIdx idx w ((List.mem_append.mp hw).resolve_right (by simp))
  · intro y hy hret h hh hle
    exact List.mem_append.mpr (.inl (hI.applied y hy hret h hh hle))

/-- **Cleanup is safe** (the crux of C02): an entry that a transaction still holding the read
    mark could conflict with has not been pruned from `committedTxns`. -/
theorem SysInv.cleanup_safe {n s} (hI : SysInv true n s) (x : TxnSt) (hx : x ∈ s.txns)
    (hh : x.holdsRead = true) (c : HistEntry) (hc : c ∈ s.hist) (hlt : x.t.readTs < c.ts) :
    toCommitted c ∈ s.o.committedTxns := by
  have h1 := hI.readMark_le x hx hh
  have h2 := hI.cleanupLe
  have hcm := hI.committed
  simp only [if_true] at hcm
  rw [hcm]
  apply List.mem_map.mpr
  refine ⟨c, List.mem_filter.mpr ⟨hc, ?_⟩, rfl⟩
  simp; omega

theorem SysInv.doneRead_false {d n s} (hI : SysInv d n s) (x : TxnSt) (hx : x ∈ s.txns)
    (hp : x.phase ≠ .closed) : x.t.doneRead = false := by
  have := hI.closedIff x hx
  cases h : x.t.doneRead with
  | false => rfl
  | true => exact absurd (this.mp h) hp

theorem SysInv.readDoneUntil_lt {d n s} (hI : SysInv d n s) :
    s.o.readMark.wm.doneUntil < s.o.nextTxnTs := by
  have h1 := hI.rmTracks.le_virt
  have h2 := hI.rmVirt.duLe
  have h3 := hI.rmMax
  omega

/-- **Core of C02 soundness**: a transaction that holds the read mark and passes `hasConflict` read
    nothing that a later committed transaction wrote (the conflict log still has every such writer). -/
theorem SysInv.no_conflict_hist {n s} (hI : SysInv true n s) (x : TxnSt) (hx : x ∈ s.txns)
    (hh : x.holdsRead = true) (hc : s.o.hasConflict x.t = false) :
    ∀ c ∈ s.hist, x.t.readTs < c.ts → ∀ fp ∈ x.t.reads, fp ∉ c.conflictKeys :=
  fun c hc' hlt => (Oracle.hasConflict_eq_false _ _).mp hc _ (hI.cleanup_safe x hx hh c hc' hlt) hlt

/-- The last part of `newCommitTs`: `nextTxnTs` is handed out with write set `ck`, begun on `txnMark`
    and, with conflict detection, logged. -/
def Oracle.alloc (o : Oracle) (ck : List Nat) : Oracle :=
  { o with nextTxnTs := o.nextTxnTs + 1, txnMark := o.txnMark.send (.begin o.nextTxnTs),
           committedTxns := if o.detectConflicts then o.committedTxns ++ [⟨o.nextTxnTs, ck⟩]
                            else o.committedTxns }

/-- `newCommitTs` in normal mode after the conflict check: `doneRead`, `cleanupCommittedTransactions`,
    then the allocation. -/
theorem Oracle.newCommitTs_normal (o : Oracle) (t : Txn) (hm : o.isManaged = false)
    (hc : o.hasConflict t = false) (hdr : t.doneRead = false) {o2 : Oracle}
    (h2 : ({ o with readMark := o.readMark.send (.done t.readTs) } : Oracle).cleanup = some o2)
    (h3 : o2.lastCleanupTs ≤ o2.nextTxnTs) :
    o.newCommitTs t = (o2.alloc t.conflictKeys, { t with doneRead := true }, .ok o2.nextTxnTs) := by
  unfold Oracle.newCommitTs
  rw [if_neg (by simp [hc]), if_pos (by simp [hm])]
  simp only [Oracle.doneRead, hdr, Bool.not_false, if_true, h2]
  rw [if_neg (Nat.not_lt.mpr h3)]
  unfold Oracle.alloc
  split <;> rename_i hd <;> simp [hd]

/-- The oracle after an accepted `Commit` in a reachable state: `Done(readTs)` sent to `readMark`, the
    conflict log pruned, the timestamp allocated. -/
def commitO (d : Bool) (o : Oracle) (t : Txn) : Oracle :=
  (({ o with readMark := o.readMark.send (.done t.readTs) } : Oracle).pruned d).alloc t.conflictKeys

theorem SysInv.alloc {d n s} (hI : SysInv d n s) (tid r : Nat) (reads ck : List Nat)
    (hssi : d = true → ∀ c ∈ s.hist, r < c.ts → ∀ fp ∈ reads, fp ∉ c.conflictKeys) :
    SysInv d n { s with o := s.o.alloc ck,
                        hist := s.hist ++ [⟨s.o.nextTxnTs, r, reads, ck, tid⟩],
                        tmSent := s.tmSent ++ [.begin s.o.nextTxnTs] } := by
  have hdu := hI.readDoneUntil_lt
  have hcl := hI.cleanupLe
  have hnotin : s.o.nextTxnTs ∉ s.hist.map (·.ts) := by
    intro hm
    obtain ⟨h0, hh0, e0⟩ := List.mem_map.mp hm
    have := (hI.histLt h0 hh0).2
    omega
  have hnd : s.o.nextTxnTs ∉ s.doneCommits := fun h => hnotin (hI.doneSub _ h)
  refine { hI with nextGt := ?_, histSorted := ?_, histLt := ?_, committed := ?_, doneSub := ?_,
                   tmTracks := hI.tmTracks.send _, tmOK := ?_, rmMax := ?_, tmCnt := ?_, tmMax := ?_,
                   readTsLt := ?_, waitIdx := ?_, applied := ?_, ssi := ?_ }
  · exact Nat.lt_succ_of_lt hI.nextGt
  · refine List.pairwise_append.mpr ⟨hI.histSorted, by simp, ?_⟩
    intro a ha b hb
    simp at hb; subst hb
    exact (hI.histLt a ha).2
  · exact List.forall_mem_append.mpr ⟨fun h hh => ⟨(hI.histLt h hh).1, Nat.lt_succ_of_lt (hI.histLt h hh).2⟩,
      List.forall_mem_singleton.mpr ⟨hI.nextGt, Nat.lt_succ_self _⟩⟩
  · have hcm := hI.committed
    simp only [Oracle.alloc, hI.detect]
    cases d with
    | false => exact hcm
    | true =>
      simp only [if_true] at hcm ⊢
      rw [hcm, List.filter_append, List.map_append]
      congr 1
      rw [List.filter_cons_of_pos (by simpa using Nat.lt_of_le_of_lt hcl hdu)]
      rfl
  · intro t ht
    simp only [List.map_append, List.mem_append]
    exact .inl (hI.doneSub t ht)
  · exact (marksOK_snoc_begin _ _ _ _).mpr ⟨hI.tmOK, hI.tmMax⟩
  · exact Nat.lt_succ_of_lt hI.rmMax
  · intro t
    have := hI.tmCnt t
    simp only [tmGhost, Ghost.run_snoc_begin, Ghost.proc] at this ⊢
    rw [this]
    simp only [mem_allocatedNotDone, List.map_append, List.mem_append, List.map_cons, List.map_nil,
      List.mem_singleton]
    by_cases hts' : s.o.nextTxnTs = t
    · subst hts'; simp [hnotin, hnd]
    · have hne : ¬ t = s.o.nextTxnTs := fun h => hts' h.symm
      simp [hts', hne]
  · have h := hI.tmMax
    simp only [tmGhost, Ghost.run_snoc_begin, Ghost.proc, Oracle.alloc] at h ⊢
    omega
  · intro y hy
    exact Nat.lt_succ_of_lt (hI.readTsLt y hy)
  · exact fun idx w hw => hI.waitIdx idx w ((List.mem_append.mp hw).resolve_right (by simp))
  · intro y hy hret h hh' hle
    rcases List.mem_append.mp hh' with hh' | hh'
    · exact hI.applied y hy hret h hh' hle
    · simp at hh'; subst hh'; have := hI.readTsLt y hy; simp only at hle; omega
  · intro hd h hh' c hc' hlt1 hlt2 fp hfp
    rcases List.mem_append.mp hh' with hh' | hh' <;> rcases List.mem_append.mp hc' with hc' | hc'
    · exact hI.ssi hd h hh' c hc' hlt1 hlt2 fp hfp
    · simp at hc'; subst hc'
      have := (hI.histLt h hh').2
      simp only at hlt2; omega
    · simp at hh'; subst hh'
      exact hssi hd c hc' hlt1 fp hfp
    · simp at hh' hc'; subst hh' hc'; simp only at hlt2; omega

/-- `Commit` of an active transaction without conflict never asserts, returns `nextTxnTs`, and keeps
    the invariant: the transaction gives up the read mark (`rmDone`), the conflict log is pruned
    (`cleanup`), the timestamp is handed out (`alloc`). -/
theorem SysInv.commit {d n s} (hI : SysInv d n s) (tid : Nat) (x : TxnSt)
    (hx : s.txns[tid]? = some x) (hp : x.phase = .active) (hc : s.o.hasConflict x.t = false) :
    s.o.newCommitTs x.t = (commitO d s.o x.t, { x.t with doneRead := true }, .ok s.o.nextTxnTs) ∧
    SysInv d n { s with o := commitO d s.o x.t,
                        txns := s.txns.set tid (TxnSt.mk { x.t with doneRead := true } .closed (some s.o.nextTxnTs)),
                        hist := s.hist ++ [⟨s.o.nextTxnTs, x.t.readTs, x.t.reads, x.t.conflictKeys, tid⟩],
                        rmSent := s.rmSent ++ [.done x.t.readTs],
                        tmSent := s.tmSent ++ [.begin s.o.nextTxnTs] } := by
  have hxm : x ∈ s.txns := List.mem_of_getElem? hx
  have hdr := hI.doneRead_false x hxm (by rw [hp]; decide)
  have hh : x.holdsRead = true := by simp [TxnSt.holdsRead, hp, hdr]
  have h1 := hI.rmDone tid x ⟨{ x.t with doneRead := true }, .closed, some s.o.nextTxnTs⟩ hx hh rfl rfl rfl
    (.inl hp)
  have h2 := h1.cleanup _ h1.cleanup_eq
  refine ⟨Oracle.newCommitTs_normal _ _ hI.notManaged hc hdr h1.cleanup_eq
    (Nat.le_of_lt (Nat.lt_of_le_of_lt h2.cleanupLe h2.readDoneUntil_lt)), ?_⟩
  refine h2.alloc tid x.t.readTs x.t.reads x.t.conflictKeys ?_
  intro hd
  subst hd
  exact hI.no_conflict_hist x hxm hh hc

theorem SysInv.commitResult_ok {d n s} (hI : SysInv d n s) {tid ts : Nat} {x : TxnSt}
    (hx : s.txns[tid]? = some x) (hp : x.phase = .active) (hok : s.commitResult tid = some (.ok ts)) :
    s.o.hasConflict x.t = false ∧ ts = s.o.nextTxnTs := by
  simp only [Sys.commitResult, hx, Option.some.injEq] at hok
  cases hc : s.o.hasConflict x.t with
  | true => rw [Oracle.newCommitTs_of_conflict hc] at hok; cases hok
  | false => rw [(hI.commit tid x hx hp hc).1] at hok; cases hok; exact ⟨rfl, rfl⟩

/-- `Sys.step` from a state that satisfies `SysInv` (normal mode), read as a relation: one constructor per way
    a label can fire, the case analysis on `doneRead` and on the answer of `newCommitTs` already made. From
    such a state `Commit` without a conflict never asserts and leaves `commitO` (`SysInv.commit`), and
    `cleanup` leaves `pruned` (`SysInv.cleanup_eq`). Guards no invariant depends on (`update`, `hasWrites`,
    `crashed`; for the `read` of a read-only transaction, `readOnly`, also the table lookup and the phase) are
    left out, so it is implied by `Sys.step` (`of_step`), not equivalent to it. -/
inductive Sys.Step (d : Bool) (s : Sys) : Label → Sys → Prop where
  | begin (u : Bool) :
      Step d s (.begin u)
        { s with o := s.o.readTsBegin.1,
                 txns := s.txns ++ [{ t := { readTs := s.o.readTsBegin.2, update := u }, phase := .started }],
                 rmSent := s.rmSent ++ [.begin s.o.readTsBegin.2] }
  | waitFast {tid : Nat} {x : TxnSt} : s.txns[tid]? = some x → x.phase = .started →
      x.t.readTs ≤ s.o.txnMark.doneUntil →
      Step d s (.waitCheck tid) { s with txns := s.txns.set tid { x with phase := .active } }
  | waitPark {tid : Nat} {x : TxnSt} : s.txns[tid]? = some x → x.phase = .started →
      s.o.txnMark.doneUntil < x.t.readTs →
      Step d s (.waitCheck tid)
        { s with o := { s.o with txnMark := s.o.txnMark.send (.wait x.t.readTs tid) },
                 txns := s.txns.set tid { x with phase := .parked },
                 tmSent := s.tmSent ++ [.wait x.t.readTs tid] }
  | procTxnMark {a : AWM} {wk : List Wakeup} : s.o.txnMark.process = some (a, wk) →
      Step d s .procTxnMark
        { s with o := { s.o with txnMark := a }, txns := wakeTxns s.txns wk, crashed := a.wm.failed }
  | procReadMark {a : AWM} {wk : List Wakeup} : s.o.readMark.process = some (a, wk) →
      Step d s .procReadMark { s with o := { s.o with readMark := a }, crashed := a.wm.failed }
  | read {tid : Nat} {x : TxnSt} (fp : Nat) : s.txns[tid]? = some x → x.phase = .active →
      Step d s (.read tid fp)
        { s with txns := s.txns.set tid { x with t := { x.t with reads := x.t.reads ++ [fp] } } }
  | readOnly (tid fp : Nat) : Step d s (.read tid fp) s
  | write {tid : Nat} {x : TxnSt} (fp : Nat) : s.txns[tid]? = some x → x.phase = .active →
      Step d s (.write tid fp)
        { s with txns := s.txns.set tid { x with t := { x.t with
                   conflictKeys := if s.o.detectConflicts ∧ !x.t.conflictKeys.contains fp
                     then x.t.conflictKeys ++ [fp] else x.t.conflictKeys,
                   hasWrites := true } } }
  | commitConflict {tid : Nat} {x : TxnSt} : s.txns[tid]? = some x → x.phase = .active →
      s.o.hasConflict x.t = true →
      Step d s (.commit tid) { s with txns := s.txns.set tid { x with phase := .closing } }
  | commitOk {tid : Nat} {x : TxnSt} : s.txns[tid]? = some x → x.phase = .active →
      s.o.hasConflict x.t = false →
      Step d s (.commit tid)
        { s with o := commitO d s.o x.t,
                 txns := s.txns.set tid (TxnSt.mk { x.t with doneRead := true } .closed (some s.o.nextTxnTs)),
                 hist := s.hist ++ [⟨s.o.nextTxnTs, x.t.readTs, x.t.reads, x.t.conflictKeys, tid⟩],
                 rmSent := s.rmSent ++ [.done x.t.readTs],
                 tmSent := s.tmSent ++ [.begin s.o.nextTxnTs] }
  | discard {tid : Nat} {x : TxnSt} : s.txns[tid]? = some x →
      x.phase = .active ∨ x.phase = .closing → x.t.doneRead = false →
      Step d s (.discard tid)
        { s with o := { s.o with readMark := s.o.readMark.send (.done x.t.readTs) },
                 txns := s.txns.set tid { x with t := { x.t with doneRead := true }, phase := .closed },
                 rmSent := s.rmSent ++ [.done x.t.readTs] }
  | doneCommit {ts : Nat} : ts ∈ s.allocatedNotDone →
      Step d s (.doneCommit ts)
        { s with o := { s.o with txnMark := s.o.txnMark.send (.done ts) },
                 doneCommits := s.doneCommits ++ [ts], tmSent := s.tmSent ++ [.done ts] }
  | cleanup : Step d s .cleanup { s with o := s.o.pruned d }

/-- In normal mode under `SysInv` every successful `Sys.step` is one of the constructors of `Sys.Step`. The cases of the
    proof are the branches of `Sys.step`, numbered in the order of the `match` in its definition; those not listed return
    `none`, or belong to managed mode (last line). -/
theorem Sys.Step.of_step {d : Bool} {n : Nat} {s s' : Sys} {l : Label} (hI : SysInv d n s) :
    s.step l = some s' → s.Step d l s' := by
  have hm := hI.notManaged
  fun_cases Sys.step s l <;> intro h <;> cases h
  case case2 u _ _ => exact .begin u -- `begin`
  case case5 tid _ x hx hph r hr => -- `waitCheck`, fast path
    have hge : x.t.readTs ≤ s.o.txnMark.doneUntil := by
      simp only [r, Oracle.readTsWait] at hr; split at hr; assumption; cases hr
    simp only [r, Oracle.readTsWait, if_pos hge]
    exact .waitFast hx (Decidable.not_not.mp hph) hge
  case case6 tid _ x hx hph r hr => -- `waitCheck`, parking
    have hge : ¬ x.t.readTs ≤ s.o.txnMark.doneUntil := by
      simp only [r, Oracle.readTsWait] at hr; split at hr; exact absurd rfl hr; assumption
    simp only [r, Oracle.readTsWait, if_neg hge]
    exact .waitPark hx (Decidable.not_not.mp hph) (Nat.lt_of_not_ge hge)
  case case9 _ a wk hp => exact .procTxnMark hp -- `procTxnMark`
  case case12 _ a wk hp => exact .procReadMark hp -- `procReadMark`
  case case16 tid fp _ x hx hph _ => exact .read fp hx (Decidable.not_not.mp hph) -- `read`, update transaction
  case case17 tid fp _ _ _ _ _ => exact .readOnly tid fp -- `read`, read-only transaction
  case case21 tid fp _ x hx hg _ => exact .write fp hx (Decidable.not_not.mp fun hph => hg (.inl hph)) -- `write`
  -- `Commit`: a conflict leaves the oracle alone; without one `SysInv.commit` says what `newCommitTs` answers
  case case25 tid _ x hx hg r hr => -- `commit`, answer `conflict`
    have hph : x.phase = .active := Decidable.not_not.mp fun hph => hg (.inl hph)
    cases hc : s.o.hasConflict x.t with
    | true => simp only [r, Oracle.newCommitTs_of_conflict hc]; exact .commitConflict hx hph hc
    | false => simp only [r, (hI.commit tid x hx hph hc).1] at hr; cases hr
  case case26 tid _ x hx hg r hr => -- `commit`, answer `fatal`: impossible
    have hph : x.phase = .active := Decidable.not_not.mp fun hph => hg (.inl hph)
    cases hc : s.o.hasConflict x.t with
    | true => simp only [r, Oracle.newCommitTs_of_conflict hc] at hr; cases hr
    | false => simp only [r, (hI.commit tid x hx hph hc).1] at hr; cases hr
  case case27 tid _ x hx hg r ts hr => -- `commit`, answer `ok ts`
    have hph : x.phase = .active := Decidable.not_not.mp fun hph => hg (.inl hph)
    cases hc : s.o.hasConflict x.t with
    | true => simp only [r, Oracle.newCommitTs_of_conflict hc] at hr; cases hr
    | false => simp only [r, (hI.commit tid x hx hph hc).1] at hr ⊢; cases hr; exact .commitOk hx hph hc
  case case32 tid _ x hx hg _ r => -- `discard`: an open transaction has not called `doneRead`
    have hph : x.phase = .active ∨ x.phase = .closing := Decidable.or_iff_not_not_and_not.mpr hg
    have hdr := hI.doneRead_false x (List.mem_of_getElem? hx) (by rcases hph with h | h <;> rw [h] <;> decide)
    simp only [r, Oracle.doneRead, hdr, Bool.not_false, if_true, Bool.false_eq_true, if_false]
    exact .discard hx hph hdr
  case case35 ts hg => -- `doneCommit`
    rw [Oracle.doneCommit, if_neg (by simp [hm]), if_neg (by simp [hm])]
    exact .doneCommit (by simpa using fun hn => hg (.inr hn))
  case case48 _ o' ho => rw [hI.cleanup_eq] at ho; cases ho; exact .cleanup -- `cleanup`
  case case49 _ ho => rw [hI.cleanup_eq] at ho; cases ho -- `cleanup` asserting: impossible
  case case31 hm' => exact absurd (hm.symm.trans hm') Bool.false_ne_true -- `discard` in managed mode
  -- what is left is managed mode: `beginAt`, `commitAt`, `setDiscardTs`
  all_goals exact absurd (.inr (by simp [hm])) ‹¬(s.crashed = true ∨ (!s.o.isManaged) = true)›

theorem SysInv.step {d : Bool} {n : Nat} {s s' : Sys} {l : Label} (hI : SysInv d n s) (h : s.Step d l s') :
    SysInv d n s' := by
  cases h with
  | begin u => exact hI.begin u
  | @waitFast tid x hx hph hge =>
    have hdr := hI.doneRead_false x (List.mem_of_getElem? hx) (by rw [hph]; decide)
    exact hI.setTxn tid x { x with phase := .active } hx rfl
      (by simp only [TxnSt.holdsRead, hph]; rfl) (by simp [hdr])
      (fun _ => .inr (hI.applied_of_tracks hI.tmTracks hge))
  | @waitPark tid x hx hph =>
    have hdr := hI.doneRead_false x (List.mem_of_getElem? hx) (by rw [hph]; decide)
    have h1 : SysInv d n { s with txns := s.txns.set tid { x with phase := .parked } } :=
      hI.setTxn tid x { x with phase := .parked } hx rfl
        (by simp only [TxnSt.holdsRead, hph]; rfl) (by simp [hdr])
        (fun hr => by rcases hr with h' | h' | h' <;> simp at h')
    exact h1.sendWait tid { x with phase := .parked } (List.getElem?_set_self (lt_of_getElem?_some hx))
  | procTxnMark hp => exact hI.procTxnMark _ _ hp
  | procReadMark hp => exact hI.procReadMark _ _ hp
  | @read tid x fp hx =>
    exact hI.setTxn tid x { x with t := { x.t with reads := x.t.reads ++ [fp] } } hx rfl rfl
      (hI.closedIff x (List.mem_of_getElem? hx)) .inl
  | readOnly => exact hI
  | @write tid x fp hx =>
    exact hI.setTxn tid x _ hx rfl rfl (hI.closedIff x (List.mem_of_getElem? hx)) .inl
  | @commitConflict tid x hx hph =>
    have hdr := hI.doneRead_false x (List.mem_of_getElem? hx) (by rw [hph]; decide)
    exact hI.setTxn tid x { x with phase := .closing } hx rfl
      (by simp only [TxnSt.holdsRead, hph]; rfl) (by simp [hdr])
      (fun _ => .inl (by rw [hph]; exact .inl rfl))
  | @commitOk tid x hx hph hc => exact (hI.commit tid x hx hph hc).2
  | @discard tid x hx hph hdr =>
    have hnc : x.phase ≠ .closed := by rcases hph with h | h <;> rw [h] <;> decide
    exact hI.rmDone tid x _ hx (by simp [TxnSt.holdsRead, hdr, hnc]) rfl rfl rfl
      (hph.elim .inl fun h => .inr (.inl h))
  | doneCommit hts => exact hI.doneCommit _ hts
  | cleanup => exact hI.cleanup _ hI.cleanup_eq

theorem OReach.inv {d : Bool} {n : Nat} {s : Sys} (h : OReach false d n s) : SysInv d n s := by
  induction h with
  | init => exact SysInv.init d n
  | step _ _ hstep ih => exact ih.step (.of_step ih hstep)

theorem OReach.hist_readTs_lt {d : Bool} {n : Nat} {s : Sys} (h : OReach false d n s) :
    ∀ e ∈ s.hist, e.readTs < e.ts := by
  induction h with
  | init => simp [Sys.opened]
  | step _ hr hstep ih =>
    cases Sys.Step.of_step hr.inv hstep with
    | @commitOk tid x hx =>
      exact List.forall_mem_append.mpr
        ⟨ih, List.forall_mem_singleton.mpr (hr.inv.readTsLt x (List.mem_of_getElem? hx))⟩
    | _ => exact ih

theorem Sys.Step.frame {d : Bool} {s s' : Sys} {l : Label} (h : s.Step d l s') (hl : ∀ t, l ≠ .commit t)
    (hl2 : ∀ t, l ≠ .doneCommit t) : s'.hist = s.hist ∧ s'.doneCommits = s.doneCommits := by
  cases h with
  | commitConflict | commitOk => exact absurd rfl (hl _)
  | doneCommit => exact absurd rfl (hl2 _)
  | _ => exact ⟨rfl, rfl⟩

theorem Sys.step_doneCommit {d : Bool} {n : Nat} {s s' : Sys} (hI : SysInv d n s) (ts : Nat)
    (hs : s.step (.doneCommit ts) = some s') :
    s'.hist = s.hist ∧ s'.doneCommits = s.doneCommits ++ [ts] := by
  cases Sys.Step.of_step hI hs; exact ⟨rfl, rfl⟩

theorem Sys.step_commit {d : Bool} {n : Nat} {s s' : Sys} (hI : SysInv d n s) (tid : Nat)
    (hs : s.step (.commit tid) = some s') :
    ∃ x, s.txns[tid]? = some x ∧ s'.doneCommits = s.doneCommits ∧
      ((s.commitResult tid = some .conflict ∧ s'.hist = s.hist) ∨
       (s.commitResult tid = some (.ok s.o.nextTxnTs) ∧
        s'.hist = s.hist ++ [⟨s.o.nextTxnTs, x.t.readTs, x.t.reads, x.t.conflictKeys, tid⟩])) := by
  cases Sys.Step.of_step hI hs with
  | @commitConflict _ x hx _ hc =>
    exact ⟨x, hx, rfl, .inl ⟨by simp [Sys.commitResult, hx, Oracle.newCommitTs_of_conflict hc], rfl⟩⟩
  | @commitOk _ x hx hph hc =>
    exact ⟨x, hx, rfl, .inr ⟨by simp [Sys.commitResult, hx, (hI.commit _ x hx hph hc).1], rfl⟩⟩

def Sys.runLabels (s : Sys) : List Label → Option Sys
  | [] => some s
  | l :: ls => (s.step l).bind (fun s' => s'.runLabels ls)

theorem OReach.ofRun {m d : Bool} {n : Nat} {s s' : Sys} (h : OReach m d n s) (ls : List Label)
    (hr : s.runLabels ls = some s') : OReach m d n s' := by
  induction ls generalizing s with
  | nil => simp [Sys.runLabels] at hr; subst hr; exact h
  | cons l ls ih =>
    simp only [Sys.runLabels] at hr
    cases hs : s.step l with
    | none => rw [hs] at hr; simp at hr
    | some s1 =>
      rw [hs] at hr
      exact ih (OReach.step l h hs) hr

end Badger
