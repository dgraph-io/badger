import BadgerProofs.Lemmas.TableScan
/-!
`Iterator.seekFrom` / `seek` / `seekForPrev` on a table satisfying `TableOK` whose entries are
strictly increasing: the position reached in `G.flatten`, then the comparison with `find?`.
-/
namespace Badger.Tbl
open Badger

variable {env : Env} {t : TableCore} {G : List (List Entry)}

theorem seekHelper_ok (ok : TableOK env t G)
    (hs : Sorted G.flatten) (h8 : ∀ e ∈ G.flatten, 8 ≤ e.key.length)
    (it : TIter) (j : Nat) (g : List Entry) (hg : G[j]? = some g) (key : Bytes) (hkey : 8 ≤ key.length) :
    ∃ r it', it.seekHelper env t (j : Int) key = some it' ∧ it'.reversed = it.reversed ∧
      r ≤ g.length ∧
      (∀ k e, k < r → g[k]? = some e → compareKeys e.key key = .lt) ∧
      (r < g.length → ∃ e, AtPos G it' ((G.take j).flatten.length + r) e ∧
        compareKeys e.key key ≠ .lt) ∧
      (r = g.length → it'.err = some .eof ∧ InBlock G it' j r g) := by
  unfold TIter.seekHelper
  have hgm := List.mem_of_getElem? hg
  obtain ⟨bi0, hinv0, hload⟩ := load_ok ok ({ it with bpos := (j : Int) } : TIter) j g hg rfl
    (fun bi => bi.seek key false)
  rw [hload]
  obtain ⟨r, bi', hseek, hinv', hrn, hlo, hhi, hidx, hin, hout⟩ :=
    blockSeek_ok (ok.wf g hgm) (sorted_of_mem_flatten hs hgm)
      (fun e he => h8 e (List.mem_flatten.mpr ⟨g, hgm, he⟩)) hinv0 key hkey
  simp only [hseek, Option.bind_some]
  refine ⟨r, _, rfl, rfl, hrn, hlo, ?_, fun hr => ⟨hout hr, hg, rfl, hinv', hidx⟩⟩
  intro hr
  obtain ⟨e, he, hk, hv, herr⟩ := hin hr
  exact ⟨e, ⟨j, r, g, ⟨⟨hg, rfl, hinv', hidx⟩, he, hk, hv, herr⟩, rfl⟩, hhi r e (Nat.le_refl _) he⟩

/-- The search of `seekFrom` over the block index, with its probe function verbatim: `idx` is the first
    block whose base key is above `key`. -/
theorem indexSearch_ok (ok : TableOK env t G)
    (hs : Sorted G.flatten) (h8 : ∀ e ∈ G.flatten, 8 ≤ e.key.length) (key : Bytes) (hkey : 8 ≤ key.length) :
    ∃ idx, searchM (fun idx (u : Unit) =>
        match t.file.index.offsets[idx]? with
        | none => none
        | some ko => (compareKeysP ko.key key).bind fun o => some (o == .gt, u)) 0 t.offsetsLength () =
          some (idx, ()) ∧ idx ≤ G.length ∧
      (∀ j g, j < idx → G[j]? = some g → compareKeys key (baseOf g) ≠ .lt) ∧
      (∀ j g, idx ≤ j → G[j]? = some g → compareKeys key (baseOf g) = .lt) := by
  obtain ⟨idx, hsearch, -, hidxn, hlo, hhi⟩ :=
    searchM_list_pure (fun idx (u : Unit) =>
        match t.file.index.offsets[idx]? with
        | none => none
        | some ko => (compareKeysP ko.key key).bind fun o => some (o == .gt, u))
      G (fun g => compareKeys (baseOf g) key == .gt)
      (fun h g hg => by
        obtain ⟨ko, hko, hkk⟩ := ok.keys h g hg
        obtain ⟨e0, _, hb0, hf0⟩ := base_get ok.ne hg
        simp only [hko, hkk, hb0, Option.bind_some,
          compareKeysP_eq (h8 e0 (List.mem_of_getElem? hf0)) hkey])
      (List.Pairwise.imp_of_mem (fun {ga gb} hga hgb h hc => by
        obtain ⟨ea, ra, rfl⟩ := List.exists_cons_of_ne_nil (ok.ne ga hga)
        obtain ⟨eb, rb, rfl⟩ := List.exists_cons_of_ne_nil (ok.ne gb hgb)
        rw [beq_iff_eq, compareKeys_total.gt_iff] at hc ⊢
        exact compareKeys_total.trans hc (h ea List.mem_cons_self eb List.mem_cons_self))
        (List.pairwise_flatten.mp hs).2)
  rw [← ok.nb] at hsearch
  exact ⟨idx, hsearch, hidxn,
    fun j g hj hg => by simpa [compareKeys_total.gt_iff] using hlo j g hj hg,
    fun j g hj hg => (compareKeys_total.gt_iff _ _).mp (beq_iff_eq.mp (hhi j g hj hg))⟩

theorem seekHelper_first (ok : TableOK env t G)
    (hs : Sorted G.flatten) (h8 : ∀ e ∈ G.flatten, 8 ≤ e.key.length)
    (it : TIter) {j : Nat} {g : List Entry} (hg : G[j]? = some g) (key : Bytes) (hkey : 8 ≤ key.length)
    (hgt : compareKeys key (baseOf g) = .lt) :
    ∃ it' e, it.seekHelper env t (j : Int) key = some it' ∧ it'.reversed = it.reversed ∧
      AtPos G it' (G.take j).flatten.length e ∧ compareKeys e.key key ≠ .lt := by
  obtain ⟨r, it', hsh, hrev, _, hlo', hin, _⟩ := seekHelper_ok ok hs h8 it j g hg key hkey
  obtain ⟨e0, he0, hb0, _⟩ := base_get ok.ne hg
  rw [hb0] at hgt
  have hr0 : r = 0 :=
    (Nat.eq_zero_or_pos r).resolve_right fun h => compareKeys_total.lt_asymm hgt (hlo' 0 e0 h he0)
  subst hr0
  obtain ⟨e, hat, hge⟩ := hin (lt_of_getElem?_some he0)
  exact ⟨it', e, hsh, hrev, hat, hge⟩

theorem seekFrom_ok (ok : TableOK env t G)
    (hG : G ≠ [])
    (hs : Sorted G.flatten) (h8 : ∀ e ∈ G.flatten, 8 ≤ e.key.length)
    (it : TIter) (key : Bytes) (hkey : 8 ≤ key.length) :
    ∃ p it', it.seekFrom env t key false = some it' ∧ it'.reversed = it.reversed ∧
      (∀ k e, k < p → G.flatten[k]? = some e → compareKeys e.key key = .lt) ∧
      ((∃ e, AtPos G it' p e ∧ compareKeys e.key key ≠ .lt) ∨
       (p = G.flatten.length ∧ it'.err = some .eof ∧ ∃ g, InBlock G it' (G.length - 1) g.length g)) := by
  unfold TIter.seekFrom
  simp only [Bool.false_eq_true, if_false]
  obtain ⟨idx, hsearch, hidxn, hlo, hbase_gt⟩ := indexSearch_ok ok hs h8 key hkey
  -- `erw`: the model's `match` and the one in `indexSearch_ok` are different auxiliary matchers
  erw [hsearch]
  rw [Option.bind_some, ok.nb]
  simp only
  have hGpos : 0 < G.length := List.length_pos_iff.mpr hG
  by_cases hidx0 : idx = 0
  · -- the smallest key of the table is already above `key`
    subst hidx0
    simp only [if_true]
    obtain ⟨g, hg⟩ := getElem?_some_of_lt G 0 hGpos
    obtain ⟨it', e, hsh, hrev, hat, hge⟩ :=
      seekHelper_first ok hs h8 ({ it with err := none, bpos := 0 } : TIter) hg key hkey
        (hbase_gt 0 g (Nat.le_refl _) hg)
    exact ⟨0, it', hsh, hrev, fun k e hk => absurd hk (Nat.not_lt_zero k), Or.inl ⟨e, hat, hge⟩⟩
  · simp only [hidx0, if_false]
    obtain ⟨g, hg⟩ := getElem?_some_of_lt G (idx - 1) (by omega)
    have hcast : ((idx : Int) - 1) = ((idx - 1 : Nat) : Int) := by omega
    rw [hcast]
    obtain ⟨r, it1, hsh, hrev1, hrn, hlo', hin, hout⟩ :=
      seekHelper_ok ok hs h8 ({ it with err := none, bpos := 0 } : TIter) (idx - 1) g hg key hkey
    rw [hsh, Option.bind_some]
    -- block `idx - 1` starts at or below `key`, so everything before it is below `key`
    have hA : ∀ k e, k < (G.take (idx - 1)).flatten.length + r → G.flatten[k]? = some e →
        compareKeys e.key key = .lt := by
      intro k e hk he
      rcases Nat.lt_or_ge k (G.take (idx - 1)).flatten.length with h | h
      · obtain ⟨e0, _, hb0, hf0⟩ := base_get ok.ne hg
        exact compareKeys_total.lt_of_lt_of_not_lt (hs.lt h he hf0) (hb0 ▸ hlo (idx - 1) g (by omega) hg)
      · obtain ⟨e', he'⟩ := getElem?_some_of_lt g (k - (G.take (idx - 1)).flatten.length) (by omega)
        have := flatten_getElem? G (idx - 1) _ g e' hg he'
        rw [Nat.add_sub_cancel' h, he] at this
        cases this
        exact hlo' _ e (by omega) he'
    have hoff := take_succ_flatten_length G (idx - 1) g hg
    rw [Nat.sub_add_cancel (Nat.pos_of_ne_zero hidx0)] at hoff
    rcases Nat.lt_or_eq_of_le hrn with hr | hre
    · obtain ⟨e, hat, hge⟩ := hin hr
      have herr : ¬ (it1.err = some Err.eof) := by rw [hat.err]; simp
      simp only [herr, if_false]
      exact ⟨_, it1, rfl, hrev1, hA, Or.inl ⟨e, hat, hge⟩⟩
    · -- everything in block `idx - 1` is below `key`
      obtain ⟨herr, hin1⟩ := hout hre
      simp only [herr, if_true]
      by_cases hend : idx = G.length
      · simp only [hend, if_true]
        subst hend hre
        exact ⟨_, it1, rfl, hrev1, hA, Or.inr ⟨by rw [← hoff, List.take_length], herr, g, hin1⟩⟩
      · simp only [hend, if_false]
        obtain ⟨g', hg'⟩ := getElem?_some_of_lt G idx (by omega)
        obtain ⟨it', e', hsh', hrev', hat', hge'⟩ :=
          seekHelper_first ok hs h8 it1 hg' key hkey (hbase_gt idx g' (Nat.le_refl _) hg')
        exact ⟨_, it', hsh', hrev'.trans hrev1, fun k e hk => hA k e (by omega), Or.inl ⟨e', hat', hge'⟩⟩

theorem seekForPrev_ok (ok : TableOK env t G)
    (hG : G ≠ [])
    (hs : Sorted G.flatten) (h8 : ∀ e ∈ G.flatten, 8 ≤ e.key.length)
    (it : TIter) (key : Bytes) (hkey : 8 ≤ key.length) :
    ∃ it', it.seekForPrev env t key = some it' ∧ it'.reversed = it.reversed ∧
      ((∃ q e, AtPos G it' q e ∧ compareKeys key e.key ≠ .lt ∧
          (∀ k e', q < k → G.flatten[k]? = some e' → compareKeys key e'.key = .lt)) ∨
       ((∀ e ∈ G.flatten, compareKeys key e.key = .lt) ∧ it'.err = some .eof)) := by
  unfold TIter.seekForPrev
  obtain ⟨p, it1, hseek, hrev1, hA, hcase⟩ := seekFrom_ok ok hG hs h8 it key hkey
  rw [hseek, Option.bind_some]
  -- not on `key` itself, and everything from `p` on above `key`: `prev` steps to `p - 1`
  have back : ∀ {j r : Nat} {g : List Entry}, InBlock G it1 j r g → r ≤ g.length →
      p = (G.take j).flatten.length + r → it1.key ≠ key →
      (∀ k e', p ≤ k → G.flatten[k]? = some e' → compareKeys key e'.key = .lt) →
      ∃ it', (if it1.key ≠ key then it1.prev env t else some it1) = some it' ∧ it'.reversed = it.reversed ∧
        ((∃ q e, AtPos G it' q e ∧ compareKeys key e.key ≠ .lt ∧
            (∀ k e', q < k → G.flatten[k]? = some e' → compareKeys key e'.key = .lt)) ∨
         ((∀ e ∈ G.flatten, compareKeys key e.key = .lt) ∧ it'.err = some .eof)) := by
    intro j r g hin hr hp hkne hfrom
    obtain ⟨it', hprev, hrev', hc⟩ := prev_cur ok hin hr
    rw [← hp] at hc
    refine ⟨it', by rw [if_pos hkne]; exact hprev, hrev'.trans hrev1, ?_⟩
    rcases hc with ⟨p', e', rfl, hat'⟩ | ⟨rfl, herr'⟩
    · exact Or.inl ⟨p', e', hat', compareKeys_total.lt_asymm (hA p' e' (by omega) hat'.get),
        fun k e'' hk => hfrom k e'' (by omega)⟩
    · refine Or.inr ⟨fun e' he' => ?_, herr'⟩
      obtain ⟨k, hk⟩ := List.getElem?_of_mem he'
      exact hfrom k e' (Nat.zero_le _) hk
  rcases hcase with ⟨e, hat, hge⟩ | ⟨hpe, herr1, g, hin⟩
  · have hfe := hat.get
    have hafter : ∀ k e', p < k → G.flatten[k]? = some e' → compareKeys key e'.key = .lt :=
      fun k e' hk he' => compareKeys_total.lt_of_not_lt_of_lt hge (hs.lt hk hfe he')
    by_cases hkeq : it1.key = key
    · simp only [ne_eq, hkeq, not_true_eq_false, if_false]
      refine ⟨it1, rfl, hrev1, Or.inl ⟨p, e, hat, ?_, hafter⟩⟩
      rw [← hat.key, hkeq]; exact compareKeys_total.lt_irrefl key
    · have hgt : compareKeys key e.key = .lt := by
        cases h : compareKeys e.key key with
        | lt => exact absurd h hge
        | eq => exact absurd ((compareKeys_total.eq_iff _ _).mp h) (by rw [← hat.key]; exact hkeq)
        | gt => exact (compareKeys_total.gt_iff _ _).mp h
      obtain ⟨j, r, g, hat', hp⟩ := hat
      refine back hat'.toInBlock (Nat.le_of_lt (lt_of_getElem?_some hat'.gr)) hp hkeq fun k e' hk he' => ?_
      rcases Nat.lt_or_eq_of_le hk with h | rfl
      · exact hafter k e' h he'
      · rw [hfe] at he'; cases he'; exact hgt
  · have hoff := take_succ_flatten_length G (G.length - 1) g hin.gj
    rw [Nat.sub_add_cancel (List.length_pos_iff.mpr hG), List.take_length] at hoff
    refine back hin (Nat.le_refl _) (by omega) ?_ fun k e' hk he' => ?_
    · -- the key buffer holds a key of the last block, or nothing
      rcases hin.inv.key_of with h | ⟨x, hx, h⟩ <;> rw [show it1.key = it1.bi.key from rfl, h]
      · intro h0; rw [← h0] at hkey; simp at hkey
      · obtain ⟨k, hk⟩ := List.getElem?_of_mem (List.mem_flatten.mpr ⟨g, List.mem_of_getElem? hin.gj, hx⟩)
        exact compareKeys_total.ne_of_lt (hA k x (hpe ▸ lt_of_getElem?_some hk) hk)
    · have := lt_of_getElem?_some he'
      omega

theorem find?_at {α : Type} (P : α → Bool) (es : List α) (p : Nat) (e : α) (he : es[p]? = some e)
    (hP : P e = true) (hlo : ∀ k e', k < p → es[k]? = some e' → P e' = false) :
    es.find? P = some e := by
  obtain ⟨hp, rfl⟩ := List.getElem?_eq_some_iff.mp he
  exact List.find?_eq_some_iff_getElem.mpr ⟨hP, p, hp, rfl, fun j hj => by
    simp [hlo j _ hj (List.getElem?_eq_getElem (Nat.lt_trans hj hp))]⟩

theorem find?_reverse_at {α : Type} (P : α → Bool) (es : List α) (q : Nat) (e : α)
    (he : es[q]? = some e) (hP : P e = true)
    (hhi : ∀ k e', q < k → es[k]? = some e' → P e' = false) :
    es.reverse.find? P = some e := by
  refine List.find?_eq_some_iff_append.mpr ⟨hP, (es.drop (q + 1)).reverse, (es.take q).reverse, ?_,
    fun x hx => ?_⟩
  · conv => lhs; rw [← List.take_append_drop q es, drop_eq_cons_of_get he]
    simp
  · obtain ⟨k, hk⟩ := List.mem_iff_getElem?.mp (List.mem_reverse.mp hx)
    rw [List.getElem?_drop] at hk
    simp [hhi _ x (by omega) hk]

theorem seek_find (ok : TableOK env t G)
    (hG : G ≠ [])
    (hs : Sorted G.flatten) (h8 : ∀ e ∈ G.flatten, 8 ≤ e.key.length)
    (hexp : ∀ e ∈ G.flatten, e.vs.expiresAt < 2 ^ 64)
    (it : TIter) (key : Bytes) (hkey : 8 ≤ key.length) :
    ∃ it', it.seek env t key = some it' ∧ it'.reversed = it.reversed ∧
      it'.entry? = G.flatten.find? (fun e => compareKeys e.key key != .lt) := by
  obtain ⟨p, it', hseek, hrev, hA, hcase⟩ := seekFrom_ok ok hG hs h8 it key hkey
  refine ⟨it', hseek, hrev, ?_⟩
  have hlo : ∀ k e, k < p → G.flatten[k]? = some e →
      (fun e : Entry => compareKeys e.key key != .lt) e = false :=
    fun k e hk he => by simp [hA k e hk he]
  rcases hcase with ⟨e, hat, hge⟩ | ⟨hpe, herr, _⟩
  · rw [find?_at _ G.flatten p e hat.get (by simpa using hge) hlo]
    exact hat.entry? (hexp e (List.mem_of_getElem? hat.get))
  · rw [List.find?_eq_none.mpr fun x hx => by
      obtain ⟨k, hk⟩ := List.mem_iff_getElem?.mp hx
      simp [hlo k x (hpe ▸ lt_of_getElem?_some hk) hk]]
    simp [TIter.entry?, TIter.valid, herr]

theorem seekForPrev_find (ok : TableOK env t G)
    (hG : G ≠ [])
    (hs : Sorted G.flatten) (h8 : ∀ e ∈ G.flatten, 8 ≤ e.key.length)
    (hexp : ∀ e ∈ G.flatten, e.vs.expiresAt < 2 ^ 64)
    (it : TIter) (key : Bytes) (hkey : 8 ≤ key.length) :
    ∃ it', it.seekForPrev env t key = some it' ∧ it'.reversed = it.reversed ∧
      it'.entry? = G.flatten.reverse.find? (fun e => compareKeys e.key key != .gt) := by
  obtain ⟨it', hseek, hrev, hcase⟩ := seekForPrev_ok ok hG hs h8 it key hkey
  refine ⟨it', hseek, hrev, ?_⟩
  rcases hcase with ⟨q, e, hat, hle, hhi⟩ | ⟨hall, herr⟩
  · rw [find?_reverse_at _ G.flatten q e hat.get
      (by simpa [compareKeys_total.gt_iff] using hle)
      (fun k e' hk he' => by simp [(compareKeys_total.gt_iff _ _).mpr (hhi k e' hk he')])]
    exact hat.entry? (hexp e (List.mem_of_getElem? hat.get))
  · rw [List.find?_eq_none.mpr
      (fun x hx => by simp [(compareKeys_total.gt_iff _ _).mpr (hall x (List.mem_reverse.mp hx))])]
    simp [TIter.entry?, TIter.valid, herr]

theorem apiSeek_find (ok : TableOK env t G)
    (hG : G ≠ [])
    (hs : Sorted G.flatten) (h8 : ∀ e ∈ G.flatten, 8 ≤ e.key.length)
    (hexp : ∀ e ∈ G.flatten, e.vs.expiresAt < 2 ^ 64)
    (it : TIter) (key : Bytes) (hkey : 8 ≤ key.length) :
    ∃ it', it.apiSeek env t key = some it' ∧ it'.reversed = it.reversed ∧
      it'.entry? = if it.reversed then G.flatten.reverse.find? (fun e => compareKeys e.key key != .gt)
        else G.flatten.find? (fun e => compareKeys e.key key != .lt) := by
  unfold TIter.apiSeek
  cases hr : it.reversed with
  | false => simpa [hr] using seek_find ok hG hs h8 hexp it key hkey
  | true => simpa [hr] using seekForPrev_find ok hG hs h8 hexp it key hkey

end Badger.Tbl
