import BadgerModel.Skiplist
import BadgerProofs.Lemmas.IterOrder
/-!
# Lemmas for C22: the skiplist as one strictly sorted key chain per level

A position in a chain is a split `pre ++ rest` with `pre` below the key (`PosAt.split`); the scans are
inductions over `rest`.  `findNear` answers `nearSpec` of level 0 from any level (`findNearFrom_spec`;
`findNear_spec` from the head of the top level),
`Put` turns every level below the tower height into `kIns key` of it (`put_spec`); `kIns` keeps a chain
sorted and the levels nested (`kSorted_kIns`, `kIns_sublist`, `sublist_kIns`) and on level 0 it is
`sortedInsert` (`sortedInsert_kIns`).  The chain lemmas are also what the concurrent half uses.
-/
namespace Badger

def KSorted (l : List Bytes) : Prop := l.Pairwise (fun a b => compareKeys a b = .lt)

theorem KSorted.tail {a : Bytes} {l : List Bytes} (h : KSorted (a :: l)) : KSorted l :=
  (List.pairwise_cons.mp h).2
theorem KSorted.head_lt {a : Bytes} {l : List Bytes} (h : KSorted (a :: l)) :
    ∀ x ∈ l, compareKeys a x = .lt := (List.pairwise_cons.mp h).1
theorem KSorted.sublist {l l' : List Bytes} (h : KSorted l) (hs : l'.Sublist l) : KSorted l' :=
  List.Pairwise.sublist hs h

theorem KSorted.append_lt {pre rest : List Bytes} (h : KSorted (pre ++ rest)) :
    ∀ a ∈ pre, ∀ b ∈ rest, compareKeys a b = .lt :=
  (List.pairwise_append.mp h).2.2
theorem KSorted.left {pre rest : List Bytes} (h : KSorted (pre ++ rest)) : KSorted pre :=
  (List.pairwise_append.mp h).1
theorem KSorted.right {pre rest : List Bytes} (h : KSorted (pre ++ rest)) : KSorted rest :=
  (List.pairwise_append.mp h).2.1

theorem ck_ne_of_gt {a b : Bytes} (h : compareKeys a b = .gt) : a ≠ b :=
  fun e => compareKeys_total.ne_of_lt ((compareKeys_total.gt_iff _ _).mp h) e.symm
theorem KSorted.around {lo hi : List Bytes} {key : Bytes} (hs : KSorted (lo ++ key :: hi)) :
    (∀ a ∈ lo, compareKeys key a = .gt) ∧ (∀ b ∈ hi, compareKeys key b = .lt) :=
  ⟨fun a ha => (compareKeys_total.lt_iff _ _).mp (hs.append_lt a ha key List.mem_cons_self), hs.right.head_lt⟩

theorem KSorted.lt_all {a k : Bytes} {l : List Bytes} (h : KSorted (a :: l))
    (hk : compareKeys k a = .lt) : ∀ b ∈ a :: l, compareKeys k b = .lt :=
  List.forall_mem_cons.mpr ⟨hk, fun b hb => compareKeys_total.trans hk (h.head_lt b hb)⟩

/-- the converse of `around`: a key above all of `lo` and below all of `hi` can be linked in between;
    `lo` is below `hi` through the key -/
theorem KSorted.insert {lo hi : List Bytes} {key : Bytes} (hl : KSorted lo) (hh : KSorted hi)
    (hlo : ∀ a ∈ lo, compareKeys key a = .gt) (hhi : ∀ b ∈ hi, compareKeys key b = .lt) :
    KSorted (lo ++ key :: hi) :=
  have hk : KSorted (key :: hi) := List.pairwise_cons.mpr ⟨hhi, hh⟩
  List.pairwise_append.mpr
    ⟨hl, hk, fun a ha => hk.lt_all ((compareKeys_total.gt_iff _ _).mp (hlo a ha))⟩

theorem not_mem_of_cmp {l : List Bytes} {key : Bytes} {o : Ordering}
    (h : ∀ a ∈ l, compareKeys key a = o) (ho : o ≠ .eq := by decide) : key ∉ l :=
  fun hm => ho ((h key hm).symm.trans (compareKeys_total.refl key))

theorem not_mem_append_of_cmp {lo hi : List Bytes} {key : Bytes}
    (hlo : ∀ a ∈ lo, compareKeys key a = .gt) (hhi : ∀ b ∈ hi, compareKeys key b = .lt) :
    key ∉ lo ++ hi :=
  fun hm => (List.mem_append.mp hm).elim (not_mem_of_cmp hlo) (not_mem_of_cmp hhi)

namespace Skiplist

/-- `head` if the list is empty, else the node of its last key -/
def lastOf (pre : List Bytes) : SkRef := lastRef .head pre

@[simp] theorem lastOf_nil : lastOf [] = .head := rfl
@[simp] theorem lastOf_append_singleton (pre : List Bytes) (k : Bytes) :
    lastOf (pre ++ [k]) = .node k := by simp [lastOf, lastRef]

theorem after_sorted {pre rest : List Bytes} {k : Bytes} (h : KSorted (pre ++ k :: rest)) :
    after (.node k) (pre ++ k :: rest) = rest := by
  show ((pre ++ k :: rest).dropWhile (· != k)).tail = rest
  rw [List.dropWhile_append_of_pos fun y hy =>
      bne_iff_ne.mpr (compareKeys_total.ne_of_lt (h.append_lt y hy k List.mem_cons_self)),
    List.dropWhile_cons_of_neg (by simp)]
  rfl

theorem after_lastOf {pre rest : List Bytes} (h : KSorted (pre ++ rest)) :
    after (lastOf pre) (pre ++ rest) = rest := by
  rcases List.eq_nil_or_concat pre with rfl | ⟨pre', k, rfl⟩
  · rfl
  · rw [List.concat_eq_append] at h ⊢
    rw [lastOf_append_singleton]
    simp only [List.append_assoc, List.singleton_append] at h ⊢
    exact after_sorted h

theorem mem_after {x : SkRef} {c : List Bytes} {k : Bytes} (h : k ∈ after x c) : k ∈ c := by
  unfold after at h
  cases x with
  | head => exact h
  | nil => simp at h
  | node a =>
    simp only at h
    exact (List.dropWhile_sublist _).subset (List.mem_of_mem_tail h)

theorem getNext_mem {s : Skiplist} {x : SkRef} {i : Nat} {nk : Bytes}
    (h : s.getNext x i = .node nk) : nk ∈ s.level i := by
  unfold getNext at h
  cases hc : after x (s.level i) with
  | nil => rw [hc] at h; simp [refOfList] at h
  | cons a r =>
    rw [hc] at h
    simp only [refOfList, SkRef.node.injEq] at h
    subst h
    exact mem_after (hc ▸ List.mem_cons_self)

theorem filter_cmp_const {l : List Bytes} {key : Bytes} {o : Ordering} (p : Ordering → Bool)
    (h : ∀ a ∈ l, compareKeys key a = o) :
    l.filter (fun k => p (compareKeys key k)) = if p o then l else [] := by
  rw [List.filter_congr (q := fun _ => p o) (fun a ha => by rw [h a ha])]
  cases p o <;> simp

theorem filter_decomp {lo hi : List Bytes} {key : Bytes} (n : Nat) (p : Ordering → Bool)
    (hlo : ∀ a ∈ lo, compareKeys key a = .gt) (hhi : ∀ b ∈ hi, compareKeys key b = .lt) :
    (lo ++ (List.replicate n key ++ hi)).filter (fun k => p (compareKeys key k)) =
      (if p .gt then lo else []) ++
        ((if p .eq then List.replicate n key else []) ++ if p .lt then hi else []) := by
  rw [List.filter_append, List.filter_append, filter_cmp_const p hlo, filter_cmp_const p hhi,
    filter_cmp_const p (o := .eq) fun a ha =>
      (congrArg (compareKeys key) (List.eq_of_mem_replicate ha)).trans (compareKeys_total.refl key)]

@[simp] theorem refOfOpt_none : refOfOpt none = .nil := rfl
@[simp] theorem refOfOpt_some (k : Bytes) : refOfOpt (some k) = .node k := rfl

theorem refOfOpt_head? (l : List Bytes) : refOfOpt l.head? = refOfList l := by
  cases l <;> rfl

theorem refOfList_reverse (l : List Bytes) : refOfList l.reverse = refOfOpt l.getLast? := by
  rw [← refOfOpt_head?, List.head?_reverse]

theorem isNode_refOfList (l : List Bytes) : isNode (refOfList l) = !l.isEmpty := by
  cases l <;> rfl

theorem refOfOpt_getLast? (pre : List Bytes) (h : pre ≠ []) : refOfOpt pre.getLast? = lastOf pre := by
  unfold lastOf lastRef
  cases hp : pre.getLast? with
  | none => exact absurd (List.getLast?_eq_none_iff.mp hp) h
  | some k => rfl

/-- `lastOf pre`, or `nil` for the head: what `findNear` (base level, `less`) and `findLast`
    return when they stop on `lastOf pre` -/
def lastOrNil (pre : List Bytes) : SkRef := refOfOpt pre.getLast?

theorem ite_last (pre : List Bytes) :
    (if lastOf pre = SkRef.head then (SkRef.nil, false) else (lastOf pre, false)) =
      (refOfOpt pre.getLast?, false) := by
  unfold lastOf lastRef
  cases pre.getLast? <;> simp

theorem lastOrNil_eq (pre : List Bytes) :
    lastOrNil pre = if lastOf pre == .head then .nil else lastOf pre := by
  unfold lastOrNil lastOf lastRef
  cases pre.getLast? <;> simp [refOfOpt]

/-- what `findNear` has to return: node and `found` flag -/
def nearResult (c : List Bytes) (key : Bytes) (less ae : Bool) : SkRef × Bool :=
  (refOfOpt (nearSpec c key less ae), ae && c.contains key)

/-- `c` read as the keys below `key`, `n` copies of `key` (on a sorted chain `n ≤ 1`; nothing here
    depends on it) and the keys above -/
theorem nearResult_decomp {c lo hi : List Bytes} {key : Bytes} {n : Nat}
    (hc : c = lo ++ (List.replicate n key ++ hi))
    (hlo : ∀ a ∈ lo, compareKeys key a = .gt) (hhi : ∀ b ∈ hi, compareKeys key b = .lt)
    (less ae : Bool) :
    nearResult c key less ae =
      (refOfOpt (match less, ae with
        | false, true => (List.replicate n key ++ hi).head?
        | false, false => hi.head?
        | true, true => (lo ++ List.replicate n key).getLast?
        | true, false => lo.getLast?), ae && n != 0) := by
  subst hc
  have F := fun p => filter_decomp n p hlo hhi
  have hcont : (lo ++ (List.replicate n key ++ hi)).contains key = (n != 0) := by
    cases n with
    | zero => exact Bool.eq_false_iff.mpr fun h =>
        not_mem_append_of_cmp hlo hhi (List.contains_iff_mem.mp h)
    | succ n =>
      exact List.contains_iff_mem.mpr (List.mem_append_right _ (List.mem_append_left _ List.mem_cons_self))
  unfold nearResult nearSpec
  rw [hcont]
  cases less <;> cases ae <;> simp only
  · rw [upperBound, ← List.head?_filter, F (· == .lt)]
    rfl
  · rw [lowerBound, ← List.head?_filter, F (· != .gt)]
    rfl
  · rw [lastLT, F (· == .gt)]
    simp
  · rw [lastLE, F (· != .lt)]
    simp

theorem scanNear_base (s : Skiplist) (key : Bytes) (less ae : Bool) (d : SkRef → SkRef × Bool)
    (pre rest : List Bytes) (hc : s.level 0 = pre ++ rest) (hs : KSorted (s.level 0))
    (hpre : ∀ a ∈ pre, compareKeys key a = .gt) :
    scanNear s key less ae 0 d (lastOf pre) rest = nearResult (s.level 0) key less ae := by
  induction rest generalizing pre with
  | nil =>  -- the chain ends: nothing at or above `key`; `less` answers the last node, nil for the head
    rw [nearResult_decomp (n := 0) (hi := []) (by simpa using hc) hpre (by simp)]
    cases less <;> cases ae <;> simp [scanNear, ite_last]
  | cons nk rest' ih =>
    have hs' : KSorted (pre ++ nk :: rest') := hc ▸ hs
    have hrest : ∀ b ∈ rest', compareKeys nk b = .lt := hs'.right.head_lt
    simp only [scanNear]
    cases hcmp : compareKeys key nk with
    | gt =>
      simp only
      have := ih (pre ++ [nk]) (by simp [hc])
        (List.forall_mem_append.mpr ⟨hpre, List.forall_mem_singleton.mpr hcmp⟩)
      rwa [lastOf_append_singleton] at this
    | eq =>  -- `key` itself: `allowEqual` answers it, otherwise `less` the node before it, else the next one
      cases (compareKeys_total.eq_iff _ _).mp hcmp
      have hnext : s.getNext (.node key) 0 = refOfList rest' := by
        unfold getNext; rw [hc, after_sorted hs']
      rw [nearResult_decomp (n := 1) (by simpa using hc) hpre hrest]
      cases less <;> cases ae <;> simp [hnext, refOfOpt_head?, ite_last]
    | lt =>  -- the first key above `key`: `less` answers the node before it, otherwise it is the answer
      rw [nearResult_decomp (n := 0) (by simpa using hc) hpre (hs'.right.lt_all hcmp)]
      cases less <;> cases ae <;> simp [ite_last]

/-- `x` is the head or a node of level `l` with a key below `key` -/
def PosAt (s : Skiplist) (l : Nat) (key : Bytes) (x : SkRef) : Prop :=
  x = .head ∨ ∃ k, x = .node k ∧ k ∈ s.level l ∧ compareKeys key k = .gt

theorem PosAt.mono {s s' : Skiplist} {l l' : Nat} {key : Bytes} {x : SkRef} (h : PosAt s l key x)
    (hm : ∀ k, k ∈ s.level l → k ∈ s'.level l') : PosAt s' l' key x :=
  h.imp id fun ⟨k, h1, h2, h3⟩ => ⟨k, h1, hm k h2, h3⟩

theorem PosAt.split {s : Skiplist} {l : Nat} {key : Bytes} {x : SkRef} (hp : PosAt s l key x)
    (hs : KSorted (s.level l)) :
    ∃ pre rest, s.level l = pre ++ rest ∧ x = lastOf pre ∧ after x (s.level l) = rest ∧
      ∀ a ∈ pre, compareKeys key a = .gt := by
  rcases hp with rfl | ⟨k, rfl, hk, hlt⟩
  · exact ⟨[], s.level l, rfl, rfl, rfl, by simp⟩
  · obtain ⟨lo, hi, hc⟩ := List.append_of_mem hk
    have hs' : KSorted (lo ++ k :: hi) := hc ▸ hs
    refine ⟨lo ++ [k], hi, by simp [hc], by simp, ?_,
      List.forall_mem_append.mpr ⟨fun a h => ?_, List.forall_mem_singleton.mpr hlt⟩⟩
    · rw [hc]
      exact after_sorted hs'
    · exact (compareKeys_total.lt_iff _ _).mp (compareKeys_total.trans ((compareKeys_total.gt_iff _ _).mp (hs'.around.1 a h)) ((compareKeys_total.gt_iff _ _).mp hlt))

/-- upper levels: only membership in level 0 is needed -/
theorem scanNear_upper (s : Skiplist) (key : Bytes) (less ae : Bool) (l : Nat)
    (d : SkRef → SkRef × Bool) (hs : KSorted (s.level 0))
    (hd : ∀ x, PosAt s (l + 1) key x → d x = nearResult (s.level 0) key less ae)
    (hsub : ∀ k ∈ s.level (l + 1), k ∈ s.level 0)
    (x : SkRef) (rest : List Bytes) (hx : PosAt s (l + 1) key x)
    (hrest : ∀ k ∈ rest, k ∈ s.level (l + 1)) :
    scanNear s key less ae (l + 1) d x rest = nearResult (s.level 0) key less ae := by
  induction rest generalizing x with
  | nil => simp [scanNear, hd x hx]
  | cons nk rest' ih =>
    simp only [scanNear]
    cases hcmp : compareKeys key nk with
    | gt =>
      exact ih (.node nk) (.inr ⟨nk, rfl, hrest nk (by simp), hcmp⟩)
        (fun k hk => hrest k (List.mem_cons_of_mem _ hk))
    | lt => simp [hd x hx]
    | eq =>  -- `key` is on this level, so on level 0: answered there as on the base level, or by `descend`
      cases (compareKeys_total.eq_iff _ _).mp hcmp
      obtain ⟨lo, hi, hc⟩ := List.append_of_mem (hsub key (hrest key List.mem_cons_self))
      have hs' : KSorted (lo ++ key :: hi) := hc ▸ hs
      have hnext : s.getNext (.node key) 0 = refOfList hi := by
        unfold getNext; rw [hc, after_sorted hs']
      rw [nearResult_decomp (n := 1) (by simpa using hc) hs'.around.1 hs'.around.2] at hd ⊢
      cases less <;> cases ae <;> simp [hnext, refOfOpt_head?, hd x hx]

structure Inv (s : Skiplist) : Prop where
  height_pos : 1 ≤ s.height
  height_le : s.height ≤ sklMaxHeight
  sorted : ∀ i, KSorted (s.level i)
  sublist : ∀ i, (s.level (i + 1)).Sublist (s.level i)
  above : ∀ i, s.height ≤ i → s.level i = []

theorem mem_level_zero {s : Skiplist} (hsub : ∀ i k, k ∈ s.level (i + 1) → k ∈ s.level i) :
    ∀ i k, k ∈ s.level i → k ∈ s.level 0
  | 0, _, h => h
  | i + 1, k, h => mem_level_zero hsub i k (hsub i k h)

theorem Inv.mem0 {s : Skiplist} (hi : Inv s) {l : Nat} {k : Bytes} (h : k ∈ s.level l) : k ∈ s.level 0 :=
  mem_level_zero (fun i _ h => (hi.sublist i).subset h) l k h

theorem Inv.mem_down {s : Skiplist} (hi : Inv s) {l : Nat} {k : Bytes} (h : k ∈ s.level (l + 1)) :
    k ∈ s.level l := (hi.sublist l).subset h

theorem findNearFrom_spec (s : Skiplist) (hi : Inv s) (key : Bytes) (less ae : Bool) (l : Nat)
    (x : SkRef) (hx : PosAt s l key x) :
    findNearFrom s key less ae l x = nearResult (s.level 0) key less ae := by
  induction l generalizing x with
  | zero =>
    obtain ⟨pre, rest, hc, rfl, hafter, hpre⟩ := hx.split (hi.sorted 0)
    simp only [findNearFrom, hafter]
    exact scanNear_base s key less ae _ pre rest hc (hi.sorted 0) hpre
  | succ l ih =>
    obtain ⟨pre, rest, hc, hxe, hafter, hpre⟩ := hx.split (hi.sorted (l + 1))
    simp only [findNearFrom, hafter]
    apply scanNear_upper s key less ae l _ (hi.sorted 0) _ (fun _ => hi.mem0)
      x rest hx (fun k hk => by rw [hc]; exact List.mem_append_right _ hk)
    exact fun x' hx' => ih x' (hx'.mono fun k => hi.mem_down)

theorem findNear_spec (s : Skiplist) (hi : Inv s) (key : Bytes) (less ae : Bool) :
    s.findNear key less ae = nearResult (s.level 0) key less ae :=
  findNearFrom_spec s hi key less ae _ .head (.inl rfl)

theorem lastRef_after {c : List Bytes} (hs : KSorted c) {n : SkRef}
    (hn : n = .head ∨ ∃ k, n = .node k ∧ k ∈ c) : lastRef n (after n c) = lastOf c := by
  rcases hn with rfl | ⟨k, rfl, hk⟩
  · rfl
  · obtain ⟨lo, hi, rfl⟩ := List.append_of_mem hk
    rw [after_sorted hs]
    unfold lastOf lastRef
    rw [List.getLast?_append, List.getLast?_cons]
    cases hi.getLast? <;> rfl

theorem findLastFrom_spec (s : Skiplist) (hi : Inv s) (l : Nat) (n : SkRef)
    (hn : n = .head ∨ ∃ k, n = .node k ∧ k ∈ s.level l) :
    findLastFrom s l n = refOfOpt (s.level 0).getLast? := by
  induction l generalizing n with
  | zero =>
    simp only [findLastFrom, lastRef_after (hi.sorted 0) hn]
    exact (lastOrNil_eq _).symm
  | succ l ih =>
    simp only [findLastFrom, lastRef_after (hi.sorted (l + 1)) hn]
    apply ih
    unfold lastOf lastRef
    cases h : (s.level (l + 1)).getLast? with
    | none => exact .inl rfl
    | some k => exact .inr ⟨k, rfl, hi.mem_down (List.mem_of_getLast? h)⟩

def kLo (key : Bytes) (c : List Bytes) : List Bytes := c.filter (fun k => compareKeys key k == .gt)
def kHi (key : Bytes) (c : List Bytes) : List Bytes := c.filter (fun k => compareKeys key k == .lt)
/-- the chain with `key` linked in at its sorted position -/
def kIns (key : Bytes) (c : List Bytes) : List Bytes := kLo key c ++ key :: kHi key c

theorem kLoHi_decomp {lo hi : List Bytes} {key : Bytes} (n : Nat)
    (hlo : ∀ a ∈ lo, compareKeys key a = .gt) (hhi : ∀ b ∈ hi, compareKeys key b = .lt) :
    kLo key (lo ++ (List.replicate n key ++ hi)) = lo ∧
      kHi key (lo ++ (List.replicate n key ++ hi)) = hi := by
  rw [kLo, kHi, filter_decomp n (· == .gt) hlo hhi, filter_decomp n (· == .lt) hlo hhi]
  simp

theorem mem_kLo {key a : Bytes} {c : List Bytes} : a ∈ kLo key c ↔ a ∈ c ∧ compareKeys key a = .gt := by
  simp [kLo]
theorem mem_kHi {key a : Bytes} {c : List Bytes} : a ∈ kHi key c ↔ a ∈ c ∧ compareKeys key a = .lt := by
  simp [kHi]

theorem kLo_append_kHi {c : List Bytes} {key : Bytes} (hs : KSorted c) (hk : key ∉ c) :
    kLo key c ++ kHi key c = c := by
  induction c with
  | nil => rfl
  | cons y ys ih =>
    cases hc : compareKeys key y with
    | lt =>
      rw [kLo, kHi, filter_cmp_const (· == .gt) (hs.lt_all hc), filter_cmp_const (· == .lt) (hs.lt_all hc)]
      rfl
    | eq => exact absurd ((compareKeys_total.eq_iff _ _).mp hc ▸ List.mem_cons_self) hk
    | gt =>
      simp only [kLo, kHi, List.filter_cons, hc] at ih ⊢
      exact congrArg (y :: ·) (ih hs.tail fun h => hk (List.mem_cons_of_mem _ h))

theorem kIns_of_mem {c : List Bytes} {key : Bytes} (hs : KSorted c) (hm : key ∈ c) : kIns key c = c := by
  obtain ⟨lo, hi, rfl⟩ := List.append_of_mem hm
  have hd : kLo key (lo ++ key :: hi) = lo ∧ kHi key (lo ++ key :: hi) = hi :=
    kLoHi_decomp 1 hs.around.1 hs.around.2
  rw [kIns, hd.1, hd.2]

theorem kSorted_kIns {c : List Bytes} {key : Bytes} (hs : KSorted c) : KSorted (kIns key c) :=
  .insert (hs.sublist List.filter_sublist) (hs.sublist List.filter_sublist)
    (fun _ ha => (mem_kLo.mp ha).2) (fun _ hb => (mem_kHi.mp hb).2)

theorem kIns_sublist {a b : List Bytes} {key : Bytes} (h : a.Sublist b) :
    (kIns key a).Sublist (kIns key b) := by
  unfold kIns kLo kHi
  exact List.Sublist.append (h.filter _) (List.Sublist.cons_cons _ (h.filter _))

theorem sublist_kIns {c : List Bytes} {key : Bytes} (hs : KSorted c) (hk : key ∉ c) :
    c.Sublist (kIns key c) := by
  have := kLo_append_kHi hs hk
  unfold kIns
  conv => lhs; rw [← this]
  exact List.Sublist.append (List.Sublist.refl _) (List.sublist_cons_self _ _)

theorem insertAfterKey_spec {lo hi : List Bytes} {a key : Bytes} (h : KSorted (lo ++ a :: hi)) :
    insertAfterKey a key (lo ++ a :: hi) = lo ++ a :: key :: hi := by
  induction lo with
  | nil => simp only [List.nil_append, insertAfterKey, beq_self_eq_true, if_true]
  | cons y ys ih =>
    have hy : (y == a) = false :=
      beq_false_of_ne (compareKeys_total.ne_of_lt (h.head_lt a (List.mem_append_right _ List.mem_cons_self)))
    rw [List.cons_append, insertAfterKey, hy, ih h.tail]
    rfl

theorem insertAfter_lastOf {lo hi : List Bytes} {key : Bytes} (h : KSorted (lo ++ hi)) :
    insertAfter (lastOf lo) key (lo ++ hi) = lo ++ key :: hi := by
  rcases List.eq_nil_or_concat lo with rfl | ⟨lo', a, rfl⟩
  · rfl
  · rw [List.concat_eq_append] at h ⊢
    rw [lastOf_append_singleton]
    simp only [List.append_assoc, List.singleton_append] at h ⊢
    exact insertAfterKey_spec h

/-- the splice `(prev[j], next[j])` that `Put` must find on level `j` when `key` is absent -/
def spliceOf (s : Skiplist) (key : Bytes) (j : Nat) : SkRef × SkRef :=
  (lastOf (kLo key (s.level j)), refOfList (kHi key (s.level j)))

theorem spliceScan_spec (key : Bytes) (L pre rest : List Bytes) (hc : L = pre ++ rest)
    (hs : KSorted L) (hpre : ∀ a ∈ pre, compareKeys key a = .gt) :
    spliceScan key (lastOf pre) rest =
      if key ∈ L then (.node key, .node key) else (lastOf (kLo key L), refOfList (kHi key L)) := by
  induction rest generalizing pre with
  | nil =>
    simp only [List.append_nil] at hc
    have hnot : key ∉ L := hc ▸ not_mem_of_cmp hpre
    have hd := kLoHi_decomp (lo := pre) (hi := []) (key := key) 0 hpre (by simp)
    simp only [List.replicate_zero, List.append_nil] at hd
    rw [if_neg hnot, hc, hd.1, hd.2]; rfl
  | cons nk rest' ih =>
    have hs' : KSorted (pre ++ nk :: rest') := hc ▸ hs
    simp only [spliceScan]
    cases hcmp : compareKeys key nk with
    | gt =>
      simp only
      have := ih (pre ++ [nk]) (by simp [hc])
        (List.forall_mem_append.mpr ⟨hpre, List.forall_mem_singleton.mpr hcmp⟩)
      rwa [lastOf_append_singleton] at this
    | eq =>
      have hk : key = nk := (compareKeys_total.eq_iff _ _).mp hcmp
      subst hk
      have : key ∈ L := by rw [hc]; simp
      simp [this]
    | lt =>
      have hhi := hs'.right.lt_all hcmp
      have hnot : key ∉ L := hc ▸ not_mem_append_of_cmp hpre hhi
      have hd := kLoHi_decomp (lo := pre) (hi := nk :: rest') (key := key) 0 hpre hhi
      simp only [List.replicate_zero, List.nil_append] at hd
      rw [if_neg hnot, hc, hd.1, hd.2]; rfl

theorem findSplice_spec (s : Skiplist) (key : Bytes) (l : Nat) (before : SkRef)
    (hs : KSorted (s.level l)) (hp : PosAt s l key before) :
    s.findSpliceForLevel key before l =
      if key ∈ s.level l then (.node key, .node key) else spliceOf s key l := by
  obtain ⟨pre, rest, hc, rfl, hafter, hpre⟩ := hp.split hs
  unfold findSpliceForLevel
  rw [hafter]
  exact spliceScan_spec key _ pre rest hc hs hpre

theorem posAt_lastOf_kLo (s : Skiplist) (key : Bytes) (l : Nat) :
    PosAt s l key (lastOf (kLo key (s.level l))) := by
  unfold lastOf lastRef
  cases h : (kLo key (s.level l)).getLast? with
  | none => exact .inl rfl
  | some k =>
    have := mem_kLo.mp (List.mem_of_getLast? h)
    exact .inr ⟨k, rfl, this.1, this.2⟩

theorem spliceOf_ne (s : Skiplist) (key : Bytes) (l : Nat) :
    ((spliceOf s key l).1 == (spliceOf s key l).2) = false := by
  unfold spliceOf lastOf lastRef
  cases h1 : (kLo key (s.level l)).getLast? with
  | none => cases kHi key (s.level l) <;> simp [refOfList]
  | some a =>
    cases h2 : kHi key (s.level l) with
    | nil => simp [refOfList]
    | cons b bs =>
      have ha := (mem_kLo.mp (List.mem_of_getLast? h1)).2
      have hb := (mem_kHi.mp (h2 ▸ List.mem_cons_self : b ∈ kHi key (s.level l))).2
      have : a ≠ b := fun e => by rw [e, hb] at ha; cases ha
      simpa [refOfList] using this

theorem putDescend_spec (s : Skiplist) (hi : Inv s) (key : Bytes) (n : Nat) (before : SkRef)
    (acc : List (SkRef × SkRef)) (hp : ∀ i, n = i + 1 → PosAt s i key before) :
    match putDescend s key n before acc with
    | .inl k => k = key ∧ key ∈ s.level 0
    | .inr spl => spl = (List.range n).map (spliceOf s key) ++ acc ∧ ∀ j, j < n → key ∉ s.level j := by
  induction n generalizing before acc with
  | zero => simp [putDescend]
  | succ i ih =>
    have hfs := findSplice_spec s key i before (hi.sorted i) (hp i rfl)
    simp only [putDescend]
    by_cases hm : key ∈ s.level i
    · rw [if_pos hm] at hfs
      simp only [hfs, beq_self_eq_true, if_true]
      exact ⟨trivial, hi.mem0 hm⟩
    · rw [if_neg hm] at hfs
      rw [hfs]
      simp only [spliceOf_ne, Bool.false_eq_true, if_false]
      have hp' : ∀ i', i = i' + 1 → PosAt s i' key (spliceOf s key i).1 := by
        rintro i' rfl
        exact (posAt_lastOf_kLo s key (i' + 1)).mono fun k => hi.mem_down
      have := ih (spliceOf s key i).1 (spliceOf s key i :: acc) hp'
      split at this
      · exact this
      · refine ⟨?_, ?_⟩
        · rw [this.1, List.range_succ, List.map_append, List.append_assoc]
          rfl
        · intro j hj
          rcases Nat.lt_succ_iff_lt_or_eq.mp hj with h | h
          · exact this.2 j h
          · subst h; exact hm

theorem level_setLevel (ls : List (List Bytes)) (i j : Nat) (c : List Bytes) :
    (setLevel ls i c).getD j [] = if j = i then c else ls.getD j [] := by
  fun_induction setLevel ls i c generalizing j with
  | case1 | case3 => cases j <;> rfl  -- level 0 is set
  | case2 i c ih =>  -- level i + 1 of no levels
    cases j with
    | zero => rfl
    | succ j =>
      rw [List.getD_cons_succ, ih j]
      simp only [Nat.succ_eq_add_one, Nat.add_right_cancel_iff, List.getD_nil]
  | case4 l ls i c ih =>  -- level i + 1 of l :: ls
    cases j with
    | zero => rfl
    | succ j =>
      rw [List.getD_cons_succ, List.getD_cons_succ, ih j]
      simp only [Nat.succ_eq_add_one, Nat.add_right_cancel_iff]

@[simp] theorem level_setValue (s : Skiplist) (k v : Bytes) (i : Nat) :
    (s.setValue k v).level i = s.level i := rfl

theorem level_insertAt (s : Skiplist) (i j : Nat) (p : SkRef) (key : Bytes) :
    (s.insertAt i p key).level j = if j = i then insertAfter p key (s.level i) else s.level j := by
  unfold insertAt level
  exact level_setLevel _ _ _ _

theorem spliceOf_spec {s : Skiplist} {key : Bytes} {i : Nat} (hs : KSorted (s.level i))
    (hk : key ∉ s.level i) :
    refOfList (after (spliceOf s key i).1 (s.level i)) = (spliceOf s key i).2 ∧
    insertAfter (spliceOf s key i).1 key (s.level i) = kIns key (s.level i) := by
  have hdec := kLo_append_kHi hs hk
  have hs' : KSorted (kLo key (s.level i) ++ kHi key (s.level i)) := hdec.symm ▸ hs
  have h1 := after_lastOf hs'
  have h2 := insertAfter_lastOf (key := key) hs'
  rw [hdec] at h1 h2
  exact ⟨congrArg refOfList h1, h2⟩

/-- the second loop of `Put` links `key` into levels `i … i+n-1`; the CAS never fails -/
theorem linkFrom_spec (s0 : Skiplist) (hi : Inv s0) (key v : Bytes) (spl : List (SkRef × SkRef))
    (hspl : spl = (List.range s0.height).map (spliceOf s0 key)) (hk : ∀ j, key ∉ s0.level j)
    (n i : Nat) (s : Skiplist)
    (hlev : ∀ j, s.level j = if j < i then kIns key (s0.level j) else s0.level j) :
    ∃ s', linkFrom key v s0.height spl n i s = some s' ∧ s'.height = s.height ∧ s'.vals = s.vals ∧
      ∀ j, s'.level j = if j < i + n then kIns key (s0.level j) else s0.level j := by
  induction n generalizing i s with
  | zero => exact ⟨s, rfl, rfl, rfl, hlev⟩
  | succ n ih =>
    have hli : s.level i = s0.level i := by rw [hlev i, if_neg (Nat.lt_irrefl i)]
    have hpn : (if i < s0.height then spl[i]?
        else if i == s0.height then some (SkRef.head, SkRef.nil)
        else if i > 1 then
          (let pn := s.findSpliceForLevel key .head i
           if pn.1 == pn.2 then none else some pn)
        else none) = some (spliceOf s0 key i) := by
      by_cases h1 : i < s0.height
      · rw [if_pos h1, hspl, List.getElem?_map, List.getElem?_range h1]
        rfl
      · have hemp : s0.level i = [] := hi.above i (Nat.le_of_not_lt h1)
        have hsp : spliceOf s0 key i = (.head, .nil) := by
          unfold spliceOf; rw [hemp]; rfl
        rw [if_neg h1, hsp]
        by_cases h2 : i = s0.height
        · rw [if_pos (beq_iff_eq.mpr h2)]
        · have h3 : i > 1 := by have := hi.height_pos; omega
          have : s.findSpliceForLevel key .head i = (.head, .nil) := by
            unfold findSpliceForLevel; rw [hli, hemp]; rfl
          rw [if_neg (fun e => h2 (beq_iff_eq.mp e)), if_pos h3, this]
          rfl
    obtain ⟨hcas, hins⟩ := spliceOf_spec (hi.sorted i) (hk i)
    rw [← hli] at hcas hins
    obtain ⟨s', h1, h2, h3, h4⟩ := ih (i + 1) (s.insertAt i (spliceOf s0 key i).1 key) (by
      intro j
      rw [level_insertAt, hins, hli, hlev j]
      rcases Nat.lt_trichotomy j i with h | rfl | h
      · rw [if_neg (Nat.ne_of_lt h), if_pos h, if_pos (Nat.lt_succ_of_lt h)]
      · rw [if_pos rfl, if_pos (Nat.lt_succ_self _)]
      · rw [if_neg (Nat.ne_of_gt h), if_neg (Nat.lt_asymm h), if_neg (Nat.not_lt.mpr h)])
    refine ⟨s', ?_, h2, h3, fun j => ?_⟩
    · rw [linkFrom, hpn]
      simp only [getNext, hcas, beq_self_eq_true, if_true]
      exact h1
    · rw [h4 j, Nat.add_assoc, Nat.add_comm 1 n]

theorem put_spec (s : Skiplist) (hi : Inv s) (key v : Bytes) (h : Nat) :
    ∃ s', s.put key v h = some s' ∧ s'.vals = (key, v) :: s.vals ∧
      ((key ∈ s.level 0 ∧ s'.height = s.height ∧ ∀ j, s'.level j = s.level j) ∨
       (key ∉ s.level 0 ∧ s'.height = max s.height h ∧
         ∀ j, s'.level j = if j < h then kIns key (s.level j) else s.level j)) := by
  unfold put
  have hd := putDescend_spec s hi key s.height .head [] (fun i _ => .inl rfl)
  split
  · rename_i k heq
    rw [heq] at hd
    obtain ⟨rfl, hm⟩ := hd
    exact ⟨_, rfl, rfl, .inl ⟨hm, rfl, fun _ => rfl⟩⟩
  · rename_i spl heq
    rw [heq] at hd
    obtain ⟨hspl, hnot⟩ := hd
    simp only [List.append_nil] at hspl
    have hk : ∀ j, key ∉ s.level j := fun j hm => hnot 0 hi.height_pos (hi.mem0 hm)
    let s2 : Skiplist :=
      if h > (s.setValue key v).height then { s.setValue key v with height := h } else s.setValue key v
    have hlev2 : ∀ j, s2.level j = s.level j := by
      intro j; simp only [s2]; split <;> rfl
    obtain ⟨s', e1, e2, e3, e4⟩ := linkFrom_spec s hi key v spl hspl hk h 0 s2 (by
      intro j; rw [hlev2 j]; simp)
    refine ⟨s', e1, ?_, .inr ⟨hk 0, ?_, ?_⟩⟩
    · rw [e3]; simp only [s2]; split <;> rfl
    · rw [e2]
      show (if h > s.height then _ else _ : Skiplist).height = max s.height h
      by_cases hh : h > s.height
      · rw [if_pos hh]
        exact (Nat.max_eq_right (Nat.le_of_lt hh)).symm
      · rw [if_neg hh]
        exact (Nat.max_eq_left (Nat.le_of_not_lt hh)).symm
    · intro j; rw [e4 j]; simp

theorem inv_empty : Inv empty where
  height_pos := by simp [empty]
  height_le := by simp [empty, sklMaxHeight]
  sorted := by intro i; simp [empty, level, KSorted]
  sublist := by intro i; simp [empty, level]
  above := by intro i _; simp [empty, level]

/-- `kIns` is `sortedInsert` on the keys -/
theorem sortedInsert_kIns (f : Bytes → Bytes) (key v : Bytes) {c : List Bytes} (hs : KSorted c) :
    sortedInsert key v (c.map fun k => ⟨k, f k⟩) =
      (kLo key c).map (fun k => ⟨k, f k⟩) ++ ⟨key, v⟩ :: (kHi key c).map fun k => ⟨k, f k⟩ := by
  induction c with
  | nil => rfl
  | cons y ys ih =>
    rw [List.map_cons, sortedInsert]
    cases hc : compareKeys key y with
    | lt =>
      rw [kLo, kHi, filter_cmp_const (· == .gt) (hs.lt_all hc), filter_cmp_const (· == .lt) (hs.lt_all hc)]
      rfl
    | eq =>
      cases (compareKeys_total.eq_iff _ _).mp hc
      have hd : kLo key (key :: ys) = [] ∧ kHi key (key :: ys) = ys :=
        kLoHi_decomp (lo := []) 1 (List.forall_mem_nil _) hs.head_lt
      rw [hd.1, hd.2]
      rfl
    | gt =>
      simp only [kLo, kHi, List.filter_cons, hc] at ih ⊢
      rw [ih hs.tail]
      rfl

theorem valueOf_of_vals {s s' : Skiplist} {key v : Bytes} (hv : s'.vals = (key, v) :: s.vals)
    (k : Bytes) : s'.valueOf k = if k = key then v else s.valueOf k := by
  unfold valueOf
  rw [hv]
  show (match k == key with
    | true => some v
    | false => s.vals.lookup k).getD emptyValue = _
  by_cases h : k = key
  · rw [beq_iff_eq.mpr h, if_pos h]
    rfl
  · rw [beq_false_of_ne h, if_neg h]

theorem keys_toList (s : Skiplist) : s.toList.map ItEntry.key = s.level 0 := by
  simp [toList, Function.comp_def]

end Skiplist
end Badger
