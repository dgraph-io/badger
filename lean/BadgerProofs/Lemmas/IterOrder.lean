import BadgerModel.Source
import BadgerProofs.Lemmas.Bytes
/-!
# `TotalCmp`: a strict total order given as a three-way comparison

`cmpBytes`, `compareKeys` and `dcmp` in either direction satisfy it.
-/
namespace Badger

/-- The laws of a strict total order presented as a three-way comparison. -/
structure TotalCmp (cmp : Bytes → Bytes → Ordering) : Prop where
  eq_iff : ∀ a b, cmp a b = .eq ↔ a = b
  swap : ∀ a b, (cmp a b).swap = cmp b a
  trans : ∀ {a b c}, cmp a b = .lt → cmp b c = .lt → cmp a c = .lt

namespace TotalCmp
variable {cmp : Bytes → Bytes → Ordering} (T : TotalCmp cmp)
include T

theorem refl (a : Bytes) : cmp a a = .eq := (T.eq_iff a a).mpr rfl

theorem gt_iff (a b : Bytes) : cmp a b = .gt ↔ cmp b a = .lt := by
  rw [← T.swap a b]; cases cmp a b <;> simp [Ordering.swap]

theorem lt_iff (a b : Bytes) : cmp a b = .lt ↔ cmp b a = .gt := (T.gt_iff b a).symm

theorem lt_irrefl (a : Bytes) : cmp a a ≠ .lt := by rw [T.refl]; simp

theorem lt_asymm {a b : Bytes} (h : cmp a b = .lt) : cmp b a ≠ .lt := by
  rw [← T.swap a b, h]; simp [Ordering.swap]

theorem ne_of_lt {a b : Bytes} (h : cmp a b = .lt) : a ≠ b := by
  intro e; subst e; exact T.lt_irrefl a h

theorem lt_of_lt_of_not_lt {a b c : Bytes} (h1 : cmp a b = .lt) (h2 : cmp c b ≠ .lt) :
    cmp a c = .lt := by
  cases h : cmp b c with
  | lt => exact T.trans h1 h
  | eq => exact (T.eq_iff b c).mp h ▸ h1
  | gt => exact absurd ((T.gt_iff b c).mp h) h2

theorem flip : TotalCmp (fun a b => cmp b a) where
  eq_iff a b := by rw [T.eq_iff]; exact eq_comm
  swap a b := T.swap b a
  trans h1 h2 := T.trans h2 h1

theorem lt_of_not_lt_of_lt {a b c : Bytes} (h1 : cmp b a ≠ .lt) (h2 : cmp b c = .lt) :
    cmp a c = .lt := T.flip.lt_of_lt_of_not_lt h2 h1

end TotalCmp

theorem cmpBytes_total : TotalCmp cmpBytes where
  eq_iff := cmpBytes_eq_iff
  swap := cmpBytes_swap
  trans := cmpBytes_lt_trans

theorem TotalCmp.of_transCmp {cmp : Bytes → Bytes → Ordering} [Std.TransCmp cmp]
    (h : ∀ a b, cmp a b = .eq ↔ a = b) : TotalCmp cmp where
  eq_iff := h
  swap _ _ := Std.OrientedCmp.eq_swap.symm
  trans := Std.TransCmp.lt_trans

local instance (f : Bytes → Bytes) : Std.TransCmp fun a b => cmpBytes (f a) (f b) where
  eq_swap := Std.OrientedCmp.eq_swap (cmp := cmpBytes)
  isLE_trans := Std.TransCmp.isLE_trans (cmp := cmpBytes)

/-- `compareKeys` compares the user keys and, on a tie, the timestamps: core's `compareLex` -/
theorem compareKeys_eq_lex : compareKeys =
    compareLex (fun a b => cmpBytes (a.take (a.length - 8)) (b.take (b.length - 8)))
      fun a b => cmpBytes (a.drop (a.length - 8)) (b.drop (b.length - 8)) := by
  funext a b
  show compareKeys a b = (cmpBytes _ _).then (cmpBytes _ _)
  unfold compareKeys
  cases cmpBytes (a.take (a.length - 8)) (b.take (b.length - 8)) <;> rfl

/-- transitivity is core's for `compareLex`; equality because user key and timestamp make up the key -/
theorem compareKeys_total : TotalCmp compareKeys := by
  rw [compareKeys_eq_lex]
  refine .of_transCmp fun a b => ?_
  rw [compareLex, Ordering.then_eq_eq, cmpBytes_eq_iff, cmpBytes_eq_iff]
  refine ⟨fun h => ?_, fun h => h ▸ ⟨rfl, rfl⟩⟩
  rw [← List.take_append_drop (a.length - 8) a, ← List.take_append_drop (b.length - 8) b, h.1, h.2]

theorem dcmp_true : dcmp true = fun a b => compareKeys b a := by
  funext a b
  simp [dcmp]

theorem dcmp_false : dcmp false = compareKeys := by
  funext a b
  simp [dcmp]

theorem dcmp_true_lt (a k : Bytes) : (dcmp true a k == .lt) = (compareKeys a k == .gt) := by
  simp only [dcmp, if_true]
  rw [← compareKeys_total.swap a k]
  cases compareKeys a k <;> rfl

theorem dcmp_total (rev : Bool) : TotalCmp (dcmp rev) := by
  cases rev
  · rw [dcmp_false]
    exact compareKeys_total
  · rw [dcmp_true]
    exact compareKeys_total.flip

end Badger
