import BadgerModel.Fs
/-!
# The kill view of the file system as a function `Path → Option Inode`

`Fs.file s p` is what a process kill leaves in the file called `p`; each `FsOp` acts on this view as
the pointwise update `kstep`. `sync`, `syncDir` and `zero` are invisible to a kill: `kstep` ignores
them. That `Fs.step` and `kstep` agree is shown through the power-loss view, of which this view is
one component (`Fs.quad_step`, `fvOf_qstep`, `Fs.quad_fv` in `PowerFs`); `rename`, which that view
does not follow, is `Fs.file_rename` here.

The file opens with the lemmas about the model's association lists (`aget`, `aset`, `aerase`): the directory,
the inode table, the MANIFEST's table set and the maps of the logical state are such lists.
-/
namespace Badger

section aget
variable {α β : Type} [DecidableEq α]

theorem aget_filter (k : α) (c : α → Bool) (l : List (α × β)) :
    aget k (l.filter (fun x => c x.1)) = if c k then aget k l else none := by
  induction l with
  | nil => simp [aget]
  | cons x xs ih =>
    obtain ⟨a, b⟩ := x
    by_cases h : a = k
    · subst h; cases hc : c a <;> simp [List.filter, aget, hc, ih]
    · cases hc : c a <;> simp [List.filter, aget, hc, h, ih]

theorem aget_aset (k k' : α) (v : β) (l : List (α × β)) :
    aget k (aset k' v l) = if k' = k then some v else aget k l := by
  unfold aset
  simp only [aget, aget_filter k (· ≠ k')]
  by_cases h : k' = k
  · simp [h]
  · simp [h, Ne.symm h]

theorem aget_aerase (k k' : α) (l : List (α × β)) :
    aget k (aerase k' l) = if k = k' then none else aget k l := by
  unfold aerase
  rw [aget_filter k (· ≠ k')]
  by_cases h : k = k' <;> simp [h]

theorem aget_map_val {γ : Type} (k : α) (g : β → γ) (l : List (α × β)) :
    aget k (l.map (fun x => (x.1, g x.2))) = (aget k l).map g := by
  fun_induction aget k l <;> simp_all [aget]

theorem aget_mem (k : α) (v : β) (l : List (α × β))
    (h : aget k l = some v) : (k, v) ∈ l := by
  fun_induction aget k l <;> simp_all

theorem aget_append (k : α) (a b : List (α × β)) :
    aget k (a ++ b) = (aget k a).or (aget k b) := by
  fun_induction aget k a <;> simp_all [aget]

theorem aget_none_iff (k : α) (l : List (α × β)) :
    aget k l = none ↔ ∀ x ∈ l, x.1 ≠ k := by
  induction l with
  | nil => simp [aget]
  | cons x xs ih =>
    rw [List.forall_mem_cons, ← ih]
    simp only [aget]
    by_cases h : x.1 = k <;> simp [h]

theorem aget_isSome_of_mem (x : α × β) (l : List (α × β)) (h : x ∈ l) :
    (aget x.1 l).isSome := by
  cases hg : aget x.1 l with
  | none => exact absurd rfl ((aget_none_iff x.1 l).mp hg x h)
  | some v => rfl

theorem mem_of_aget_isSome {k : α} {l : List (α × β)} (h : (aget k l).isSome) : ∃ v, (k, v) ∈ l := by
  cases hg : aget k l with
  | none => rw [hg] at h; cases h
  | some v => exact ⟨v, aget_mem _ _ _ hg⟩

theorem mem_aerase (k : α) (l : List (α × β)) (x : α × β) :
    x ∈ aerase k l ↔ x ∈ l ∧ x.1 ≠ k := by
  simp [aerase, List.mem_filter]

theorem aset_of_none (k : α) (v : β) (l : List (α × β)) (h : aget k l = none) :
    aset k v l = (k, v) :: l := by
  unfold aset
  congr 1
  rw [List.filter_eq_self]
  intro x hx
  have := (aget_none_iff k l).mp h x hx
  simpa using this

theorem mem_aset_of_none (k : α) (v : β) (l : List (α × β)) (x : α × β)
    (h : aget k l = none) : x ∈ aset k v l ↔ x = (k, v) ∨ x ∈ l := by
  rw [aset_of_none k v l h]
  exact List.mem_cons

end aget

abbrev KFs := Path → Option Inode

def appendChunk (c : Chunk) (f : Inode) : Inode :=
  { chunks := f.chunks ++ [c], size := if f.size = .alloc then .alloc else .tight }

def truncChunks (n : Nat) (f : Inode) : Inode :=
  { chunks := f.chunks.take n, size := if n = 0 then .zero else .tight }

theorem appendChunk_size_ne_zero (c : Chunk) (f : Inode) : (appendChunk c f).size ≠ .zero := by
  unfold appendChunk; split <;> simp

theorem size_ne_zero_of_map_appendChunk {o : Option Inode} {c : Chunk} {f : Inode}
    (h : o.map (appendChunk c) = some f) : f.size ≠ .zero := by
  obtain ⟨g, _, rfl⟩ := Option.map_eq_some_iff.mp h
  exact appendChunk_size_ne_zero c g

theorem truncChunks_size_ne_zero (n : Nat) (hn : 1 ≤ n) (f : Inode) : (truncChunks n f).size ≠ .zero := by
  unfold truncChunks
  have : n ≠ 0 := by omega
  simp [this]

def kstep (F : KFs) : FsOp → KFs
  | .create p => fun q => if q = p then some {} else F q
  | .extend p => fun q => if q = p then (F p).map (fun f => { f with size := .alloc }) else F q
  | .append p c => fun q => if q = p then (F p).map (appendChunk c) else F q
  | .zero _ => F
  | .truncate p n => fun q => if q = p then (F p).map (truncChunks n) else F q
  | .sync _ => F
  | .rename a b => fun q =>
    match F a with
    | some f => if q = b then some f else if q = a then none else F q
    | none => F q
  | .unlink p => fun q => if q = p then none else F q
  | .syncDir => F

def krun (F : KFs) (ops : List FsOp) : KFs := ops.foldl kstep F

@[simp] theorem krun_nil (F : KFs) : krun F [] = F := rfl
@[simp] theorem krun_cons (F : KFs) (op : FsOp) (ops : List FsOp) :
    krun F (op :: ops) = krun (kstep F op) ops := rfl
theorem krun_append (F : KFs) (a b : List FsOp) : krun F (a ++ b) = krun (krun F a) b := by
  simp [krun, List.foldl_append]

theorem Fs.file_def (s : Fs) (p : Path) :
    s.file p = (aget p s.dir).map (fun i => (aget i s.data).getD {}) := by
  unfold Fs.file; cases aget p s.dir <;> rfl

theorem crashKill_file (s : Fs) (p : Path) : Image.file (crashKill s) p = s.file p := by
  unfold Image.file crashKill
  rw [Fs.file_def]
  have := aget_map_val p (fun i => (aget i s.data).getD ({} : Inode)) s.dir
  exact this

theorem Fs.file_rename (s : Fs) (a b : Path) : (s.step (.rename a b)).file = kstep s.file (.rename a b) := by
  funext q
  dsimp only [Fs.step, kstep]
  cases ha : aget a s.dir with
  | none => simp [Fs.file_def, ha]
  | some i =>
    simp only [Fs.file_def, ha, Option.map_some, aget_aset, aget_aerase]
    by_cases hb : q = b
    · subst hb; simp
    · have : ¬ b = q := fun e => hb e.symm
      simp only [this, hb, if_false]
      by_cases hqa : q = a <;> simp [hqa]

end Badger
