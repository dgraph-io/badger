import BadgerModel.Protocol
import BadgerProofs.Lemmas.CrashFs
import BadgerProofs.Lemmas.Lists
/-!
Lemmas about `recover`: WAL replay keeps exactly the complete transactions (`walChunks` is the shape of a
WAL file the protocol maintains), MANIFEST replay is a fold over the change sets (`ManifestOk`: the file
replays to a given table set), `Open` succeeds on an image described pointwise (`recoverF_ok`, `recover_ok`), and
its next timestamp is one more than the largest version it found (`recover_ok_nextTs`).
-/
namespace Badger

def txnChunks (t : Txn) : List Chunk := t.ents.map (Chunk.walEnt t.ts) ++ [Chunk.walFin t.ts]

def txnsChunks (ts : List Txn) : List Chunk := (ts.map txnChunks).flatten

def TxnsOk (ts : List Txn) : Prop := ∀ t ∈ ts, t.ts ≠ 0 ∧ t.ents ≠ []

/-- the records of a transaction and its end marker, read from inside the transaction (`lc = ts`) or from
    outside with at least one record to come -/
theorem scanWal_txn (ts : Nat) (hts : ts ≠ 0) (es : List CEnt) (lc : Nat) (h : lc = ts ∨ (lc = 0 ∧ es ≠ []))
    (pend : List CEnt) (pos valid : Nat) (acc : List CEnt) (rest : List Chunk) :
    scanWal lc pend pos valid acc (es.map (Chunk.walEnt ts) ++ Chunk.walFin ts :: rest) =
      scanWal 0 [] (pos + es.length + 1) (pos + es.length + 1) (acc ++ (pend ++ es)) rest := by
  induction es generalizing lc pend pos with
  | nil =>
    have : lc = ts := h.resolve_right fun h => h.2 rfl
    simp [scanWal, this]
  | cons e es ih =>
    have : (if lc = 0 then ts else lc) = ts := by
      rcases h with h | h
      · rw [h, if_neg hts]
      · rw [if_pos h.1]
    simp only [List.map, List.cons_append, scanWal, this, ne_eq, not_true_eq_false, if_false]
    rw [ih ts (Or.inl rfl)]
    simp [Nat.add_assoc, Nat.add_comm 1]

theorem scanWal_partial (ts : Nat) (es : List CEnt) (lc : Nat) (pend : List CEnt) (pos valid : Nat)
    (acc : List CEnt) :
    (scanWal lc pend pos valid acc (es.map (Chunk.walEnt ts))).ents = acc := by
  induction es generalizing lc pend pos with
  | nil => rfl
  | cons e es ih =>
    simp only [List.map, scanWal]
    generalize (if lc = 0 then ts else lc) = lc'
    split
    · rfl
    · exact ih _ _ _

/-- the complete transactions are delivered, the records of the one in flight are not -/
theorem scanWal_txns (ts : List Txn) (hok : TxnsOk ts) (pts : Nat) (pend : List CEnt) (pos valid : Nat)
    (acc : List CEnt) :
    (scanWal 0 [] pos valid acc (txnsChunks ts ++ pend.map (Chunk.walEnt pts))).ents = acc ++ txnsEnts ts := by
  induction ts generalizing pos valid acc with
  | nil => simpa [txnsChunks, txnsEnts] using scanWal_partial pts pend 0 [] pos valid acc
  | cons t ts ih =>
    have h1 := hok t List.mem_cons_self
    simp only [txnsChunks, txnChunks, List.map, List.flatten_cons, List.append_assoc, List.cons_append,
      List.nil_append]
    rw [scanWal_txn t.ts h1.1 t.ents 0 (Or.inr ⟨rfl, h1.2⟩), ← txnsChunks,
      ih fun x hx => hok x (List.mem_cons_of_mem _ hx)]
    simp [txnsEnts]

/-- the shape of a WAL file the protocol maintains: header (once written), the complete
    transactions, the records of the transaction in flight -/
def walChunks (hdr : Bool) (ts : List Txn) (pts : Nat) (pend : List CEnt) : List Chunk :=
  if hdr then Chunk.hdr :: (txnsChunks ts ++ pend.map (Chunk.walEnt pts)) else []

theorem replayLog_walChunks (hdr : Bool) (ts : List Txn) (hok : TxnsOk ts) (pts : Nat) (pend : List CEnt)
    (hnh : hdr = false → ts = []) :
    (replayLog (walChunks hdr ts pts pend)).ents = txnsEnts ts := by
  unfold walChunks
  cases hdr with
  | false => simp [replayLog, hnh rfl, txnsEnts]
  | true => simpa [replayLog] using scanWal_txns ts hok pts pend 1 1 []

theorem replayMSets_append (t : List (Nat × Nat)) (a b : List Chunk) :
    replayMSets t (a ++ b) = (replayMSets t a).bind (fun t' => replayMSets t' b) := by
  fun_induction replayMSets t a <;> simp_all [replayMSets]

def ManifestOk (F : KFs) (tset : List (Nat × Nat)) : Prop :=
  ∃ sets sz, F .manifest = some { chunks := Chunk.mhdr :: sets, size := sz } ∧ replayMSets [] sets = some tset

theorem ManifestOk_append (F : KFs) (tset tset' : List (Nat × Nat)) (cs : List MChange)
    (h : ManifestOk F tset) (ha : applyMSet tset cs = some tset') :
    ManifestOk (kstep F (.append .manifest (.mset cs))) tset' := by
  obtain ⟨sets, sz, hf, hr⟩ := h
  refine ⟨sets ++ [.mset cs], (if sz = .alloc then .alloc else .tight), ?_, ?_⟩
  · simp [kstep, hf, appendChunk]
  · rw [replayMSets_append, hr]
    simp [replayMSets, ha]

theorem mem_listFiles (F : KFs) (mk : Nat → Path) (B : Nat) (x : Nat × Inode) :
    x ∈ listFiles F mk B ↔ x.1 < B ∧ F (mk x.1) = some x.2 := by
  unfold listFiles
  simp only [List.mem_filterMap, List.mem_range]
  constructor
  · rintro ⟨n, hn, h⟩
    cases hF : F (mk n) with
    | none => simp [hF] at h
    | some f => simp [hF] at h; subst h; exact ⟨hn, hF⟩
  · rintro ⟨hn, h⟩
    exact ⟨x.1, hn, by simp [h]⟩

/-- a zero-length `.mem` file is re-created and dropped, the others are replayed. A read-only `Open`
    would have to truncate a `.mem` file of the protocol (they are pre-allocated): it gets through
    when there is none -/
theorem openMems_ok (ro : Bool) (l : List (Nat × Inode))
    (hz : ∀ x ∈ l, ro = false ∧ (x.2.size = .zero → x.2.chunks = [])) :
    ∃ imms ops, openMems false ro l = .ok (imms, ops) ∧ (ro = true → ops = []) ∧
      ∀ e, e ∈ (imms.map (·.2)).flatten ↔ ∃ x ∈ l, e ∈ (replayLog x.2.chunks).ents := by
  induction l with
  | nil => exact ⟨[], [], rfl, fun _ => rfl, by simp⟩
  | cons x xs ih =>
    obtain ⟨fid, f⟩ := x
    obtain ⟨imms, ops, he, _, hm⟩ := ih (fun y hy => hz y (List.mem_cons_of_mem _ hy))
    obtain ⟨rfl, hzf⟩ := hz (fid, f) List.mem_cons_self
    by_cases hx : f.size = .zero
    · have hc : f.chunks = [] := hzf hx
      simp only [openMems, hx, if_true, Bool.false_eq_true, or_self, if_false, he]
      refine ⟨_, _, rfl, nofun, fun e => ?_⟩
      rw [hm]
      simp [hc, replayLog]
    · by_cases hE : (replayLog f.chunks).ents.isEmpty
      · simp only [openMems, hx, if_false, Bool.false_eq_true, false_and, he, hE, if_true]
        refine ⟨_, _, rfl, nofun, fun e => ?_⟩
        rw [hm]
        have : (replayLog f.chunks).ents = [] := by simpa using hE
        simp [this]
      · simp only [openMems, hx, if_false, Bool.false_eq_true, false_and, he, hE]
        refine ⟨_, _, rfl, nofun, fun e => ?_⟩
        simp only [List.map, List.flatten_cons, List.mem_append, hm, List.mem_cons, exists_eq_or_imp]

theorem openTables_ok (F : KFs) (cont : Nat → List CEnt) (t : List (Nat × Nat))
    (h : ∀ x ∈ t, ∃ f, F (.sst x.1) = some f ∧ f.chunks = [.table (cont x.1)]) :
    openTables F t = .ok (t.map (fun x => { id := x.1, level := x.2, ents := cont x.1 })) := by
  induction t with
  | nil => rfl
  | cons x xs ih =>
    obtain ⟨id, lvl⟩ := x
    obtain ⟨f, hf, hc⟩ := h (id, lvl) List.mem_cons_self
    simp only [openTables, hf, hc, ih (fun y hy => h y (List.mem_cons_of_mem _ hy)), List.map]

/-- `valueLog.open` fails on a zero-length file in read-only mode only, and in that mode touches nothing -/
theorem openVlogs_ok (ro : Bool) (m : Nat) (l : List (Nat × Inode)) (h : ∀ x ∈ l, x.2.size = .zero → ro = false) :
    ∃ ops, openVlogs false ro m l = .ok ops ∧ (ro = true → ops = []) := by
  induction l with
  | nil => exact ⟨[], rfl, fun _ => rfl⟩
  | cons x xs ih =>
    obtain ⟨fid, f⟩ := x
    obtain ⟨ops, he, hn⟩ := ih (fun y hy => h y (List.mem_cons_of_mem _ hy))
    by_cases hx : f.size = .zero
    · cases h (fid, f) List.mem_cons_self hx
      simp only [openVlogs, hx, if_true, Bool.false_eq_true, or_self, if_false, he]
      exact ⟨_, rfl, nofun⟩
    · simp only [openVlogs, hx, if_false, he]
      refine ⟨_, rfl, fun hro => ?_⟩
      subst hro
      simp [hn rfl]

theorem maxVer_ge (es : List CEnt) (e : CEnt) (h : e ∈ es) : e.ver ≤ maxVer es :=
  (foldl_max_ge (·.ver) es 0).2 e h

/-- `Open` of a directory described pointwise. Read-only, it needs a directory without `.mem` files and
    without zero-length `.vlog` files, and all it does is drop the tables the MANIFEST does not list
    and fsync the directory -/
theorem recoverF_ok (ro : Bool) (F : KFs) (B : Nat) (tset : List (Nat × Nat)) (cont : Nat → List CEnt)
    (hm : ManifestOk F tset)
    (ht : ∀ x ∈ tset, ∃ f, F (.sst x.1) = some f ∧ f.chunks = [.table (cont x.1)])
    (hz : ∀ n f, F (.mem n) = some f → ro = false ∧ (f.size = .zero → f.chunks = []))
    (hv : ∀ n f, F (.vlog n) = some f → f.size = .zero → ro = false) :
    ∃ r, recoverF ro F B = .ok r ∧
      r.tables = tset.map (fun x => { id := x.1, level := x.2, ents := cont x.1 }) ∧
      (∀ e, e ∈ (r.imms.map (·.2)).flatten ↔
        ∃ n f, n < B ∧ F (.mem n) = some f ∧ e ∈ (replayLog f.chunks).ents) ∧
      (ro = true → r.ops = ((listFiles F .sst B).filter (fun x => (aget x.1 tset).isNone)).map
        (fun x => FsOp.unlink (.sst x.1)) ++ [.syncDir]) := by
  obtain ⟨sets, sz, hf, hr⟩ := hm
  obtain ⟨imms, mops, hom, hmn, himm⟩ := openMems_ok ro (listFiles F .mem B)
    fun x hx => hz x.1 x.2 ((mem_listFiles F .mem B x).mp hx).2
  obtain ⟨vops, hov, hvn⟩ := openVlogs_ok ro (lastFid (listFiles F .vlog B)) (listFiles F .vlog B)
    fun x hx => hv x.1 x.2 ((mem_listFiles F .vlog B x).mp hx).2
  have hot := openTables_ok F cont tset ht
  unfold recoverF recoverG
  simp only [hf, replayManifest, hr, hom, hot, hov]
  refine ⟨_, rfl, rfl, fun e => ?_, fun hro => ?_⟩
  · rw [himm]
    constructor
    · rintro ⟨x, hx, he⟩
      have := (mem_listFiles F .mem B x).mp hx
      exact ⟨x.1, x.2, this.1, this.2, he⟩
    · rintro ⟨n, f, hn, hF, he⟩
      exact ⟨(n, f), (mem_listFiles F .mem B (n, f)).mpr ⟨hn, hF⟩, he⟩
  · subst hro
    simp [hmn rfl, hvn rfl]

theorem Image.lt_bound (img : Image) (p : Path) (f : Inode) (h : Image.file img p = some f) :
    p.num < img.bound := by
  have := (foldl_max_ge (fun x : Path × Inode => x.1.num) img 0).2 _ (aget_mem p f img h)
  unfold Image.bound
  rw [List.foldl_map]
  exact Nat.lt_succ_of_le this

/-- the same for `Open` of an image: the bound on the file numbers is met by every file there is -/
theorem recover_ok (ro : Bool) (img : Image) (tset : List (Nat × Nat)) (cont : Nat → List CEnt)
    (hm : ManifestOk img.file tset)
    (ht : ∀ x ∈ tset, ∃ f, img.file (.sst x.1) = some f ∧ f.chunks = [.table (cont x.1)])
    (hz : ∀ n f, img.file (.mem n) = some f → ro = false ∧ (f.size = .zero → f.chunks = []))
    (hv : ∀ n f, img.file (.vlog n) = some f → f.size = .zero → ro = false) :
    ∃ r, recover ro img = .ok r ∧
      (∀ e, e ∈ r.entries ↔ (∃ n f, img.file (.mem n) = some f ∧ e ∈ (replayLog f.chunks).ents) ∨
        e ∈ (tset.map (fun x => cont x.1)).flatten) ∧
      (ro = true → r.ops = ((listFiles img.file .sst img.bound).filter (fun x => (aget x.1 tset).isNone)).map
        (fun x => FsOp.unlink (.sst x.1)) ++ [.syncDir]) := by
  obtain ⟨r, hr, ht', hi, hops⟩ := recoverF_ok ro img.file img.bound tset cont hm ht hz hv
  refine ⟨r, hr, fun e => ?_, hops⟩
  have htab : r.tables.map (·.ents) = tset.map (fun x => cont x.1) := by rw [ht', List.map_map]; rfl
  unfold RState.entries
  rw [List.mem_append, hi, htab]
  constructor
  · rintro (⟨n, f, _, hf, he⟩ | h)
    · exact Or.inl ⟨n, f, hf, he⟩
    · exact Or.inr h
  · rintro (⟨n, f, hf, he⟩ | h)
    · exact Or.inl ⟨n, f, Image.lt_bound img _ f hf, hf, he⟩
    · exact Or.inr h

theorem recover_ok_nextTs {ro : Bool} {img : Image} {r : RState} (h : recover ro img = .ok r) :
    r.nextTxnTs = max (maxVer (r.imms.map (·.2)).flatten) (maxVer (r.tables.map (·.ents)).flatten) + 1 := by
  unfold recover recoverF at h
  revert h
  -- every branch of `recoverG` but the last answers an error
  fun_cases recoverG false ro img.file img.bound <;> intro h <;> cases h
  rfl

end Badger
