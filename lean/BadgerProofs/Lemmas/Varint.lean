import BadgerModel.Varint
import BadgerProofs.Lemmas.Bytes
/-!
Lemmas on the varint model. An encoding is a run of continuation bytes (`≥ 128`) closed by one
final byte (`< 128`); the writers and readers are characterised by one equation per kind of byte.
The slice decoder `uvarint` agrees with the stream reader `readUvarint` wherever that succeeds
(`uvarint_of_read`), so the round trip of the one gives that of the other. `Torn` (the short-read
outcomes, used by all the log files) is defined here.
-/
namespace Badger

theorem putUvarintF_last {k n : Nat} (h : k = 0 ∨ n < 128) : putUvarintF k n = [UInt8.ofNat n] := by
  cases k with
  | zero => rfl
  | succ k => rw [putUvarintF, if_pos (by omega)]

theorem putUvarintF_cont (k : Nat) {n : Nat} (h : ¬ n < 128) :
    putUvarintF (k + 1) n = UInt8.ofNat (n % 128 + 128) :: putUvarintF k (n / 128) := by
  rw [putUvarintF, if_neg h]

theorem putUvarintF_length_pos (k n : Nat) : 0 < (putUvarintF k n).length := by
  cases k with
  | zero => exact Nat.succ_pos _
  | succ k => rw [putUvarintF]; split <;> exact Nat.succ_pos _

theorem putUvarintF_length_le (k : Nat) : ∀ n, (putUvarintF k n).length ≤ k + 1 := by
  induction k with
  | zero => intro n; exact Nat.le_refl _
  | succ k ih =>
    intro n
    by_cases h : n < 128
    · rw [putUvarintF_last (.inr h)]; exact Nat.succ_le_succ (Nat.zero_le _)
    · rw [putUvarintF_cont k h]; exact Nat.succ_le_succ (ih _)

theorem putUvarint_length_pos (n : Nat) : 0 < (putUvarint n).length := putUvarintF_length_pos 9 n
theorem putUvarint_length_le (n : Nat) : (putUvarint n).length ≤ 10 := putUvarintF_length_le 9 n

theorem sizeVarintF_eq (k : Nat) : ∀ n, sizeVarintF k n = (putUvarintF k n).length := by
  induction k with
  | zero => intro n; rfl
  | succ k ih =>
    intro n
    by_cases h : n < 128
    · rw [putUvarintF_last (.inr h), sizeVarintF, if_pos (by omega)]; rfl
    · rw [putUvarintF_cont k h, sizeVarintF, if_neg (by omega), ih, List.length_cons, Nat.add_comm]

theorem readUvarintAux_last (k i x : Nat) {b : UInt8} (bs : Bytes) (hb : b.toNat < 128)
    (h9 : i = 9 → b.toNat ≤ 1) :
    readUvarintAux (k + 1) i x (b :: bs) = .ok (x + b.toNat * 128 ^ i, bs) := by
  rw [readUvarintAux, if_pos hb, if_neg (by omega)]

theorem readUvarintAux_cont (k i x : Nat) {b : UInt8} (bs : Bytes) (hb : ¬ b.toNat < 128) :
    readUvarintAux (k + 1) i x (b :: bs) =
      readUvarintAux k (i + 1) (x + b.toNat % 128 * 128 ^ i) bs := by
  rw [readUvarintAux, if_neg hb]

theorem readUvarintAux_contByte (k i x n : Nat) (bs : Bytes) :
    readUvarintAux (k + 1) i x (UInt8.ofNat (n % 128 + 128) :: bs) =
      readUvarintAux k (i + 1) (x + n % 128 * 128 ^ i) bs := by
  have hb : (UInt8.ofNat (n % 128 + 128)).toNat = n % 128 + 128 := u8_ofNat_toNat _ (by omega)
  rw [readUvarintAux_cont _ i x _ (by rw [hb]; exact Nat.not_lt.mpr (Nat.le_add_left _ _)), hb,
    Nat.add_mod_right, Nat.mod_mod]

private theorem acc_step (x i g v : Nat) :
    x + g * 128 ^ i + v * 128 ^ (i + 1) = x + (g + 128 * v) * 128 ^ i := by
  rw [Nat.add_assoc, Nat.pow_succ, Nat.mul_comm (128 ^ i) 128, ← Nat.mul_assoc, ← Nat.add_mul,
    Nat.mul_comm v 128]

private theorem bound_step (i n : Nat) (hn : n * 128 ^ i < 2 ^ 64) : n / 128 * 128 ^ (i + 1) < 2 ^ 64 := by
  rw [Nat.pow_succ, Nat.mul_comm (128 ^ i) 128, ← Nat.mul_assoc]
  exact Nat.lt_of_le_of_lt (Nat.mul_le_mul_right _ (Nat.div_mul_le_self n 128)) hn

/-- With nine groups below it, a value that keeps the number within 64 bits is at most 1. -/
private theorem top_group_le {n : Nat} (hn : n * 128 ^ 9 < 2 ^ 64) : n ≤ 1 := by
  have : (128 : Nat) ^ 9 = 9223372036854775808 := by decide
  omega

theorem readUvarintAux_put (k : Nat) : ∀ (i x n : Nat) (rest : Bytes), i + k = 9 →
    n * 128 ^ i < 2 ^ 64 →
    readUvarintAux (k + 1) i x (putUvarintF k n ++ rest) = .ok (x + n * 128 ^ i, rest) := by
  induction k with
  | zero =>
    intro i x n rest hi hn
    obtain rfl : i = 9 := hi
    have hn1 := top_group_le hn
    have hb := u8_ofNat_toNat n (Nat.lt_of_le_of_lt hn1 (by decide))
    rw [putUvarintF, List.singleton_append,
      readUvarintAux_last 0 9 x rest (by rw [hb]; exact Nat.lt_of_le_of_lt hn1 (by decide))
        (fun _ => by rwa [hb]), hb]
  | succ k ih =>
    intro i x n rest hi
    have hi9 : i ≠ 9 := by omega
    have hik : i + 1 + k = 9 := by omega
    intro hn
    by_cases hlt : n < 128
    · have hb := u8_ofNat_toNat n (Nat.lt_trans hlt (by decide))
      rw [putUvarintF_last (.inr hlt), List.singleton_append,
        readUvarintAux_last _ i x rest (by rwa [hb]) (fun h => absurd h hi9), hb]
    · rw [putUvarintF_cont k hlt, List.cons_append, readUvarintAux_contByte,
        ih (i + 1) _ (n / 128) rest hik (bound_step i n hn), acc_step, Nat.mod_add_div]

theorem readUvarint_put (n : Nat) (rest : Bytes) (hn : n < 2 ^ 64) :
    readUvarint (putUvarint n ++ rest) = .ok (n, rest) := by
  have := readUvarintAux_put 9 0 0 n rest rfl (by rwa [Nat.pow_zero, Nat.mul_one])
  rwa [Nat.pow_zero, Nat.mul_one, Nat.zero_add] at this

theorem uvarintAux_of_read (buf : Bytes) : ∀ (k i x v : Nat) (rest : Bytes), i + k = 10 →
    readUvarintAux k i x buf = .ok (v, rest) →
    ∃ a, buf = a ++ rest ∧ uvarintAux i x buf = (v, ((i + a.length : Nat) : Int)) := by
  induction buf with
  | nil => intro k i x v rest _ h; cases k <;> cases h
  | cons b bs ih =>
    intro k i x v rest hik h
    cases k with
    | zero => cases h
    | succ k =>
      have hi : i ≠ 10 := by omega
      by_cases hb : b.toNat < 128
      · by_cases h9 : i = 9 ∧ b.toNat > 1
        · rw [readUvarintAux, if_pos hb, if_pos h9] at h; cases h
        · rw [readUvarintAux, if_pos hb, if_neg h9] at h
          obtain ⟨rfl, rfl⟩ := Prod.mk.inj (Except.ok.inj h)
          exact ⟨[b], rfl, by rw [uvarintAux, if_neg hi, if_pos hb, if_neg h9]; rfl⟩
      · rw [readUvarintAux, if_neg hb] at h
        obtain ⟨a, rfl, ha⟩ := ih k (i + 1) _ v rest (by omega) h
        refine ⟨b :: a, rfl, ?_⟩
        rw [uvarintAux, if_neg hi, if_neg hb, ha, List.length_cons, Nat.add_right_comm i 1, Nat.add_assoc]

/-- The two decoders agree wherever the reader succeeds: when `binary.ReadUvarint` returns, having consumed
    `a`, `binary.Uvarint` returns the same value and the count `len(a)`. -/
theorem uvarint_of_read {s r : Bytes} {v : Nat} (h : readUvarint s = .ok (v, r)) :
    ∃ a, s = a ++ r ∧ uvarint s = (v, (a.length : Int)) := by
  obtain ⟨a, ha, hu⟩ := uvarintAux_of_read s 10 0 0 v r rfl h
  exact ⟨a, ha, by rw [uvarint, hu, Nat.zero_add]⟩

theorem uvarint_put (n : Nat) (rest : Bytes) (hn : n < 2 ^ 64) :
    uvarint (putUvarint n ++ rest) = (n, ((putUvarint n).length : Int)) := by
  obtain ⟨a, ha, hu⟩ := uvarint_of_read (readUvarint_put n rest hn)
  rw [hu, List.append_cancel_right ha]

/-- The three "short read" outcomes; `logFile.iterate` stops quietly on each of them. -/
def TornErr (e : RErr) : Prop := e = .eof ∨ e = .unexpectedEof ∨ e = .truncate

def Torn {α : Type} (r : Except RErr α) : Prop := ∃ e, TornErr e ∧ r = .error e

theorem torn_eof {α : Type} : Torn (.error .eof : Except RErr α) := ⟨_, .inl rfl, rfl⟩
theorem torn_unexpectedEof {α : Type} : Torn (.error .unexpectedEof : Except RErr α) :=
  ⟨_, .inr (.inl rfl), rfl⟩
theorem torn_truncate {α : Type} : Torn (.error .truncate : Except RErr α) :=
  ⟨_, .inr (.inr rfl), rfl⟩

/-- A strict prefix of an encoding is a run of continuation bytes: the stream reader consumes it,
    accumulates a value `v ≤ n` (the low `7 j` bits of `n`), and goes on with whatever follows. -/
theorem readUvarintAux_take_append (j : Nat) : ∀ (k i x n : Nat), j < (putUvarintF k n).length →
    ∃ v k', v ≤ n ∧ ∀ rest, readUvarintAux (k + 1) i x ((putUvarintF k n).take j ++ rest) =
      readUvarintAux (k' + 1) (i + j) (x + v * 128 ^ i) rest := by
  induction j with
  | zero => intro k i x n _; exact ⟨0, k, Nat.zero_le _, fun rest => by simp⟩
  | succ j ih =>
    intro k i x n hj
    by_cases hl : k = 0 ∨ n < 128
    · rw [putUvarintF_last hl] at hj; exact absurd hj (by simp)
    · obtain ⟨k, rfl⟩ : ∃ k', k = k' + 1 := ⟨k - 1, by omega⟩
      have hlt : ¬ n < 128 := fun h => hl (.inr h)
      rw [putUvarintF_cont k hlt] at hj ⊢
      obtain ⟨v, k', hv, hr⟩ := ih k (i + 1) (x + n % 128 * 128 ^ i) (n / 128) (Nat.lt_of_succ_lt_succ hj)
      refine ⟨n % 128 + 128 * v, k', by omega, fun rest => ?_⟩
      rw [List.take_succ_cons, List.cons_append, readUvarintAux_contByte, hr, acc_step, Nat.add_assoc i,
        Nat.add_comm 1]

theorem readUvarintAux_nil_torn (k i x : Nat) : Torn (readUvarintAux (k + 1) i x []) := by
  rw [readUvarintAux]
  split
  · exact torn_unexpectedEof
  · exact torn_eof

theorem readUvarint_take (n j : Nat) (hj : j < (putUvarint n).length) :
    Torn (readUvarint ((putUvarint n).take j)) := by
  obtain ⟨v, k', _, hr⟩ := readUvarintAux_take_append j 9 0 0 n hj
  have := hr []
  rw [List.append_nil] at this
  rw [readUvarint, putUvarint, this]
  exact readUvarintAux_nil_torn ..

theorem readUvarint_take_zero (n j : Nat) (rest : Bytes) (hj : j < (putUvarint n).length) :
    ∃ v, v ≤ n ∧ readUvarint ((putUvarint n).take j ++ 0 :: rest) = .ok (v, rest) := by
  obtain ⟨v, k', hv, hr⟩ := readUvarintAux_take_append j 9 0 0 n hj
  refine ⟨v, hv, ?_⟩
  rw [readUvarint, putUvarint, hr, readUvarintAux_last _ _ _ rest (by decide) (fun _ => by decide)]
  simp

end Badger
