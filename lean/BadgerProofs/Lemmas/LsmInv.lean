import BadgerModel.Spec.Mvcc
import BadgerProofs.Lemmas.Sorted
/-!
# The structural invariants `LsmInv` and `LsmInvW` of the LSM model; under the weaker one every source of `Lsm.get` answers with its `newestLE` (`get_results`; Props/C01 folds them)

Helper lemmas live in `namespace Badger.LL`. The `Prop`-valued `klt`/`kvlt`/`elt` are what
`cmpBytes`/`kvCmp`/`entCmp` `= .lt` say; they are easier to case on than `Ordering` equations.
`kvlt`/`elt` are declared once, under `SO` (the namespace that Lemmas/StreamOrd.lean continues), and exported into `LL`;
`klt` is declared in both namespaces with the same body. So `LL.kvlt` unfolds to `SO.klt … ∨ …`, and the hypothesis
that casing on it gives is an `LL.klt` only up to unfolding: `exact` with an `LL.klt_*` lemma works, `rw`/`simp` with one
does not fire.
`LsmInv` has the tables of a level `≥ 1` disjoint by USER key (`KeyDisjoint`). `get_results` needs only `LsmInvW`
(`lsmInv_weaken`): the levels `≥ 1` sorted by INTERNAL key, which is what a compaction leaves without the cut
condition (`compact_invW` in Lemmas/LsmCompact.lean).
The read goes source by source (`srcGet`, `l0Get`, `liGet` are `newestLE` of their source), the sources are
`chunks s = s.mem :: lowerChunks s` ending in `lchunks s.levels` with `lvlChunk i` for level `i`, and `InLevel s i e`
says that `e` is stored on level `i`: in the `i`-th of the `lchunks` (`inLevel_iff`), hence in `s.allEntries`
(`mem_allEntries`, `mem_allEntries_of_level`). At the end `Layered`, and what `flush` does to the state. The model's `zipIdx` is the library's
`List.zipIdx` with the pairs turned round (`zipIdx_eq`).
-/
namespace Badger
namespace SO

def klt (a b : Bytes) : Prop := cmpBytes a b = .lt

/-- `(k1,v1)` strictly before `(k2,v2)` in the internal-key order -/
def kvlt (k1 : Bytes) (v1 : Nat) (k2 : Bytes) (v2 : Nat) : Prop := klt k1 k2 ∨ (k1 = k2 ∧ v2 < v1)

def elt (a b : Ent) : Prop := kvlt a.key a.ver b.key b.ver

end SO
namespace LL

def klt (a b : Bytes) : Prop := cmpBytes a b = .lt

export SO (kvlt elt)

theorem klt_trans {a b c : Bytes} (h1 : klt a b) (h2 : klt b c) : klt a c := cmpBytes_lt_trans h1 h2

theorem klt_irrefl (a : Bytes) : ¬ klt a a := cmpBytes_lt_irrefl a

theorem klt_asymm {a b : Bytes} (h : klt a b) : ¬ klt b a := cmpBytes_lt_asymm h

theorem klt_ne {a b : Bytes} (h : klt a b) : a ≠ b := cmpBytes_lt_ne h

theorem klt_tri (a b : Bytes) : klt a b ∨ a = b ∨ klt b a := by
  cases h : cmpBytes a b with
  | lt => exact .inl h
  | eq => exact .inr (.inl ((cmpBytes_eq_iff a b).mp h))
  | gt => exact .inr (.inr ((cmpBytes_gt_iff_lt a b).mp h))

theorem kvlt_trans {k1 k2 k3 : Bytes} {v1 v2 v3 : Nat} (h1 : kvlt k1 v1 k2 v2) (h2 : kvlt k2 v2 k3 v3) :
    kvlt k1 v1 k3 v3 :=
  (kvCmp_lt_iff ..).mp (kvCmp_lt_trans ((kvCmp_lt_iff ..).mpr h1) ((kvCmp_lt_iff ..).mpr h2))

theorem kvlt_irrefl (k : Bytes) (v : Nat) : ¬ kvlt k v k v := by
  rintro (h | ⟨_, h⟩)
  · exact klt_irrefl k h
  · omega

theorem kvlt_tri (k1 : Bytes) (v1 : Nat) (k2 : Bytes) (v2 : Nat) :
    kvlt k1 v1 k2 v2 ∨ (k1 = k2 ∧ v1 = v2) ∨ kvlt k2 v2 k1 v1 := by
  cases h : kvCmp k1 v1 k2 v2 with
  | lt => exact .inl ((kvCmp_lt_iff ..).mp h)
  | eq => exact .inr (.inl ((kvCmp_eq_iff ..).mp h))
  | gt => exact .inr (.inr ((kvCmp_lt_iff ..).mp ((kvCmp_gt_iff_lt ..).mp h)))

theorem entCmp_lt_iff_elt (a b : Ent) : entCmp a b = .lt ↔ elt a b := entCmp_lt_iff a b

theorem entCmp_gt_iff_elt (a b : Ent) : entCmp a b = .gt ↔ elt b a :=
  (entCmp_gt_iff_lt a b).trans (entCmp_lt_iff_elt b a)

theorem elt_trans {a b c : Ent} (h1 : elt a b) (h2 : elt b c) : elt a c := kvlt_trans h1 h2
theorem elt_irrefl (a : Ent) : ¬ elt a a := kvlt_irrefl _ _
theorem elt_asymm {a b : Ent} (h : elt a b) : ¬ elt b a := fun h' => elt_irrefl a (elt_trans h h')

def kle (a b : Bytes) : Prop := ¬ klt b a

theorem kle_refl (a : Bytes) : kle a a := klt_irrefl a
theorem kle_of_klt {a b : Bytes} (h : klt a b) : kle a b := klt_asymm h
theorem kle_iff_ne_gt {a b : Bytes} : kle a b ↔ cmpBytes a b ≠ .gt := not_congr (cmpBytes_gt_iff_lt a b).symm
theorem kle_trans {a b c : Bytes} (h1 : kle a b) (h2 : kle b c) : kle a c :=
  kle_iff_ne_gt.mpr (cmpBytes_le_trans (kle_iff_ne_gt.mp h1) (kle_iff_ne_gt.mp h2))
theorem kle_antisymm {a b : Bytes} (h1 : kle a b) (h2 : kle b a) : a = b :=
  cmpBytes_antisymm (kle_iff_ne_gt.mp h1) (kle_iff_ne_gt.mp h2)
theorem klt_of_klt_of_kle {a b c : Bytes} (h1 : klt a b) (h2 : kle b c) : klt a c :=
  cmpBytes_lt_of_lt_of_le h1 (kle_iff_ne_gt.mp h2)
theorem klt_of_kle_of_klt {a b c : Bytes} (h1 : kle a b) (h2 : klt b c) : klt a c :=
  cmpBytes_lt_of_le_of_lt (kle_iff_ne_gt.mp h1) h2
theorem elt_kle {a b : Ent} (h : elt a b) : kle a.key b.key := by
  rcases h with h | ⟨h, _⟩
  · exact kle_of_klt h
  · rw [h]; exact kle_refl _
theorem elt_of_klt {a b : Ent} (h : klt a.key b.key) : elt a b := .inl h

/- `Badger.pick`, `Badger.cand` and their algebra (`Lemmas/Sorted.lean`) are used under `LL.` names too -/
export Badger (pick cand pick_none_left pick_none_right pick_assoc pick_eq_none pick_some pick_some_left pick_comm_of_ne
  newestLE_cons newestLE_append newestLE_some)

@[simp] theorem newestLE_nil (k : Bytes) (ts : Nat) : newestLE [] k ts = none := rfl

theorem newestLE_flatten_foldl (ls : List (List Ent)) (k : Bytes) (ts : Nat) (init : Option Ent) :
    ls.foldl (fun b l => pick b (newestLE l k ts)) init = pick init (newestLE ls.flatten k ts) := by
  induction ls generalizing init with
  | nil => simp
  | cons l ls ih => simp only [List.foldl_cons, List.flatten_cons, newestLE_append, ih, pick_assoc]

theorem sorted_iff (es : List Ent) : SortedEnts es ↔ es.Pairwise elt := by
  simp only [SortedEnts, entCmp_lt_iff_elt]

theorem sorted_cons {x : Ent} {xs : List Ent} :
    SortedEnts (x :: xs) ↔ (∀ y ∈ xs, elt x y) ∧ SortedEnts xs := by
  simp only [sorted_iff, List.pairwise_cons]

theorem sorted_append {a b : List Ent} :
    SortedEnts (a ++ b) ↔ SortedEnts a ∧ SortedEnts b ∧ ∀ x ∈ a, ∀ y ∈ b, elt x y := by
  simp only [sorted_iff, List.pairwise_append]

/-- Seek + SameKey on a sorted source is the newest version `≤ ts`: both are the first entry of
    key `k` with version `≤ ts`. -/
theorem srcGet_eq_newestLE {es : List Ent} (hs : SortedEnts es) (k : Bytes) (ts : Nat) :
    srcGet es k ts = newestLE es k ts := by
  rw [newestLE_sorted_eq_find? hs]
  induction es with
  | nil => rfl
  | cons x xs ih =>
    obtain ⟨h1, h2⟩ := sorted_cons.mp hs
    rw [List.find?_cons]
    by_cases hx : kvlt x.key x.ver k ts
    · have hc : ¬ (x.key = k ∧ x.ver ≤ ts) := by
        rintro ⟨rfl, hv⟩
        rcases hx with hx | ⟨_, hx⟩
        · exact klt_irrefl _ hx
        · omega
      rw [decide_eq_false hc, ← ih h2, srcGet_cons, if_pos ((kvCmp_lt_iff ..).mpr hx)]
    · rw [srcGet_cons, if_neg (mt (kvCmp_lt_iff ..).mp hx)]
      by_cases hk : x.key = k
      · have hv : x.ver ≤ ts := Nat.le_of_not_lt fun hlt => hx (.inr ⟨hk, hlt⟩)
        rw [if_pos hk, decide_eq_true ⟨hk, hv⟩]
      · -- `k` lies strictly below `x.key`, hence below every later key
        have hkx : klt k x.key := by
          rcases klt_tri x.key k with h | h | h
          · exact absurd (.inl h) hx
          · exact absurd h hk
          · exact h
        have hn : xs.find? (fun e => decide (e.key = k ∧ e.ver ≤ ts)) = none := by
          rw [List.find?_eq_none]
          intro y hy
          rw [decide_eq_true_eq]
          rintro ⟨rfl, _⟩
          rcases h1 y hy with h | ⟨h, _⟩
          · exact klt_irrefl _ (klt_trans hkx h)
          · exact klt_irrefl _ (h ▸ hkx)
        rw [hn, decide_eq_false (fun h => hk h.1), if_neg hk]

theorem _root_.Badger.zipIdx_eq {α : Type} (l : List α) : zipIdx l = l.zipIdx.map (fun p => (p.2, p.1)) := by
  rw [zipIdx, List.zipIdx_eq_zip_range', List.range_eq_range', List.zip_eq_zipWith, List.zip_eq_zipWith,
    List.map_zipWith, List.zipWith_comm]

theorem _root_.Badger.zipIdx_map {α β : Type} (f : α → β) (l : List α) :
    zipIdx (l.map f) = (zipIdx l).map (fun p => (p.1, f p.2)) := by
  rw [zipIdx_eq, zipIdx_eq, List.zipIdx_map, List.map_map, List.map_map]
  rfl

theorem zipIdx_map_snd {α : Type} (l : List α) : (zipIdx l).map (·.2) = l := by
  rw [zipIdx_eq, List.map_map]
  exact List.zipIdx_map_fst 0 l

theorem getElem?_zipIdx {α : Type} (l : List α) (i : Nat) : (zipIdx l)[i]? = l[i]?.map (fun a => (i, a)) := by
  rw [zipIdx_eq, List.getElem?_map, List.getElem?_zipIdx]
  cases l[i]? <;> simp

theorem mem_zipIdx {α : Type} (l : List α) (i : Nat) (t : α) : (i, t) ∈ zipIdx l ↔ l[i]? = some t := by
  simp only [zipIdx_eq, List.mem_map, List.mem_zipIdx_iff_getElem?, Prod.exists, Prod.mk.injEq]
  exact ⟨fun ⟨a, j, h, e1, e2⟩ => e1 ▸ e2 ▸ h, fun h => ⟨t, i, h, rfl, rfl⟩⟩

theorem find_zipIdx {α : Type} (q : Nat × α → Bool) (l : List α) (i : Nat) (t : α)
    (h : (zipIdx l).find? q = some (i, t)) :
    l[i]? = some t ∧ ∀ j u, j < i → l[j]? = some u → q (j, u) = false := by
  obtain ⟨_, as, bs, heq, has⟩ := List.find?_eq_some_iff_append.mp h
  have hi : (zipIdx l)[as.length]? = some (i, t) := by rw [heq]; simp
  rw [getElem?_zipIdx] at hi
  obtain ⟨a, ht, hia⟩ := Option.map_eq_some_iff.mp hi
  cases hia
  refine ⟨ht, fun j u hj hu => ?_⟩
  have : as[j]? = some (j, u) := by
    rw [← List.getElem?_append_left hj (l₂ := (as.length, t) :: bs), ← heq, getElem?_zipIdx, hu]
    rfl
  simpa using has _ (List.mem_of_getElem? this)

end LL

def TblOk (t : Tbl) : Prop := t.ents ≠ [] ∧ SortedEnts t.ents

/-- tables ordered and disjoint by USER key: every user key of an earlier table is strictly
    below every user key of a later table (property C14). -/
def KeyDisjoint (tbls : List Tbl) : Prop :=
  tbls.Pairwise (fun a b => ∀ x ∈ a.ents, ∀ y ∈ b.ents, cmpBytes x.key y.key = .lt)

def LevelOk (i : Nat) (tbls : List Tbl) : Prop :=
  (∀ t ∈ tbls, TblOk t) ∧ (1 ≤ i → KeyDisjoint tbls)

/-- versions are commit timestamps `≥ 1` -/
def PosVer (s : Lsm) : Prop := ∀ e ∈ s.allEntries, 0 < e.ver

def LsmInv (s : Lsm) : Prop :=
  SortedEnts s.mem ∧ (∀ m ∈ s.imm, SortedEnts m) ∧
  (∀ p ∈ zipIdx s.levels, LevelOk p.1 p.2) ∧ PosVer s

/-- the weaker shape that `get` needs: the concatenation of a level `≥ 1` is sorted by internal key
    (a user key may straddle a table boundary). -/
def LevelOkW (i : Nat) (tbls : List Tbl) : Prop :=
  (∀ t ∈ tbls, SortedEnts t.ents) ∧ (1 ≤ i → SortedEnts (tbls.map (·.ents)).flatten)

def LsmInvW (s : Lsm) : Prop :=
  SortedEnts s.mem ∧ (∀ m ∈ s.imm, SortedEnts m) ∧
  (∀ p ∈ zipIdx s.levels, LevelOkW p.1 p.2) ∧ PosVer s

instance (s : Lsm) : Decidable (PosVer s) := by unfold PosVer; infer_instance
instance (t : Tbl) : Decidable (TblOk t) := by unfold TblOk SortedEnts; infer_instance
instance (l : List Tbl) : Decidable (KeyDisjoint l) := by unfold KeyDisjoint; infer_instance
instance (i : Nat) (l : List Tbl) : Decidable (LevelOk i l) := by unfold LevelOk; infer_instance
instance (s : Lsm) : Decidable (LsmInv s) := by unfold LsmInv SortedEnts; infer_instance

theorem LsmInv.level {s : Lsm} (h : LsmInv s) {i : Nat} {tbls : List Tbl} (hi : s.levels[i]? = some tbls) :
    LevelOk i tbls := h.2.2.1 (i, tbls) ((LL.mem_zipIdx _ _ _).mpr hi)

theorem LsmInvW.level {s : Lsm} (h : LsmInvW s) {i : Nat} {tbls : List Tbl} (hi : s.levels[i]? = some tbls) :
    LevelOkW i tbls := h.2.2.1 (i, tbls) ((LL.mem_zipIdx _ _ _).mpr hi)

namespace LL

theorem mem_flatten_ents {l : List Tbl} {e : Ent} :
    e ∈ (l.map (·.ents)).flatten ↔ ∃ t ∈ l, e ∈ t.ents := mem_flatten_map _ l e

def Sep (R : Ent → Ent → Prop) (a b : Tbl) : Prop := ∀ x ∈ a.ents, ∀ y ∈ b.ents, R x y

theorem flatten_sorted_iff (tbls : List Tbl) :
    SortedEnts (tbls.map (·.ents)).flatten ↔ (∀ t ∈ tbls, SortedEnts t.ents) ∧ tbls.Pairwise (Sep elt) := by
  rw [sorted_iff, List.pairwise_flatten, List.pairwise_map]
  constructor
  · rintro ⟨h1, h2⟩
    exact ⟨fun t ht => (sorted_iff _).mpr (h1 _ (List.mem_map.mpr ⟨t, ht, rfl⟩)), h2⟩
  · rintro ⟨h1, h2⟩
    refine ⟨?_, h2⟩
    intro l hl
    obtain ⟨t, ht, rfl⟩ := List.mem_map.mp hl
    exact (sorted_iff _).mp (h1 t ht)

theorem flatten_sorted_of_keyDisjoint {tbls : List Tbl} (h1 : ∀ t ∈ tbls, SortedEnts t.ents)
    (h2 : KeyDisjoint tbls) : SortedEnts (tbls.map (·.ents)).flatten :=
  (flatten_sorted_iff tbls).mpr ⟨h1, h2.imp fun hab x hx y hy => .inl (hab x hx y hy)⟩

theorem levelOk_weaken {i : Nat} {tbls : List Tbl} (h : LevelOk i tbls) : LevelOkW i tbls :=
  ⟨fun t ht => (h.1 t ht).2, fun hi => flatten_sorted_of_keyDisjoint (fun t ht => (h.1 t ht).2) (h.2 hi)⟩

theorem lsmInv_weaken {s : Lsm} (h : LsmInv s) : LsmInvW s :=
  ⟨h.1, h.2.1, fun p hp => levelOk_weaken (h.2.2.1 p hp), h.2.2.2⟩

def tblReaches (k : Bytes) (ts : Nat) (t : Tbl) : Bool :=
  match t.biggest with
  | some b => kvCmp b.key b.ver k ts != .lt
  | none => false

/-- the table `levelHandler.get` searches on a level `≥ 1` -/
def liFind (tables : List Tbl) (k : Bytes) (ts : Nat) : Option Tbl := tables.find? (tblReaches k ts)

theorem find?_congr_mem {α : Type} {p q : α → Bool} {l : List α} (h : ∀ a ∈ l, p a = q a) :
    l.find? p = l.find? q := by
  induction l with
  | nil => rfl
  | cons a l ih => rw [List.find?_cons, List.find?_cons, h a (by simp), ih fun b hb => h b (List.mem_cons_of_mem _ hb)]

theorem any_ge_eq_reaches {t : Tbl} (hs : SortedEnts t.ents) (k : Bytes) (ts : Nat) :
    t.ents.any (fun x => kvCmp x.key x.ver k ts != .lt) = tblReaches k ts t := by
  unfold tblReaches
  cases hb : t.biggest with
  | none => rw [show t.ents = [] by simpa [Tbl.biggest] using hb]; rfl
  | some b =>
    -- if some entry lies at or after `(k, ts)`, so does the last
    refine any_eq_last ((sorted_iff _).mp hs) (fun {x y} hxy hx => ?_) hb
    simp only [bne_iff_ne, ne_eq, kvCmp_lt_iff] at hx ⊢
    exact fun hy => hx (kvlt_trans hxy hy)

theorem seekGE_flatten {tbls : List Tbl} (hs : ∀ t ∈ tbls, SortedEnts t.ents) (k : Bytes) (ts : Nat) :
    seekGE k ts (tbls.map (·.ents)).flatten =
      match liFind tbls k ts with
      | some t => seekGE k ts t.ents
      | none => none := by
  rw [seekGE_eq_find?, find?_units, find?_congr_mem fun t ht => any_ge_eq_reaches (hs t ht) k ts]
  unfold liFind
  cases tbls.find? (tblReaches k ts) with
  | none => rfl
  | some t => exact (seekGE_eq_find? k ts t.ents).symm

theorem srcGet_flatten {tbls : List Tbl} (hs : ∀ t ∈ tbls, SortedEnts t.ents) (k : Bytes) (ts : Nat) :
    srcGet (tbls.map (·.ents)).flatten k ts =
      match liFind tbls k ts with
      | some t => srcGet t.ents k ts
      | none => none := by
  unfold srcGet
  rw [seekGE_flatten hs]
  cases liFind tbls k ts <;> rfl

theorem liGet_eq {tbls : List Tbl} (hs : SortedEnts (tbls.map (·.ents)).flatten)
    (hp : ∀ e ∈ (tbls.map (·.ents)).flatten, 0 < e.ver) (k : Bytes) (ts : Nat) :
    liGet tbls k ts = newestLE (tbls.map (·.ents)).flatten k ts := by
  -- `liGet` is `srcGet` of the table `liFind` picks, minus results of version 0, and there are none
  have hpos : ∀ e, srcGet (tbls.map (·.ents)).flatten k ts = some e → 0 < e.ver := fun e he =>
    hp e (newestLE_some (srcGet_eq_newestLE hs k ts ▸ he)).1
  rw [← srcGet_eq_newestLE hs, srcGet_flatten
    (fun t ht => hs.sublist (List.sublist_flatten_of_mem (List.mem_map.mpr ⟨t, ht, rfl⟩)))] at *
  unfold liGet
  change (match liFind tbls k ts with | some t => _ | none => _) = _
  cases hf : liFind tbls k ts with
  | none => rfl
  | some t =>
    rw [hf] at hpos
    simp only at hpos ⊢
    cases hr : srcGet t.ents k ts with
    | none => rfl
    | some e => simp only [if_pos (hpos e hr)]

theorem l0Get_eq {tbls : List Tbl} (hs : ∀ t ∈ tbls, SortedEnts t.ents)
    (hp : ∀ e ∈ (tbls.reverse.map (·.ents)).flatten, 0 < e.ver) (k : Bytes) (ts : Nat) :
    l0Get tbls k ts = newestLE (tbls.reverse.map (·.ents)).flatten k ts := by
  unfold l0Get
  rw [foldl_congr_mem (g := fun b t => pick b (newestLE t.ents k ts))]
  · have := newestLE_flatten_foldl (tbls.reverse.map (·.ents)) k ts none
    rw [List.foldl_map] at this
    simpa using this
  · intro best t ht
    have hts : SortedEnts t.ents := hs t (List.mem_reverse.mp ht)
    rw [srcGet_eq_newestLE hts]
    cases hr : newestLE t.ents k ts with
    | none => simp
    | some e =>
      have hpos : 0 < e.ver := by
        apply hp
        exact mem_flatten_ents.mpr ⟨t, ht, (newestLE_some hr).1⟩
      cases best with
      | none => simp [hpos]
      | some b => simp only [pick]

def ResOk (ts : Nat) (r : Option Ent) : Prop := ∀ e, r = some e → 0 < e.ver ∧ e.ver ≤ ts

/-- the running maximum of `DB.get`: `done` exactly when a version `= ts` has been found; stopping
    there is sound because later results have versions `≤ ts`, which `pick` would not take -/
def AccOk (ts : Nat) (a : GetAcc) : Prop :=
  ResOk ts a.best ∧
  (a.done = true → ∃ e, a.best = some e ∧ e.ver = ts) ∧
  (a.done = false → ∀ e, a.best = some e → e.ver < ts)

theorem accStep_ok {ts : Nat} {a : GetAcc} {r : Option Ent} (ha : AccOk ts a) (hr : ResOk ts r) :
    AccOk ts (accStep ts a r) ∧ (accStep ts a r).best = pick a.best r := by
  -- a version found before is `≤ ts`, and `< ts` while the search goes on
  have hbest : ∀ b, a.best = some b → a.ver = b.ver := fun b hb => by rw [GetAcc.ver, hb]
  have hnew : ∀ (x : Ent) (d : Bool), r = some x → (d = true → x.ver = ts) → (d = false → x.ver < ts) →
      AccOk ts { done := d, best := some x } := fun x d hx h1 h2 =>
    ⟨fun e he => by cases he; exact hr x hx, fun hd => ⟨x, rfl, h1 hd⟩, fun hd e he => by cases he; exact h2 hd⟩
  fun_cases accStep ts a r with
  | case1 r hd =>  -- done: an exact match was found, nothing later is newer
    obtain ⟨e, he, hv⟩ := ha.2.1 hd
    exact ⟨ha, he ▸ (pick_some_left fun x hx => hv ▸ (hr x hx).2).symm⟩
  | case2 hd => exact ⟨ha, (pick_none_right _).symm⟩  -- nothing found in this source
  | case3 hd x hx =>  -- an exact match: stop
    have hx : x.ver = ts := by simpa using hx
    refine ⟨hnew x true rfl (fun _ => hx) nofun, ?_⟩
    cases hb : a.best with
    | none => rfl
    | some b =>
      have := ha.2.2 (by simpa using hd) b hb
      exact (if_pos (by omega)).symm
  | case4 hd x hx hlt =>  -- newer than the best so far
    have hx : x.ver ≠ ts := by simpa using hx
    refine ⟨hnew x a.done rfl (fun h => absurd h hd) (fun _ => by have := (hr x rfl).2; omega), ?_⟩
    cases hb : a.best with
    | none => rfl
    | some b => exact (if_pos (hbest b hb ▸ hlt)).symm
  | case5 hd x hx hlt =>  -- not newer: the best so far stays
    refine ⟨ha, ?_⟩
    cases hb : a.best with
    | none => simp only [GetAcc.ver, hb] at hlt; have := (hr x rfl).1; omega
    | some b => exact (if_neg (hbest b hb ▸ hlt)).symm

theorem foldl_accStep {ts : Nat} (rs : List (Option Ent)) (hrs : ∀ r ∈ rs, ResOk ts r) (a : GetAcc)
    (ha : AccOk ts a) : (rs.foldl (accStep ts) a).best = rs.foldl pick a.best := by
  induction rs generalizing a with
  | nil => rfl
  | cons r rs ih =>
    simp only [List.foldl_cons]
    obtain ⟨h1, h2⟩ := accStep_ok ha (hrs r (by simp))
    rw [ih (fun r hr => hrs r (List.mem_cons_of_mem _ hr)) _ h1, h2]

theorem accOk_init (ts : Nat) : AccOk ts {} := by
  refine ⟨?_, ?_, ?_⟩ <;> simp [ResOk]

/-- the sources of a state, each level as one chunk (level 0: newest table first) -/
def chunks (s : Lsm) : List (List Ent) :=
  (s.mem :: s.imm.reverse) ++
  (match s.levels with
   | [] => []
   | l0 :: rest => (l0.reverse.map (·.ents)).flatten :: rest.map (fun tbls => (tbls.map (·.ents)).flatten))

theorem chunks_flatten (s : Lsm) : (chunks s).flatten = s.allEntries := by
  unfold chunks Lsm.allEntries Lsm.sources
  cases s.levels with
  | nil => rfl
  | cons l0 rest => simp

/-- the entries of level `i` in read-precedence order -/
def lvlChunk (i : Nat) (tbls : List Tbl) : List Ent :=
  if i = 0 then (tbls.reverse.map (·.ents)).flatten else (tbls.map (·.ents)).flatten

theorem mem_lvlChunk {i : Nat} {tbls : List Tbl} {x : Ent} : x ∈ lvlChunk i tbls ↔ ∃ t ∈ tbls, x ∈ t.ents := by
  unfold lvlChunk
  split
  · simp only [mem_flatten_ents, List.mem_reverse]
  · exact mem_flatten_ents

theorem lvlChunk_sorted {i : Nat} {tbls : List Tbl} (h : LevelOk i tbls) (hi : 1 ≤ i) :
    SortedEnts (lvlChunk i tbls) := by
  unfold lvlChunk; rw [if_neg (by omega)]
  exact (levelOk_weaken h).2 hi

theorem lvlChunk_zero_append (a b : List Tbl) : lvlChunk 0 (a ++ b) = lvlChunk 0 b ++ lvlChunk 0 a := by
  simp [lvlChunk]

theorem mapIdx_succ_chunk (rest : List (List Tbl)) :
    rest.mapIdx (fun i => lvlChunk (i + 1)) = rest.map (fun tbls => (tbls.map (·.ents)).flatten) := by
  apply List.ext_getElem?
  intro i
  rw [List.getElem?_mapIdx, List.getElem?_map]
  rfl

/-- the levels as read sources -/
def lchunks (ls : List (List Tbl)) : List (List Ent) := ls.mapIdx lvlChunk

theorem getElem?_lchunks (ls : List (List Tbl)) (i : Nat) : (lchunks ls)[i]? = ls[i]?.map (lvlChunk i) := by
  simp [lchunks]

theorem chunks_eq (s : Lsm) : chunks s = (s.mem :: s.imm.reverse) ++ lchunks s.levels := by
  unfold chunks lchunks
  cases s.levels with
  | nil => rfl
  | cons l0 rest => simp only [List.mapIdx_cons, mapIdx_succ_chunk]; rfl

def InLevel (s : Lsm) (i : Nat) (e : Ent) : Prop :=
  ∃ (tbls : List Tbl) (t : Tbl), s.levels[i]? = some tbls ∧ t ∈ tbls ∧ e ∈ t.ents

def lowerChunks (s : Lsm) : List (List Ent) := s.imm.reverse ++ lchunks s.levels

theorem chunks_cons (s : Lsm) : chunks s = s.mem :: lowerChunks s := chunks_eq s

theorem inLevel_iff {s : Lsm} {i : Nat} {e : Ent} :
    InLevel s i e ↔ ∃ c, (lchunks s.levels)[i]? = some c ∧ e ∈ c := by
  simp only [getElem?_lchunks, Option.map_eq_some_iff]
  constructor
  · rintro ⟨tbls, t, hi, ht, he⟩
    exact ⟨_, ⟨tbls, hi, rfl⟩, mem_lvlChunk.mpr ⟨t, ht, he⟩⟩
  · rintro ⟨_, ⟨tbls, hi, rfl⟩, he⟩
    obtain ⟨t, ht, he⟩ := mem_lvlChunk.mp he
    exact ⟨tbls, t, hi, ht, he⟩

theorem mem_lowerChunks {s : Lsm} {e : Ent} :
    (∃ c ∈ lowerChunks s, e ∈ c) ↔ (∃ m ∈ s.imm, e ∈ m) ∨ ∃ i, InLevel s i e := by
  simp only [lowerChunks, List.mem_append, or_and_right, exists_or, List.mem_reverse]
  refine or_congr Iff.rfl ⟨fun ⟨c, hc, he⟩ => ?_, fun ⟨i, h⟩ => ?_⟩
  · obtain ⟨i, hi⟩ := List.mem_iff_getElem?.mp hc
    exact ⟨i, inLevel_iff.mpr ⟨c, hi, he⟩⟩
  · obtain ⟨c, hi, he⟩ := inLevel_iff.mp h
    exact ⟨c, List.mem_of_getElem? hi, he⟩

theorem mem_allEntries {s : Lsm} {e : Ent} :
    e ∈ s.allEntries ↔ e ∈ s.mem ∨ (∃ m ∈ s.imm, e ∈ m) ∨ ∃ i, InLevel s i e := by
  rw [← chunks_flatten, chunks_cons, List.flatten_cons, List.mem_append, List.mem_flatten, mem_lowerChunks]

theorem mem_allEntries_of_level {s : Lsm} {i : Nat} {e : Ent} (h : InLevel s i e) : e ∈ s.allEntries :=
  mem_allEntries.mpr (.inr (.inr ⟨i, h⟩))

theorem mem_allEntries_of_chunk {s : Lsm} {c : List Ent} (hc : c ∈ chunks s) {e : Ent} (he : e ∈ c) :
    e ∈ s.allEntries := by
  rw [← chunks_flatten]; exact List.mem_flatten.mpr ⟨c, hc, he⟩

theorem init_allEntries (n : Nat) : (Lsm.init n).allEntries = [] := by
  cases n <;> simp [Lsm.allEntries, Lsm.sources, Lsm.init, List.replicate_succ]

theorem get_results {s : Lsm} (h : LsmInvW s) (k : Bytes) (ts : Nat) :
    (s.mem :: s.imm.reverse).map (fun m => srcGet m k ts) ++
      (zipIdx s.levels).map (fun (p : Nat × List Tbl) => levelGet p.1 p.2 k ts) =
    (chunks s).map (fun c => newestLE c k ts) := by
  have hl : ∀ i tbls, s.levels[i]? = some tbls → LevelOkW i tbls := fun i tbls hi => h.level hi
  obtain ⟨hm, hi, _, hp⟩ := h
  rw [chunks_eq, List.map_append]
  congr 1
  · simp only [List.map_cons]
    rw [srcGet_eq_newestLE hm]
    congr 1
    apply List.map_congr_left
    intro m hmm
    exact srcGet_eq_newestLE (hi m (List.mem_reverse.mp hmm)) k ts
  · apply List.ext_getElem?
    intro i
    rw [List.getElem?_map, List.getElem?_map, getElem?_zipIdx, getElem?_lchunks]
    cases hlv : s.levels[i]? with
    | none => rfl
    | some tbls =>
      simp only [Option.map_some]
      congr 1
      have hok := hl i tbls hlv
      have hpos : ∀ e ∈ lvlChunk i tbls, 0 < e.ver := fun e he =>
        hp e (mem_allEntries_of_level (inLevel_iff.mpr ⟨_, by rw [getElem?_lchunks, hlv]; rfl, he⟩))
      cases i with
      | zero => exact l0Get_eq hok.1 hpos k ts
      | succ j => exact liGet_eq (hok.2 (by omega)) hpos k ts

end LL

theorem get_mem_congr (s : Lsm) (m' : List Ent) (k : Bytes) (ts : Nat)
    (h : srcGet m' k ts = srcGet s.mem k ts) : ({ s with mem := m' } : Lsm).get k ts = s.get k ts := by
  simp [Lsm.get, h]

theorem mem_rest_levelOk {s : Lsm} (hinv : LsmInv s) {l0 : List Tbl} {rest : List (List Tbl)}
    (hl : s.levels = l0 :: rest) :
    LevelOk 0 l0 ∧ ∀ tbls ∈ rest, ∃ i, 1 ≤ i ∧ LevelOk i tbls := by
  constructor
  · exact hinv.level (i := 0) (by rw [hl]; rfl)
  · intro tbls ht
    obtain ⟨i, hi⟩ := List.mem_iff_getElem?.mp ht
    exact ⟨i + 1, by omega, hinv.level (i := i + 1) (by rw [hl]; simpa using hi)⟩

theorem sources_sorted {s : Lsm} (hinv : LsmInv s) : ∀ src ∈ s.sources, SortedEnts src := by
  intro src hsrc
  unfold Lsm.sources at hsrc
  rcases List.mem_append.mp hsrc with h | h
  · rcases List.mem_cons.mp h with rfl | h
    · exact hinv.1
    · exact hinv.2.1 src (List.mem_reverse.mp h)
  · cases hl : s.levels with
    | nil => rw [hl] at h; cases h
    | cons l0 rest =>
      rw [hl] at h
      obtain ⟨h0, hr⟩ := mem_rest_levelOk hinv hl
      rcases List.mem_append.mp h with h | h
      · obtain ⟨t, ht, rfl⟩ := List.mem_map.mp h
        exact (h0.1 t (List.mem_reverse.mp ht)).2
      · obtain ⟨tbls, ht, rfl⟩ := List.mem_map.mp h
        obtain ⟨i, hi, hok⟩ := hr tbls ht
        exact LL.flatten_sorted_of_keyDisjoint (fun t ht => (hok.1 t ht).2) (hok.2 hi)

/-- recency: along the read-precedence order of the sources, a source searched earlier holds, for
    every user key, only versions `≥` those of any source searched later -/
def Layered (s : Lsm) : Prop :=
  s.sources.Pairwise (fun A B => ∀ a ∈ A, ∀ b ∈ B, a.key = b.key → b.ver ≤ a.ver)

instance (s : Lsm) : Decidable (Layered s) := by unfold Layered; infer_instance

/-- the memtable shares no internal key with an immutable memtable (trivially true when there is
    no immutable memtable, the only situation the model's `flush` is used in) -/
def FlushOk (s : Lsm) : Prop := ∀ e ∈ s.mem, ∀ m ∈ s.imm, ∀ e' ∈ m, e.key = e'.key → e.ver ≠ e'.ver

namespace LL

theorem flush_eq_self_or (s : Lsm) (id : Nat) :
    s.flush id = s ∨ ∃ l0 rest, s.levels = l0 :: rest ∧ s.mem ≠ [] ∧
      s.flush id = { s with mem := [], levels := (l0 ++ [{ ents := s.mem, id := id }]) :: rest } := by
  fun_cases Lsm.flush s id with
  | case1 => exact .inl rfl  -- empty memtable
  | case2 => exact .inl rfl  -- no levels
  | case3 hm l0 rest hl => exact .inr ⟨l0, rest, hl, fun h => hm (by simp [h]), rfl⟩  -- a new L0 table

theorem level_of_l0_change {s : Lsm} {l0 l0' : List Tbl} {rest : List (List Tbl)} (hl : s.levels = l0 :: rest)
    {i : Nat} {tbls : List Tbl} (hi : (l0' :: rest)[i]? = some tbls) :
    (i = 0 ∧ l0' = tbls) ∨ (0 < i ∧ s.levels[i]? = some tbls) := by
  cases i with
  | zero => exact .inl ⟨rfl, by simpa using hi⟩
  | succ j => exact .inr ⟨Nat.succ_pos _, by rw [hl]; simpa using hi⟩

/-- level 0 may be replaced by any well-formed tables: nothing is asked of their order -/
theorem levels_ok_of_l0 {s : Lsm} (h : LsmInv s) {l0 l0' : List Tbl} {rest : List (List Tbl)}
    (hl : s.levels = l0 :: rest) (h0 : ∀ t ∈ l0', TblOk t) : ∀ p ∈ zipIdx (l0' :: rest), LevelOk p.1 p.2 := by
  rintro ⟨i, tbls⟩ hp
  rcases level_of_l0_change hl ((mem_zipIdx _ _ _).mp hp) with ⟨rfl, rfl⟩ | ⟨_, hi⟩
  · exact ⟨h0, fun h1 => absurd h1 (Nat.not_succ_le_zero 0)⟩
  · exact h.level hi

theorem allEntries_flush {s : Lsm} {l0 : List Tbl} {rest : List (List Tbl)} (id : Nat) :
    ({ s with mem := [], levels := (l0 ++ [{ ents := s.mem, id := id }]) :: rest } : Lsm).allEntries =
      s.imm.reverse.flatten ++ (s.mem ++ ((l0.reverse.map (·.ents)).flatten ++
        (rest.map (fun tbls => (tbls.map (·.ents)).flatten)).flatten)) := by
  simp [Lsm.allEntries, Lsm.sources]

theorem allEntries_cons {s : Lsm} {l0 : List Tbl} {rest : List (List Tbl)} (hl : s.levels = l0 :: rest) :
    s.allEntries = s.mem ++ (s.imm.reverse.flatten ++ ((l0.reverse.map (·.ents)).flatten ++
        (rest.map (fun tbls => (tbls.map (·.ents)).flatten)).flatten)) := by
  simp [Lsm.allEntries, Lsm.sources, hl]

theorem mem_allEntries_flush (s : Lsm) (id : Nat) (e : Ent) : e ∈ (s.flush id).allEntries ↔ e ∈ s.allEntries := by
  rcases flush_eq_self_or s id with h | ⟨l0, rest, hl, _, h⟩
  · rw [h]
  · rw [h, allEntries_flush, allEntries_cons hl]
    simp only [List.mem_append]
    exact or_left_comm

end LL

end Badger
