import BadgerProofs.Lemmas.LogUnits
/-!
Zero-filled torn tails: the hypotheses `TornRejected` (operational) and `NoCrcCollision`
(checksum only), zeros are never a record, and a strict prefix of a well-formed record completed
with zeros is rejected unless its checksum collides (the re-parsed header has lengths not larger
than the original ones, `headerDecodeFrom_take_zeros`, so neither a varint overflow nor a slice
panic can occur).
-/
namespace Badger

/-- The torn candidate is not accepted as a record: reading it gives a short-read error, or a
    zero entry (empty key). Decidable (`tornRejectedB`). This is the `NoCrcCollision` hypothesis in
    its operational form — see `NoCrcCollision` below for the checksum-only form. -/
def TornRejected (ks : Nat → UInt8) (b : Bytes) : Prop :=
  Torn (safeReadEntry ks b) ∨ ∃ e h, safeReadEntry ks b = .ok (e, h) ∧ e.key = []

def tornRejectedB (ks : Nat → UInt8) (b : Bytes) : Bool :=
  match safeReadEntry ks b with
  | .error .eof => true
  | .error .unexpectedEof => true
  | .error .truncate => true
  | .error _ => false
  | .ok (e, _) => e.key.isEmpty

theorem tornRejectedB_iff (ks : Nat → UInt8) (b : Bytes) :
    tornRejectedB ks b = true ↔ TornRejected ks b := by
  unfold tornRejectedB TornRejected Torn TornErr
  cases h : safeReadEntry ks b with
  | error e => cases e <;> simp
  | ok r => obtain ⟨e, hl⟩ := r; simp [List.isEmpty_iff]

instance (ks : Nat → UInt8) (b : Bytes) : Decidable (TornRejected ks b) :=
  decidable_of_iff _ (tornRejectedB_iff ks b)

theorem breaks_of_tornRejected {ks : Nat → UInt8} {b : Bytes} (lc : Nat) (h : TornRejected ks b) :
    Breaks ks lc b := by
  rcases h with h | ⟨e, hl, hr, hk⟩
  · exact Or.inl h
  · exact Or.inr ⟨e, hl, hr, Or.inl hk⟩

/-- A zero-filled region is never a record: the all-zero header announces an empty key and an
    empty value, and `crc32c [0,0,0,0,0] ≠ 0`. -/
theorem tornRejected_zeros (ks : Nat → UInt8) (n : Nat) : TornRejected ks (List.replicate n 0) := by
  refine Or.inl ?_
  by_cases h5 : n < 5
  · apply safeRead_of_header_torn
    match n, h5 with
    | 0, _ | 1, _ | 2, _ | 3, _ | 4, _ => exact torn_eof
  · obtain ⟨m, rfl⟩ : ∃ m, n = m + 5 := ⟨n - 5, by omega⟩
    have hd : headerDecodeFrom (List.replicate (m + 5) (0 : UInt8)) =
        .ok (⟨0, 0, 0, 0, 0⟩, List.replicate m 0) := rfl
    by_cases h4 : m < 4
    · exact safeRead_short ks hd (by decide) (by decide)
        (show _ < 0 + 0 + 4 by rw [List.length_replicate]; omega)
    · obtain ⟨k, rfl⟩ : ∃ k, m = k + 4 := ⟨m - 4, by omega⟩
      rw [safeRead_long ks hd (by decide) (by decide)
        (show 0 + 0 + 4 ≤ _ by rw [List.length_replicate]; omega)]
      simp only [List.length_replicate, Nat.add_sub_cancel_left]
      rw [show List.take 4 (List.drop (0 + 0) (List.replicate (k + 4) (0 : UInt8))) = [0, 0, 0, 0]
          from rfl,
        show List.take (5 + (0 + 0)) (List.replicate (k + 4 + 5) (0 : UInt8)) = [0, 0, 0, 0, 0]
          from rfl,
        if_pos (fun h => crc32c_zero_header h.symm)]
      exact torn_truncate

/-- Checksum-only form of the hypothesis: wherever `safeRead.Entry` gets as far as comparing
    checksums on `b`, they differ. -/
def NoCrcCollision (b : Bytes) : Prop :=
  match headerDecodeFrom b with
  | .ok (h, r1) =>
    (h.klen + h.vlen) % 2 ^ 32 + 4 ≤ r1.length →
      beNat ((r1.drop ((h.klen + h.vlen) % 2 ^ 32)).take 4) ≠
        crc32c (b.take (b.length - r1.length + (h.klen + h.vlen) % 2 ^ 32))
  | .error _ => True

instance (b : Bytes) : Decidable (NoCrcCollision b) := by
  unfold NoCrcCollision
  split <;> infer_instance

/-- If the header of the torn candidate is a short read, or parses to lengths badger accepts,
    then the absence of a checksum collision is all that is needed for rejection. -/
theorem tornRejected_of_header (ks : Nat → UInt8) (b : Bytes)
    (hh : Torn (headerDecodeFrom b) ∨
      ∃ h r1, headerDecodeFrom b = .ok (h, r1) ∧ h.klen ≤ 65536 ∧ h.klen + h.vlen < 2 ^ 32)
    (hn : NoCrcCollision b) : TornRejected ks b := by
  refine Or.inl ?_
  rcases hh with t | ⟨h, r1, hd, hk, hkv⟩
  · exact safeRead_of_header_torn ks t
  · by_cases hr : h.klen + h.vlen + 4 ≤ r1.length
    · rw [NoCrcCollision, hd] at hn
      simp only [Nat.mod_eq_of_lt hkv] at hn
      rw [safeRead_long ks hd hk hkv hr, if_pos (hn hr)]
      exact torn_truncate
    · exact safeRead_short ks hd hk hkv (Nat.lt_of_not_le hr)

theorem tornRejected_take_zeros (ks ks' : Nat → UInt8) (e : Entry) (wf : e.WF) (j z : Nat)
    (hn : NoCrcCollision ((encodeEntry ks e).take j ++ List.replicate z 0)) :
    TornRejected ks' ((encodeEntry ks e).take j ++ List.replicate z 0) := by
  have hwf := entryHeader_WF e wf.2.2
  obtain ⟨hk, hkv⟩ := entryHeader_accepted wf
  apply tornRejected_of_header ks' _ _ hn
  rw [encodeEntry_eq]
  rcases take_append_cases (headerEncode (entryHeader e)) _ j with ⟨h1, e1⟩ | ⟨h1, e1⟩
  · rw [e1]
    rcases headerDecodeFrom_take_zeros _ hwf j z h1 with t | ⟨_, h', r1, hr, hk', hv'⟩
    · exact Or.inl t
    · exact Or.inr ⟨h', r1, hr, Nat.le_trans hk' hk, Nat.lt_of_le_of_lt (Nat.add_le_add hk' hv') hkv⟩
  · rw [e1, List.append_assoc, headerDecodeFrom_headerEncode _ _ hwf]
    exact Or.inr ⟨_, _, rfl, hk, hkv⟩

end Badger
