import BadgerProofs.Props.C02
/-!
# C03 — commits are uniquely timestamped and visible to later readers: **oracle-level part**

The statements that only involve the oracle (`newCommitTs`, `readTs`, `doneCommit`): timestamps are
unique and increase in allocation order, the next one is above all of them, read timestamps stay
below `nextTxnTs`, a transaction started after `doneCommit(ts)` returned reads at `≥ ts`, a rejected
commit leaves no trace in the oracle, the oracle's assertions never fire. That such a reader leaves
`readTs()` only after every commit `≤` its read timestamp was reported applied is
`C34_readTs_sees_applied` (`Props/C34.lean`).

The write pipeline (write-channel order, apply order, atomic visibility, commits rejected by
`sendToWriteCh`) is in `Props/C03Pipe.lean`, on top of `Label.doneCommit` / `Sys.allocatedNotDone`:
the pipeline model enables `doneCommit ts` only once the request carrying `ts` has been applied to the
memtable or rejected.
-/
namespace Badger

/-- **Commit timestamps are pairwise distinct and strictly increasing in allocation order**: the
    ghost history (one entry per successful `newCommitTs`, in the order the calls took `o.Lock`)
    is strictly sorted by timestamp; every timestamp is above `MaxVersion()` at `Open` and below
    `nextTxnTs`. -/
theorem C03_ts_unique_increasing {d : Bool} {n : Nat} {s : Sys} (h : OReach false d n s) :
    s.hist.Pairwise (fun a b => a.ts < b.ts) ∧ (∀ e ∈ s.hist, n < e.ts ∧ e.ts < s.o.nextTxnTs) :=
  ⟨h.inv.histSorted, h.inv.histLt⟩

/-- … in particular the timestamp a successful `Commit` returns (it is `nextTxnTs`:
    `SysInv.commitResult_ok`) is larger than every timestamp handed out before. -/
theorem C03_commit_ts_fresh {d : Bool} {n : Nat} {s : Sys} (h : OReach false d n s) (tid : Nat) (ts : Nat)
    (x : TxnSt) (hx : s.txns[tid]? = some x) (hph : x.phase = .active)
    (hok : s.commitResult tid = some (.ok ts)) : ∀ e ∈ s.hist, e.ts < ts := by
  obtain ⟨_, rfl⟩ := h.inv.commitResult_ok hx hph hok
  exact fun e he => (h.inv.histLt e he).2

/-- **Visible after acknowledgement**: in every reachable state, if `doneCommit(ts)` has been called
    (which `Commit` does before returning nil / before running the `CommitWith` callback), the read
    timestamp handed to a transaction that starts now is `≥ ts`. The state is any reachable one, so
    this holds of every later state too. That the transaction leaves `readTs()` only once every commit
    `≤` its read timestamp has been reported applied is `C34_readTs_sees_applied`. -/
theorem C03_visible_after_ack {d : Bool} {n : Nat} {s : Sys} (h : OReach false d n s) (ts : Nat)
    (hack : ts ∈ s.doneCommits) : ts ≤ s.o.readTsBegin.2 := by
  have hI := h.inv
  obtain ⟨e, he, rfl⟩ := List.mem_map.mp (hI.doneSub ts hack)
  have := (hI.histLt e he).2
  simp only [Oracle.readTsBegin]
  omega

theorem C03_readTs_lt_next {d : Bool} {n : Nat} {s : Sys} (h : OReach false d n s) :
    ∀ x ∈ s.txns, x.t.readTs < s.o.nextTxnTs := h.inv.readTsLt

/-- A commit rejected by conflict detection leaves no trace in the oracle (= `C02_conflict_no_trace`). -/
theorem C03_rejected_no_trace (o : Oracle) (t : Txn) (hcf : (o.newCommitTs t).2.2 = .conflict) :
    (o.newCommitTs t).1 = o := (C02_conflict_no_trace o t hcf).1

/-- The assertions `AssertTrue(maxReadTs >= lastCleanupTs)`, `AssertTrue(ts >= lastCleanupTs)` and
    the watermark assertion never fire in normal mode: no reachable state is crashed. -/
theorem C03_oracle_never_asserts {d : Bool} {n : Nat} {s : Sys} (h : OReach false d n s) : s.crashed = false :=
  h.inv.live

-- non-vacuity: one commit (timestamp 1); transaction 1, begun while it is in flight, parks and is active
-- once `doneCommit 1` has been processed; a transaction beginning in the final state reads at 1
example : (((Sys.opened false true 0).runLabels
    [.begin true, .waitCheck 0, .write 0 1, .commit 0, .begin true, .waitCheck 1, .doneCommit 1,
     .procTxnMark, .procTxnMark, .procTxnMark, .procTxnMark]).map
      (fun s => (s.hist.map (·.ts), s.doneCommits, s.o.readTsBegin.2, s.txns.map (·.phase)))) =
    some ([1], [1], 1, [.closed, .active]) := by decide

end Badger
