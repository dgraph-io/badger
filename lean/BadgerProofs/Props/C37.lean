import BadgerProofs.Lemmas.Txn
import BadgerProofs.Lemmas.LsmCompact
/-!
# C37 — in-memory mode behaves like the on-disk database

In the model the only behavioural differences of `InMemory` are
* `modify` rejects values longer than the threshold (`valtoobig`), and
* `writeToLSM` (`lsmForm`) never stores a value pointer.
(File-system effects are outside this model; that an in-memory database creates no files is checked by the
harness's directory listing, not by a theorem.)

`eraseVP` forgets the value-pointer bit. `Db.norm` is the state with that bit erased
everywhere in the LSM tree and the `inMemory` option cleared. The simulation theorem is
`C37_same_reads`: if an in-memory and an on-disk database agree up to `norm`, then after the
same operation (accepted — or rejected — in both modes, for `set`) they still agree up to
`norm`, and `Get`, `DB.get` and iterator answers agree up to the value-pointer bit
(`C37_same_get`); `C37_same_reads_run` lifts it to operation sequences. NOT covered: `DropAll`,
after which the in-memory database runs with threshold MaxInt32 (`db.threshold.Clear`, finding
F18), so the two modes genuinely diverge in their size accounting.
-/
namespace Badger

def Ent.eraseVP (e : Ent) : Ent := { e with emeta := clearBit e.emeta bitValuePointer }
def eraseL (l : List Ent) : List Ent := l.map Ent.eraseVP
def Tbl.eraseVP (t : Tbl) : Tbl := { t with ents := eraseL t.ents }
def Lsm.eraseVP (s : Lsm) : Lsm :=
  { mem := eraseL s.mem, imm := s.imm.map eraseL, levels := s.levels.map (·.map Tbl.eraseVP) }
def Db.norm (d : Db) : Db :=
  { d with lsm := d.lsm.eraseVP, opts := { d.opts with inMemory := false } }

theorem C37_inline (d : Db) (e : Ent) (h : d.opts.inMemory = true) :
    hasBit (d.lsmForm e).emeta bitValuePointer = false := by
  rw [lsmForm_eq, h, Bool.or_true, if_pos rfl]
  exact (hasBit_clearBit _ 1 1).trans (Bool.and_false _)

@[simp] theorem eraseVP_idem (e : Ent) : e.eraseVP.eraseVP = e.eraseVP :=
  congrArg (fun m => { e with emeta := m }) (clearBit_idem e.emeta 1)

/-- whatever the mode, the stored form of an entry is the entry itself up to the pointer bit -/
theorem C37_lsmForm_eraseVP (d : Db) (e : Ent) : (d.lsmForm e).eraseVP = e.eraseVP := by
  rw [Ent.eraseVP, bitValuePointer_eq, clearBit_congr fun j hj => lsmForm_testBit d e hj, lsmForm_eq]
  rfl

@[simp] theorem eraseVP_key (e : Ent) : e.eraseVP.key = e.key := rfl
@[simp] theorem eraseVP_ver (e : Ent) : e.eraseVP.ver = e.ver := rfl
@[simp] theorem eraseVP_exp (e : Ent) : e.eraseVP.exp = e.exp := rfl
@[simp] theorem eraseVP_val (e : Ent) : e.eraseVP.val = e.val := rfl
@[simp] theorem eraseVP_umeta (e : Ent) : e.eraseVP.umeta = e.umeta := rfl

theorem entCmp_eraseVP (a b : Ent) : entCmp a.eraseVP b.eraseVP = entCmp a b := rfl
theorem entCmp_eraseVP_left (a b : Ent) : entCmp a.eraseVP b = entCmp a b := rfl

theorem hasBit_eraseVP (e : Ent) (i : Nat) (hi : i ≠ 1) :
    hasBit e.eraseVP.emeta (2 ^ i) = hasBit e.emeta (2 ^ i) := by
  rw [Ent.eraseVP, bitValuePointer_eq, hasBit_clearBit, bne_iff_ne.mpr hi, Bool.and_true]

theorem eraseVP_dead (e : Ent) (now : Nat) :
    deletedOrExpired e.eraseVP.emeta e.eraseVP.exp now = deletedOrExpired e.emeta e.exp now :=
  deletedOrExpired_congr (hasBit_eraseVP e 0 (by decide)) _ _

theorem eraseL_nil : eraseL [] = [] := rfl
theorem eraseL_cons (x : Ent) (l : List Ent) : eraseL (x :: l) = x.eraseVP :: eraseL l := rfl

theorem memPut_eraseL (e : Ent) (m : List Ent) :
    eraseL (memPut e m) = memPut e.eraseVP (eraseL m) := by
  induction m with
  | nil => rfl
  | cons x xs ih =>
    simp only [eraseL, List.map_cons, memPut, entCmp_eraseVP] at ih ⊢
    split <;> simp [ih]

theorem foldl_memPut_eraseL (es m : List Ent) :
    eraseL (es.foldl (fun m e => memPut e m) m) =
      (eraseL es).foldl (fun m e => memPut e m) (eraseL m) := by
  rw [eraseL.eq_1 es, List.foldl_map]
  exact (List.foldl_hom eraseL fun m e => (memPut_eraseL e m).symm).symm

theorem seekGE_eraseL (k : Bytes) (ts : Nat) (l : List Ent) :
    seekGE k ts (eraseL l) = (seekGE k ts l).map Ent.eraseVP := by
  induction l with
  | nil => rfl
  | cons x xs ih =>
    simp only [eraseL, List.map_cons, seekGE, eraseVP_key, eraseVP_ver] at ih ⊢
    rw [apply_ite (Option.map Ent.eraseVP), ih]
    rfl

theorem srcGet_eraseL (l : List Ent) (k : Bytes) (ts : Nat) :
    srcGet (eraseL l) k ts = (srcGet l k ts).map Ent.eraseVP := by
  unfold srcGet
  rw [seekGE_eraseL]
  cases seekGE k ts l with
  | none => rfl
  | some e =>
    rw [apply_ite (Option.map Ent.eraseVP)]
    rfl

/-- `eraseVP` on the running maximum of `DB.get` -/
def GetAcc.eraseVP (a : GetAcc) : GetAcc := { a with best := a.best.map Ent.eraseVP }

theorem accStep_eraseVP (ts : Nat) (a : GetAcc) (r : Option Ent) :
    accStep ts a.eraseVP (r.map Ent.eraseVP) = (accStep ts a r).eraseVP := by
  -- a finished accumulator and an empty answer change nothing; otherwise only versions are compared
  rcases a with ⟨_ | _, b⟩
  · cases r with
    | none => rfl
    | some e =>
      have hv : (GetAcc.eraseVP ⟨false, b⟩).ver = GetAcc.ver ⟨false, b⟩ := by cases b <;> rfl
      simp only [accStep, apply_ite GetAcc.eraseVP, hv, Option.map_some, eraseVP_ver, Bool.false_eq_true, if_false]
      rfl
  · rfl

theorem l0Get_eraseVP (tables : List Tbl) (k : Bytes) (ts : Nat) :
    l0Get (tables.map Tbl.eraseVP) k ts = (l0Get tables k ts).map Ent.eraseVP := by
  unfold l0Get
  rw [← List.map_reverse, List.foldl_map]
  refine List.foldl_hom (Option.map Ent.eraseVP) (init := none) fun b t => ?_
  simp only [Tbl.eraseVP, srcGet_eraseL]
  cases srcGet t.ents k ts with
  | none => rfl
  | some e =>
    cases b <;> simp only [Option.map_some, Option.map_none, eraseVP_ver, apply_ite (Option.map Ent.eraseVP)] <;> rfl

theorem biggest_eraseVP (t : Tbl) : t.eraseVP.biggest = t.biggest.map Ent.eraseVP := by
  simp [Tbl.biggest, Tbl.eraseVP, eraseL, List.getLast?_map]

theorem liGet_eraseVP (tables : List Tbl) (k : Bytes) (ts : Nat) :
    liGet (tables.map Tbl.eraseVP) k ts = (liGet tables k ts).map Ent.eraseVP := by
  unfold liGet
  induction tables with
  | nil => rfl
  | cons t tl ih =>
    simp only [List.map_cons, List.find?_cons, biggest_eraseVP]
    cases t.biggest with
    | none => exact ih
    | some b =>
      simp only [Option.map_some, eraseVP_key, eraseVP_ver]
      cases (kvCmp b.key b.ver k ts != Ordering.lt) with
      | false => exact ih
      | true =>
        simp only [Tbl.eraseVP, srcGet_eraseL]
        cases srcGet t.ents k ts with
        | none => rfl
        | some e => rw [apply_ite (Option.map Ent.eraseVP)]; rfl

theorem levelGet_eraseVP (i : Nat) (tables : List Tbl) (k : Bytes) (ts : Nat) :
    levelGet i (tables.map Tbl.eraseVP) k ts = (levelGet i tables k ts).map Ent.eraseVP := by
  unfold levelGet
  split
  · exact l0Get_eraseVP ..
  · exact liGet_eraseVP ..

theorem C37_get_eraseVP (s : Lsm) (k : Bytes) (ts : Nat) :
    s.eraseVP.get k ts = (s.get k ts).map Ent.eraseVP := by
  unfold Lsm.get
  have h : (s.eraseVP.mem :: s.eraseVP.imm.reverse).map (fun m => srcGet m k ts) ++
        (zipIdx s.eraseVP.levels).map (fun (i, tbls) => levelGet i tbls k ts) =
      ((s.mem :: s.imm.reverse).map (fun m => srcGet m k ts) ++
        (zipIdx s.levels).map (fun (i, tbls) => levelGet i tbls k ts)).map (Option.map Ent.eraseVP) := by
    simp only [Lsm.eraseVP, zipIdx_map, List.map_append, List.map_cons, List.map_map, ← List.map_reverse,
      Function.comp_def, srcGet_eraseL, levelGet_eraseVP]
  dsimp only
  rw [h, List.foldl_map]
  exact congrArg GetAcc.best (List.foldl_hom GetAcc.eraseVP (init := {}) (accStep_eraseVP ts))

theorem eraseL_idem (l : List Ent) : eraseL (eraseL l) = eraseL l := by
  simp [eraseL]

theorem Tbl.eraseVP_idem (t : Tbl) : t.eraseVP.eraseVP = t.eraseVP := by
  simp [Tbl.eraseVP, eraseL_idem]

theorem Lsm.eraseVP_idem (s : Lsm) : s.eraseVP.eraseVP = s.eraseVP := by
  simp [Lsm.eraseVP, eraseL_idem, Tbl.eraseVP_idem, Function.comp_def]

theorem norm_idem (d : Db) : d.norm.norm = d.norm := by
  simp [Db.norm, Lsm.eraseVP_idem]

@[simp] theorem norm_txns (d : Db) : d.norm.txns = d.txns := rfl
@[simp] theorem norm_findTxn (d : Db) (id : Nat) : d.norm.findTxn id = d.findTxn id := rfl
@[simp] theorem norm_setTxn (d : Db) (t : TxnM) : (d.setTxn t).norm = d.norm.setTxn t := rfl
@[simp] theorem norm_lsm (d : Db) : d.norm.lsm = d.lsm.eraseVP := rfl
@[simp] theorem norm_now (d : Db) : d.norm.now = d.now := rfl

@[simp] theorem norm_managed (d : Db) : d.norm.opts.managed = d.opts.managed := rfl
@[simp] theorem norm_detect (d : Db) : d.norm.opts.detectConflicts = d.opts.detectConflicts := rfl
@[simp] theorem norm_threshold (d : Db) : d.norm.opts.threshold = d.opts.threshold := rfl
@[simp] theorem norm_readMark (d : Db) : d.norm.readMark = d.readMark := rfl
@[simp] theorem norm_nextTs (d : Db) : d.norm.nextTs = d.nextTs := rfl
@[simp] theorem norm_committed (d : Db) : d.norm.committed = d.committed := rfl
@[simp] theorem norm_discardTs (d : Db) : d.norm.discardTs = d.discardTs := rfl
@[simp] theorem norm_lastCleanupTs (d : Db) : d.norm.lastCleanupTs = d.lastCleanupTs := rfl
@[simp] theorem norm_discardAtOrBelow (d : Db) : d.norm.discardAtOrBelow = d.discardAtOrBelow := rfl

theorem norm_doneRead (d : Db) (t : TxnM) :
    (d.doneRead t).1.norm = (d.norm.doneRead t).1 ∧ (d.norm.doneRead t).2 = (d.doneRead t).2 := by
  rw [doneRead_eq, doneRead_eq]
  exact ⟨rfl, rfl⟩

theorem norm_cleanup (d : Db) : d.cleanup.norm = d.norm.cleanup := by
  unfold Db.cleanup
  simp only [apply_ite Db.norm, norm_detect, norm_discardAtOrBelow, norm_lastCleanupTs]
  rfl

theorem norm_discardTxn (d : Db) (id : Nat) : (d.discardTxn id).norm = d.norm.discardTxn id := by
  cases hf : d.findTxn id with
  | none => rw [discardTxn_none hf, discardTxn_none (d := d.norm) hf]
  | some t =>
    rw [discardTxn_eq hf, discardTxn_eq (d := d.norm) hf, apply_ite Db.norm, norm_setTxn, (norm_doneRead d t).1]

theorem commitStage_facts (d : Db) (t : TxnM) (mts : Nat) :
    (commitStage d t mts).lsm = d.lsm ∧ (commitStage d t mts).opts = d.opts := by
  exact ⟨(commitStage_store d t mts).lsm, (commitStage_store d t mts).opts⟩

theorem norm_commitPre (d : Db) (t : TxnM) : (commitPre d t).norm = commitPre d.norm t := by
  unfold commitPre
  rw [← (norm_doneRead d t).1, apply_ite Db.norm, norm_cleanup]
  rfl

theorem norm_commitStage (d : Db) (t : TxnM) (mts : Nat) :
    (commitStage d t mts).norm = commitStage d.norm t mts := by
  rw [commitStage_eq, commitStage_eq, ← norm_commitPre]
  rfl

theorem finEnt_eraseL (d1 d2 : Db) (keep : Bool) (cts : Nat) (l : List Ent) :
    eraseL (l.map (finEnt d1 keep cts)) = eraseL (l.map (finEnt d2 keep cts)) := by
  simp only [eraseL, List.map_map]
  exact List.map_congr_left fun e _ => by simp only [Function.comp, finEnt, C37_lsmForm_eraseVP]

theorem norm_withMem (D : Db) (m : List Ent) :
    ({ D with lsm := { D.lsm with mem := m } } : Db).norm =
      { D.norm with lsm := { D.norm.lsm with mem := eraseL m } } := rfl

/-- A commit does not commute with `norm` on the nose: the entries written are `lsmForm`s, whose pointer bit
    depends on `inMemory`, which `norm` clears. The commit of `d` and the commit of `d.norm` therefore agree only
    after the bit is erased again: `norm` on both sides. -/
theorem norm_commitApply (d : Db) (t : TxnM) (id mts : Nat) :
    (commitApply d t id mts).1.norm = (commitApply d.norm t id mts).1.norm ∧
    (commitApply d.norm t id mts).2 = (commitApply d t id mts).2 := by
  unfold commitApply
  refine ⟨?_, rfl⟩
  simp only [(norm_doneRead d t).2, norm_discardTxn, norm_setTxn, norm_withMem, foldl_memPut_eraseL]
  rw [← norm_commitStage, norm_idem]
  rw [show eraseL (commitStage d t mts).norm.lsm.mem = eraseL (commitStage d t mts).lsm.mem from eraseL_idem _,
    finEnt_eraseL (commitStage d t mts).norm (commitStage d t mts)]
  rfl

theorem norm_commit (d : Db) (id mts : Nat) :
    (d.commit id mts).1.norm = (d.norm.commit id mts).1.norm ∧
    (d.norm.commit id mts).2 = (d.commit id mts).2 := by
  cases hf : d.findTxn id with
  | none =>
    rw [commit_none mts hf, commit_none (d := d.norm) mts hf]
    exact ⟨(norm_idem d).symm, rfl⟩
  | some t =>
    have hc : d.norm.hasConflict t = d.hasConflict t := rfl
    rw [commit_eq mts hf, commit_eq (d := d.norm) mts hf]
    simp only [norm_managed, norm_detect, hc, apply_ite Prod.fst, apply_ite Prod.snd, apply_ite Db.norm,
      norm_discardTxn, norm_idem, (norm_commitApply d t id mts).1, (norm_commitApply d t id mts).2, and_self]

theorem norm_begin (d : Db) (id : Nat) (u : Bool) (m : Nat) :
    (d.begin id u m).1.norm = (d.norm.begin id u m).1 ∧ (d.norm.begin id u m).2 = (d.begin id u m).2 := by
  cases hm : d.opts.managed
  · rw [begin_normal hm, begin_normal (d := d.norm) hm]
    exact ⟨rfl, rfl⟩
  · rw [begin_managed hm, begin_managed (d := d.norm) hm]
    exact ⟨rfl, rfl⟩

theorem modTxn_norm (d : Db) (t : TxnM) (e : Ent) : modTxn d.norm t e = modTxn d t e := rfl

theorem norm_modify (d : Db) (id : Nat) (e : Ent)
    (hv : (d.modify id e).2 = (d.norm.modify id e).2) :
    (d.modify id e).1.norm = (d.norm.modify id e).1 := by
  cases hf : d.findTxn id with
  | none => rw [modify_none e hf, modify_none (d := d.norm) e hf]
  | some t =>
    rw [modify_verdict e hf, modify_verdict (d := d.norm) e hf] at hv
    rw [modify_eq e hf, modify_eq (d := d.norm) e hf, ← hv]
    cases modCheck d t e <;> rfl

theorem norm_opts_disk (d : Db) (h : d.opts.inMemory = false) : d.norm.opts = d.opts := by
  show ({ d.opts with inMemory := false } : Opts) = d.opts
  rw [← h]

theorem modify_verdict_disk (d : Db) (id : Nat) (e : Ent) (h : d.opts.inMemory = false) :
    (d.norm.modify id e).2 = (d.modify id e).2 := by
  cases hf : d.findTxn id with
  | none => rw [modify_none e hf, modify_none (d := d.norm) e hf]
  | some t =>
    rw [modify_verdict e hf, modify_verdict (d := d.norm) e hf]
    unfold modCheck
    rw [norm_opts_disk d h]

def GetRes.eraseVP : GetRes → GetRes
  | .found e v => .found e.eraseVP v
  | r => r

theorem getAnswer_eraseVP (t : TxnM) (k : Bytes) (now : Nat) (snap : Option Ent) :
    (getAnswer t k now (snap.map Ent.eraseVP)).eraseVP = (getAnswer t k now snap).eraseVP := by
  unfold getAnswer
  -- only the branch without a pending write looks at `snap`; there `eraseVP` keeps liveness and version
  cases pendingHit t k with
  | some e => rfl
  | none =>
    cases snap with
    | none => rfl
    | some e =>
      simp only [Option.map_some, eraseVP_dead, apply_ite GetRes.eraseVP]
      simp only [GetRes.eraseVP, eraseVP_idem, eraseVP_ver]

theorem norm_txnGet (d : Db) (id : Nat) (k : Bytes) :
    (d.txnGet id k).1.norm = (d.norm.txnGet id k).1 ∧
    ((d.norm.txnGet id k).2).eraseVP = ((d.txnGet id k).2).eraseVP := by
  cases hf : d.findTxn id with
  | none =>
    rw [txnGet_none k hf, txnGet_none (d := d.norm) k hf]
    exact ⟨rfl, rfl⟩
  | some t =>
    rw [txnGet_eq k hf, txnGet_eq (d := d.norm) k hf]
    constructor
    · simp only
      split <;> rfl
    · simp only [norm_lsm, norm_now, C37_get_eraseVP]
      exact getAnswer_eraseVP t k d.now _

theorem flush_eraseVP (s : Lsm) (id : Nat) : (s.flush id).eraseVP = s.eraseVP.flush id := by
  unfold Lsm.flush
  rw [show s.eraseVP.mem.isEmpty = s.mem.isEmpty by simp [Lsm.eraseVP, eraseL]]
  split
  · rfl
  · cases hl : s.levels <;> simp [Lsm.eraseVP, hl, Tbl.eraseVP, eraseL]

theorem merge2_eraseL (a b : List Ent) : merge2 (eraseL a) (eraseL b) = eraseL (merge2 a b) := by
  fun_induction merge2 a b with
  | case1 | case2 => simp only [eraseL_nil, merge2_nil_left, merge2_nil_right]   -- one side is empty
  | case3 x xs y ys h ih | case4 x xs y ys h ih | case5 x xs y ys h ih =>   -- the heads compare `.lt`, `.eq`, `.gt`
    simp only [eraseL_cons, merge2_cons_cons, entCmp_eraseVP, h, ← ih]

theorem mergeAll_eraseL (srcs : List (List Ent)) :
    mergeAll (srcs.map eraseL) = eraseL (mergeAll srcs) := by
  unfold mergeAll
  rw [List.foldr_map]
  exact List.foldr_hom eraseL (init := []) merge2_eraseL

theorem eraseVP_ikey (e : Ent) : e.eraseVP.ikey = e.ikey := rfl

theorem parseItems_eraseL (o : IterOpts) (readTs now : Nat) (fuel : Nat) :
    (∀ e rest, parseItems.revFill o readTs now fuel e.eraseVP (eraseL rest) =
        eraseL (parseItems.revFill o readTs now fuel e rest)) ∧
    (∀ lk l, parseItems o readTs now fuel lk (eraseL l) = eraseL (parseItems o readTs now fuel lk l)) := by
  induction fuel with
  | zero =>
    constructor
    · intro e rest; simp [parseItems.revFill, eraseL]
    · intro lk l; simp [parseItems, eraseL]
  | succ f ih =>
    obtain ⟨ih1, ih2⟩ := ih
    -- unfold one round on both sides and push `eraseL` through the `if`s
    constructor
    · intro e rest
      cases rest with
      | nil =>
        simp only [eraseL_nil, parseItems.revFill, eraseVP_dead, apply_ite eraseL, ← ih2, eraseL_cons]
      | cons n rest' =>
        simp only [eraseL_cons, parseItems.revFill, eraseVP_dead, eraseVP_key, eraseVP_ver, apply_ite eraseL, ← ih1, ← ih2]
        rfl
    · intro lk l
      cases l with
      | nil => simp [parseItems, eraseL]
      | cons e rest =>
        simp only [eraseL_cons, parseItems, eraseVP_key, eraseVP_ver, eraseVP_ikey, eraseVP_dead, apply_ite eraseL,
          ← ih1, ← ih2, eraseL_nil]
        rfl

theorem seekList_eraseL (merged : List Ent) (o : IterOpts) (readTs : Nat) (seek : Option Bytes) :
    seekList (eraseL merged) o readTs seek = eraseL (seekList merged o readTs seek) := by
  rw [seekList_eq, seekList_eq]
  generalize seekKeyOf o seek = key
  unfold seekFrom
  have hc1 : ((fun e : Ent => kvCmp e.key e.ver key readTs == Ordering.lt) ∘ Ent.eraseVP) =
      (fun e : Ent => kvCmp e.key e.ver key readTs == Ordering.lt) := rfl
  have hc2 : ((fun e : Ent => kvCmp e.key e.ver key 0 == Ordering.gt) ∘ Ent.eraseVP) =
      (fun e : Ent => kvCmp e.key e.ver key 0 == Ordering.gt) := rfl
  simp only [eraseL, ← List.map_reverse, List.dropWhile_map, hc1, hc2]
  cases key.isEmpty <;> cases o.reverse <;> rfl

theorem validPrefix_eraseL (o : IterOpts) (items : List Ent) :
    validPrefix o (eraseL items) = eraseL (validPrefix o items) := by
  unfold validPrefix
  simp only [eraseL, List.takeWhile_map]
  rfl

theorem eraseL_flatten (X : List (List Ent)) : eraseL X.flatten = (X.map eraseL).flatten := by
  simp only [eraseL, List.map_flatten]
  rfl

theorem sources_eraseVP (s : Lsm) : s.eraseVP.sources = s.sources.map eraseL := by
  cases hl : s.levels <;>
    simp [Lsm.sources, Lsm.eraseVP, hl, eraseL_flatten, Function.comp_def, Tbl.eraseVP]

theorem scanOut_eraseL (o : IterOpts) (readTs now : Nat) (seek : Option Bytes) (M : List Ent) :
    scanOut o readTs now seek (eraseL M) = eraseL (scanOut o readTs now seek M) := by
  unfold scanOut
  rw [seekList_eraseL, (parseItems_eraseL o readTs now _).2, validPrefix_eraseL]
  simp only [eraseL, List.length_map]

theorem norm_iterate (d : Db) (id : Nat) (o : IterOpts) (seek : Option Bytes) :
    (d.norm.iterate id o seek).map eraseL = (d.iterate id o seek).map eraseL := by
  cases hf : d.findTxn id with
  | none => simp only [Db.iterate, norm_findTxn, hf]
  | some t =>
    rw [iterate_eq o seek hf, iterate_eq (d := d.norm) o seek hf, Option.map_some, Option.map_some,
      ← scanOut_eraseL, ← scanOut_eraseL, ← mergeAll_eraseL, ← mergeAll_eraseL, norm_lsm, sources_eraseVP,
      List.map_cons, List.map_cons, List.map_map, show eraseL ∘ eraseL = eraseL from funext eraseL_idem]
    rfl

theorem iterReads_eraseL (seek : Option Bytes) (items : List Ent) :
    iterReads seek (eraseL items) = iterReads seek items := by
  simp [iterReads, eraseL]

theorem smallest_eraseVP (t : Tbl) : t.eraseVP.smallest = t.smallest.map Ent.eraseVP := by
  simp [Tbl.smallest, Tbl.eraseVP, eraseL, List.head?_map]

theorem getD_map_levels (levels : List (List Tbl)) (i : Nat) :
    (levels.map (·.map Tbl.eraseVP)).getD i [] = (levels.getD i []).map Tbl.eraseVP := by
  simp only [List.getD_eq_getElem?_getD, List.getElem?_map]
  cases levels[i]? <;> rfl

theorem filtStep_eraseVP (p : CParams) (st : FState) (e : Ent) :
    filtStep p st e.eraseVP = filtStep p st e := by
  unfold filtStep
  rw [eraseVP_key, eraseVP_ver, eraseVP_dead, bitMerge_eq, bitDiscardEarlier_eq,
    hasBit_eraseVP e 3 (by decide), hasBit_eraseVP e 2 (by decide)]

theorem filtRun_eraseL (p : CParams) (st : FState) (es : List Ent) :
    filtRun p st (eraseL es) = eraseL (filtRun p st es) := by
  induction es generalizing st with
  | nil => rfl
  | cons e es ih =>
    simp only [eraseL, List.map_cons, filtRun, filtStep_eraseVP] at ih ⊢
    cases (filtStep p st e).2 <;> simp [ih]

theorem splitSizes_eraseL (ns : List Nat) (es : List Ent) :
    splitSizes ns (eraseL es) = (splitSizes ns es).map (·.map Tbl.eraseVP) := by
  induction ns generalizing es with
  | nil => cases es <;> rfl
  | cons n ns ih =>
    simp only [splitSizes, eraseL, List.length_map, ← List.map_drop, ← List.map_take] at ih ⊢
    split
    · rfl
    · rw [ih]
      cases splitSizes ns (es.drop n) <;> rfl

theorem withIds_eraseVP (ts : List Tbl) (ids : List Nat) :
    withIds (ts.map Tbl.eraseVP) ids = (withIds ts ids).map Tbl.eraseVP := by
  induction ts generalizing ids with
  | nil => cases ids <;> rfl
  | cons t ts ih => cases ids <;> simp only [List.map_cons, withIds, ih] <;> rfl

theorem insertBySmallest_eraseVP (t : Tbl) (l : List Tbl) :
    insertBySmallest t.eraseVP (l.map Tbl.eraseVP) = (insertBySmallest t l).map Tbl.eraseVP := by
  induction l with
  | nil => rfl
  | cons x xs ih =>
    simp only [List.map_cons, insertBySmallest, smallest_eraseVP]
    cases t.smallest <;> cases x.smallest <;>
      simp only [Option.map_some, Option.map_none, entCmp_eraseVP, ih, apply_ite (List.map Tbl.eraseVP), List.map_cons]

theorem sortBySmallest_eraseVP (l : List Tbl) :
    sortBySmallest (l.map Tbl.eraseVP) = (sortBySmallest l).map Tbl.eraseVP := by
  unfold sortBySmallest
  rw [List.foldr_map]
  exact List.foldr_hom (List.map Tbl.eraseVP) (init := []) insertBySmallest_eraseVP

theorem tblOverlaps_eraseVP (lo hi : Ent) (t : Tbl) :
    tblOverlaps lo.eraseVP hi.eraseVP t.eraseVP = tblOverlaps lo hi t := by
  unfold tblOverlaps
  rw [smallest_eraseVP, biggest_eraseVP]
  cases t.smallest <;> cases t.biggest <;> rfl

theorem foldl_pick_eraseVP (c : Ordering) (ss : List Ent) (s : Ent) :
    (ss.map Ent.eraseVP).foldl (fun a x => if entCmp x a == c then x else a) s.eraseVP =
      (ss.foldl (fun a x => if entCmp x a == c then x else a) s).eraseVP := by
  rw [List.foldl_map]
  exact List.foldl_hom Ent.eraseVP fun a x => (apply_ite Ent.eraseVP ..).symm

theorem filterMap_eraseVP (f : Tbl → Option Ent) (hf : ∀ t, f t.eraseVP = (f t).map Ent.eraseVP)
    (ts : List Tbl) :
    (ts.map Tbl.eraseVP).filterMap f = (ts.filterMap f).map Ent.eraseVP := by
  rw [List.filterMap_map, List.map_filterMap]
  exact congrArg (ts.filterMap ·) (funext hf)

theorem keyRangeOf_eraseVP (ts : List Tbl) :
    keyRangeOf (ts.map Tbl.eraseVP) = (keyRangeOf ts).map (fun p => (p.1.eraseVP, p.2.eraseVP)) := by
  unfold keyRangeOf
  rw [filterMap_eraseVP _ smallest_eraseVP, filterMap_eraseVP _ biggest_eraseVP]
  cases ts.filterMap (·.smallest) with
  | nil => rfl
  | cons s ss =>
    cases ts.filterMap (·.biggest) with
    | nil => rfl
    | cons b bs =>
      simp only [List.map_cons, foldl_pick_eraseVP, Option.map_some]
      rfl

theorem checkOverlap_eraseVP (s : Lsm) (tables : List Tbl) (lev : Nat) :
    checkOverlap s.eraseVP (tables.map Tbl.eraseVP) lev = checkOverlap s tables lev := by
  unfold checkOverlap
  rw [keyRangeOf_eraseVP]
  cases keyRangeOf tables with
  | none => rfl
  | some p =>
    obtain ⟨lo, hi⟩ := p
    simp only [Option.map_some, Lsm.eraseVP, zipIdx_map, List.any_map, Function.comp_def, tblOverlaps_eraseVP]

theorem skippedByKeepTable_eraseVP (dp : List Bytes) (t : Tbl) :
    skippedByKeepTable dp t.eraseVP = skippedByKeepTable dp t := by
  unfold skippedByKeepTable
  rw [smallest_eraseVP, biggest_eraseVP]
  cases t.smallest <;> cases t.biggest <;> rfl

theorem cdThisT_eraseVP (s : Lsm) (cd : CompactDef) : cdThisT s.eraseVP cd = (cdThisT s cd).map Tbl.eraseVP :=
  getD_map_levels ..

theorem cdNextT_eraseVP (s : Lsm) (cd : CompactDef) : cdNextT s.eraseVP cd = (cdNextT s cd).map Tbl.eraseVP :=
  getD_map_levels ..

theorem cdTops_eraseVP (s : Lsm) (cd : CompactDef) : cdTops s.eraseVP cd = (cdTops s cd).map Tbl.eraseVP := by
  rw [cdTops, cdThisT_eraseVP, pickIdx_map]; rfl

theorem cdBots_eraseVP (s : Lsm) (cd : CompactDef) : cdBots s.eraseVP cd = (cdBots s cd).map Tbl.eraseVP := by
  rw [cdBots, cdNextT_eraseVP, pickIdx_map]; rfl

theorem map_ents_eraseVP (l : List Tbl) : (l.map Tbl.eraseVP).map (·.ents) = (l.map (·.ents)).map eraseL := by
  simp only [List.map_map]; rfl

theorem validEnts_eraseVP (s : Lsm) (cd : CompactDef) : DG.validEnts s.eraseVP cd = eraseL (DG.validEnts s cd) := by
  rw [DG.validEnts, cdBots_eraseVP, List.filter_map, map_ents_eraseVP, ← eraseL_flatten]
  simp only [Function.comp_def, skippedByKeepTable_eraseVP]
  rfl

theorem mergedV_eraseVP (s : Lsm) (cd : CompactDef) : PF.mergedV s.eraseVP cd = eraseL (PF.mergedV s cd) := by
  rw [PF.mergedV, PF.mergedV, ← mergeAll_eraseL, cdTops_eraseVP, validEnts_eraseVP, ← List.map_reverse,
    map_ents_eraseVP, map_ents_eraseVP, List.map_append, apply_ite (List.map eraseL)]
  rfl

theorem keyRange_eraseVP (t : Tbl) : t.eraseVP.keyRange = t.keyRange := by
  unfold Tbl.keyRange
  rw [smallest_eraseVP, biggest_eraseVP]
  cases t.smallest <;> cases t.biggest <;> rfl

theorem rangeOfTables_eraseVP (l : List Tbl) : rangeOfTables (l.map Tbl.eraseVP) = rangeOfTables l := by
  unfold rangeOfTables
  rw [List.foldl_map]
  simp only [keyRange_eraseVP]

theorem cdHasOverlap_eraseVP (s : Lsm) (cd : CompactDef) : LL.cdHasOverlap s.eraseVP cd = LL.cdHasOverlap s cd := by
  rw [LL.cdHasOverlap, cdTops_eraseVP, cdBots_eraseVP, ← List.map_append, checkOverlap_eraseVP]
  rfl

theorem compactOutput_eraseVP (s : Lsm) (cd : CompactDef) (dts nk now : Nat) :
    compactOutput s.eraseVP cd dts nk now =
      (eraseL (compactOutput s cd dts nk now).1, (compactOutput s cd dts nk now).2) := by
  rw [PF.compactOutput_eq, PF.compactOutput_eq, mergedV_eraseVP, DG.params, cdHasOverlap_eraseVP]
  simp only [subcompact, filtRun_eraseL]
  rfl

theorem newLevels_eraseVP (s : Lsm) (cd : CompactDef) (new0 : List Tbl) :
    LL.newLevels s.eraseVP cd (new0.map Tbl.eraseVP) = (LL.newLevels s cd new0).map (·.map Tbl.eraseVP) := by
  have hl : s.eraseVP.levels = s.levels.map (·.map Tbl.eraseVP) := rfl
  simp only [LL.newLevels, LL.newNext, cdThisT_eraseVP, cdNextT_eraseVP, withIds_eraseVP, removeIdx_map,
    ← List.map_append, sortBySmallest_eraseVP, hl, ← List.map_set]

theorem compact_eraseVP (s : Lsm) (cd : CompactDef) (dts nk now : Nat) :
    s.eraseVP.compact cd dts nk now = (s.compact cd dts nk now).map Lsm.eraseVP := by
  rw [LL.compact_eq, LL.compact_eq, compactOutput_eraseVP, splitSizes_eraseL, Option.map_map, Option.map_map]
  refine congrArg (Option.map · _) (funext fun new0 => ?_)
  rw [Function.comp, newLevels_eraseVP]
  rfl

theorem norm_step_compact (d : Db) (cd : CompactDef) :
    (d.step (.compact cd)).norm = (d.norm.step (.compact cd)).norm := by
  simp only [Db.step]
  rw [show d.norm.lsm.compact cd d.norm.discardAtOrBelow d.norm.opts.numKeep d.norm.now =
      (d.lsm.compact cd d.discardAtOrBelow d.opts.numKeep d.now).map Lsm.eraseVP from compact_eraseVP d.lsm cd _ _ _]
  cases d.lsm.compact cd d.discardAtOrBelow d.opts.numKeep d.now with
  | none => exact (norm_idem d).symm
  | some l => simp only [Option.map_some, Db.norm, Lsm.eraseVP_idem]

/-- operations covered by the simulation proof (everything except `DropAll`) -/
def Op.covered : Op → Bool
  | .dropAll => false    -- in memory `DropAll` also resets the threshold (finding F18)
  | _ => true

theorem norm_step_iter (d : Db) (id : Nat) (o : IterOpts) (seek : Option Bytes) :
    (d.step (.iter id o seek)).norm = d.norm.step (.iter id o seek) := by
  have hi := congrArg (Option.map (iterReads seek)) (norm_iterate d id o seek)
  simp only [Option.map_map, Function.comp_def, iterReads_eraseL] at hi
  simp only [Db.step, norm_findTxn]
  -- by `hi` both iterations fail together or record the same reads, so `step` takes the same branch
  cases h1 : d.iterate id o seek <;> cases h2 : d.norm.iterate id o seek <;>
    simp only [h1, h2, Option.map_some, Option.map_none, Option.some.injEq, reduceCtorEq] at hi
  · rfl
  · cases d.findTxn id with
    | none => rfl
    | some t => simp only [hi]; split <;> rfl

theorem norm_eq_norm_of_eq {a b : Db} (h : a.norm = b) : a.norm = b.norm := by rw [← h, norm_idem]

theorem C37_step_norm (d : Db) (op : Op) (hc : op.covered = true)
    (hset : ∀ id e, op = .set id e → (d.modify id e).2 = (d.norm.modify id e).2) :
    (d.step op).norm = (d.norm.step op).norm := by
  cases op with
  | begin id u m => exact norm_eq_norm_of_eq (norm_begin d id u m).1
  | set id e => exact norm_eq_norm_of_eq (norm_modify d id e (hset id e rfl))
  | get id k => exact norm_eq_norm_of_eq (norm_txnGet d id k).1
  | commit id m => exact (norm_commit d id m).1
  | discard id => exact norm_eq_norm_of_eq (norm_discardTxn d id)
  | iter id o seek => exact norm_eq_norm_of_eq (norm_step_iter d id o seek)
  | flush id => simp only [Db.step, Db.norm, flush_eraseVP, Lsm.eraseVP_idem]
  | setNow t => simp only [Db.step, Db.norm, Lsm.eraseVP_idem]
  | setDiscard ts =>
    simp only [Db.step, norm_cleanup]
    congr 1
    simp only [Db.norm, Lsm.eraseVP_idem]
  | compact cd => exact norm_step_compact d cd
  | dropAll => cases hc
  | dropPrefix n => rw [step_dropPrefix, step_dropPrefix]; exact (norm_idem _).symm

theorem C37_init (o : Opts) (now : Nat) :
    (Db.init { o with inMemory := true } now).norm = (Db.init { o with inMemory := false } now).norm := rfl

/-- **Simulation step.** An in-memory and an on-disk database that agree up to `norm` still
    agree after the same operation, provided a `set` is accepted or rejected alike in both
    modes (the in-memory mode additionally rejects values longer than the threshold). -/
theorem C37_same_reads (dI dD : Db) (op : Op) (h : dI.norm = dD.norm) (hD : dD.opts.inMemory = false)
    (hc : op.covered = true)
    (hset : ∀ id e, op = .set id e → (dI.modify id e).2 = (dD.modify id e).2) :
    (dI.step op).norm = (dD.step op).norm := by
  rw [C37_step_norm dI op hc, C37_step_norm dD op hc, h]
  · intro id e _; exact (modify_verdict_disk dD id e hD).symm
  · intro id e he
    rw [hset id e he, h]; exact (modify_verdict_disk dD id e hD).symm

/-- …hence equal read results modulo the value-pointer bit: `DB.get`, `Txn.Get`, iterators. -/
theorem C37_same_get (dI dD : Db) (h : dI.norm = dD.norm) :
    (∀ k ts, (dI.lsm.get k ts).map Ent.eraseVP = (dD.lsm.get k ts).map Ent.eraseVP) ∧
    (∀ id k, ((dI.txnGet id k).2).eraseVP = ((dD.txnGet id k).2).eraseVP) ∧
    (∀ id o seek, (dI.iterate id o seek).map eraseL = (dD.iterate id o seek).map eraseL) := by
  refine ⟨?_, ?_, ?_⟩
  · intro k ts
    rw [← C37_get_eraseVP, ← C37_get_eraseVP]
    have : dI.norm.lsm = dD.norm.lsm := by rw [h]
    exact congrArg (fun s => s.get k ts) this
  · intro id k
    rw [← (norm_txnGet dI id k).2, ← (norm_txnGet dD id k).2, h]
  · intro id o seek
    rw [← norm_iterate dI, ← norm_iterate dD, h]

/-- the `set` verdicts agree along a whole run -/
def Agree : Db → Db → List Op → Prop
  | _, _, [] => True
  | dI, dD, op :: ops =>
    op.covered = true ∧ (∀ id e, op = .set id e → (dI.modify id e).2 = (dD.modify id e).2) ∧
      Agree (dI.step op) (dD.step op) ops

/-- **Simulation over histories**: for every operation sequence accepted alike in both modes the
    final states agree up to the value-pointer bit. -/
theorem C37_same_reads_run (dI dD : Db) (ops : List Op) (h : dI.norm = dD.norm)
    (hD : dD.opts.inMemory = false) (ha : Agree dI dD ops) :
    (dI.run ops).norm = (dD.run ops).norm := by
  induction ops generalizing dI dD with
  | nil => exact h
  | cons op ops ih =>
    obtain ⟨hc, hset, ha'⟩ := ha
    simp only [Db.run, List.foldl_cons]
    exact ih _ _ (C37_same_reads dI dD op h hD hc hset) (by rw [(step_inv dD op).inMemory]; exact hD) ha'

-- non-vacuity: the same history in both modes (value of 3 bytes, threshold 3: the `set` is accepted in
-- both modes, the value becomes a pointer on disk and stays inline in memory)
example :
    let ops : List Op := [.begin 1 true 0,
      .set 1 { key := [0x61], ver := 0, emeta := 0, umeta := 7, exp := 0, val := [1, 2, 3] },
      .commit 1 0, .flush 1, .begin 2 false 0, .get 2 [0x61]]
    let dI := Db.init { inMemory := true, threshold := 3, maxBatchCount := 100, maxBatchSize := 100000 } 0
    let dD := Db.init { inMemory := false, threshold := 3, maxBatchCount := 100, maxBatchSize := 100000 } 0
    ((dI.run ops).lsm.get [0x61] 1).map (·.emeta) = some 64 ∧
    ((dD.run ops).lsm.get [0x61] 1).map (·.emeta) = some 66 ∧
    ((dI.run ops).lsm.get [0x61] 1).map (·.eraseVP.val) = ((dD.run ops).lsm.get [0x61] 1).map (·.eraseVP.val) := by
  decide

end Badger
