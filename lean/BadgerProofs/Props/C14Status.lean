import BadgerProofs.Lemmas.CompactStatus
import BadgerProofs.Lemmas.IterOrder
import BadgerProofs.Props.C20
/-!
# C14 / C12 — concurrently running compactions are kept apart by `compactStatus`

Model: `BadgerModel/CompactStatus.lean` (compaction.go `compareAndAdd`, `delete`, `overlapsWith`,
and the registration at the end of `fillTablesL0ToL0`). `Reach n cs fl` = the status `cs` after any
history of admissions (`accept`), refusals (`refuse`), deletions (`delete`) and L0→L0 registrations
that found tables (`l0l0`) or none (`l0l0No`), starting from `init`, with the ghost list `fl` of the
compactions in flight.

Hypotheses on the history (what the callers in levels.go guarantee, checked on the real callers by
the harness): ranges handed to `compareAndAdd` are `Proper` (non-empty, not `inf`, left ≤ right:
`getKeyRange`), a same-level compaction (Lmax→Lmax) passes `nextRange = thisRange`
(see `C14_cstatus_lmax_leak_witness` for what happens otherwise), the tables of an admitted
compaction are distinct and belong to no compaction in flight, `delete` is called for compactions
in flight only, and at most one L0→L0 compaction runs at a time (compactor 0 only).
-/
namespace Badger.CS
open Badger

/-- A compaction in flight: what was registered for it. `l0` = registered by `fillTablesL0ToL0`. -/
structure Ent where
  cd : CDef
  l0 : Bool
deriving DecidableEq

def regAt (l : Nat) (e : Ent) : List KeyRange :=
  if e.l0 then (if l = 0 then [infRange] else []) else rangesAt l e.cd

/-- What `getKeyRange` returns: not empty, not infinite, left ≤ right. -/
def Proper (r : KeyRange) : Prop := r.isEmpty = false ∧ r.inf = false ∧ compareKeys r.left r.right ≠ .gt

/-- The two closed key intervals have no key in common. -/
def Apart (a b : KeyRange) : Prop := compareKeys a.right b.left = .lt ∨ compareKeys b.right a.left = .lt

def NoOv (a b : Ent) : Prop :=
  ∀ l, ∀ ra ∈ regAt l a, ∀ rb ∈ regAt l b, ra.overlapsWith rb = false ∨ rb.overlapsWith ra = false

def Sep (a b : Ent) : Prop := a.l0 = true ∨ b.l0 = true ∨ NoOv a b

def IdsDisj (a b : Ent) : Prop := ∀ id, id ∈ a.cd.ids → id ∉ b.cd.ids

def ShapeC (n : Nat) (cd : CDef) : Prop :=
  cd.thisLevel < n ∧ cd.nextLevel < n ∧ Proper cd.thisRange ∧ Proper cd.nextRange ∧
  (cd.thisLevel = cd.nextLevel → cd.nextRange = cd.thisRange)

def Shape (n : Nat) (e : Ent) : Prop :=
  if e.l0 then e.cd = l0l0Def e.cd.ids ∧ 0 < n else ShapeC n e.cd

/-- `fl` accounts for `cs` exactly: the registered ranges and table ids are those of its entries
(`sound` / `complete`), which are pairwise separated and id-disjoint; at most one is L0→L0. -/
structure Inv (n : Nat) (cs : CStatus) (fl : List Ent) : Prop where
  len : cs.levels.length = n
  sound : ∀ e ∈ fl, ∀ l, ∀ r ∈ regAt l e, r ∈ (cs.level l).ranges
  complete : ∀ l, ∀ r ∈ (cs.level l).ranges, ∃ e ∈ fl, r ∈ regAt l e
  idsSound : ∀ e ∈ fl, ∀ id ∈ e.cd.ids, id ∈ cs.tables
  idsComplete : ∀ id ∈ cs.tables, ∃ e ∈ fl, id ∈ e.cd.ids
  sep : fl.Pairwise Sep
  idsDisj : fl.Pairwise IdsDisj
  idsNodup : ∀ e ∈ fl, e.cd.ids.Nodup
  shape : ∀ e ∈ fl, Shape n e
  oneL0 : fl.Pairwise (fun a b => ¬(a.l0 = true ∧ b.l0 = true))

inductive Reach (n : Nat) : CStatus → List Ent → Prop
  | init : Reach n (CStatus.init n) []
  | accept {cs cs' fl cd} : Reach n cs fl → ShapeC n cd → cd.ids.Nodup → (∀ id ∈ cd.ids, id ∉ cs.tables) →
      cs.compareAndAdd cd = some (cs', true) → Reach n cs' (fl ++ [⟨cd, false⟩])
  | refuse {cs cs' fl cd} : Reach n cs fl → cs.compareAndAdd cd = some (cs', false) → Reach n cs' fl
  | delete {cs cs' fl e} : Reach n cs fl → e ∈ fl → cs.delete e.cd = some cs' → Reach n cs' (fl.filter (· ≠ e))
  | l0l0 {cs cs' fl cands out} : Reach n cs fl → 0 < n → (∀ e ∈ fl, e.l0 = false) → cands.Nodup →
      cs.l0l0 cands = (cs', some out) → Reach n cs' (fl ++ [⟨l0l0Def out, true⟩])
  | l0l0No {cs cs' fl cands} : Reach n cs fl → cs.l0l0 cands = (cs', none) → Reach n cs' fl

theorem apart_of_overlap_false {a b : KeyRange} (hb : b.isEmpty = false)
    (h : a.overlapsWith b = false) : Apart a b := by
  revert h
  fun_cases KeyRange.overlapsWith a b <;> intro h <;> cases h
  case case2 _ hbe => rw [hb] at hbe; cases hbe  -- `b` empty
  case case4 c1 => exact Or.inr ((compareKeys_total.gt_iff _ _).mp (beq_iff_eq.mp c1))  -- `a` begins after `b` ends
  case case5 c2 => exact Or.inl (beq_iff_eq.mp c2)  -- `a` ends before `b` begins

theorem apart_of_not_overlap {a b : KeyRange} (ha : a.isEmpty = false) (hb : b.isEmpty = false)
    (h : a.overlapsWith b = false ∨ b.overlapsWith a = false) : Apart a b :=
  h.elim (apart_of_overlap_false hb) (fun h => Or.symm (apart_of_overlap_false ha h))

theorem sep_symm : ∀ {a b : Ent}, Sep a b → Sep b a := by
  intro a b h
  rcases h with h | h | h
  · exact Or.inr (Or.inl h)
  · exact Or.inl h
  · exact Or.inr (Or.inr (fun l rb hb ra ha => (h l ra ha rb hb).symm))

theorem idsDisj_symm : ∀ {a b : Ent}, IdsDisj a b → IdsDisj b a := fun h id hb ha => h id ha hb

theorem inv_init (n : Nat) : Inv n (CStatus.init n) [] := by
  refine ⟨by simp [CStatus.init], by simp, ?_, by simp, by simp [CStatus.init], by simp, by simp, by simp, by simp, by simp⟩
  intro l r hr
  simp only [CStatus.level, CStatus.init, List.getD_eq_getElem?_getD] at hr
  by_cases h : l < n <;> simp [h] at hr

theorem regAt_false {e : Ent} (h0 : e.l0 = false) (l : Nat) : regAt l e = rangesAt l e.cd := by simp [regAt, h0]

theorem regAt_l0 {e : Ent} (h0 : e.l0 = true) (l : Nat) : regAt l e = if l = 0 then [infRange] else [] := by
  simp [regAt, h0]

theorem reg_proper {n : Nat} {e : Ent} (hs : Shape n e) (h0 : e.l0 = false) {l : Nat} {r : KeyRange}
    (hr : r ∈ regAt l e) : Proper r := by
  unfold Shape at hs; simp only [h0, Bool.false_eq_true, if_false] at hs
  rw [regAt_false h0] at hr
  rcases mem_rangesAt.mp hr with ⟨_, rfl⟩ | ⟨_, rfl⟩
  · exact hs.2.2.1
  · exact hs.2.2.2.1

theorem Inv.push {n : Nat} {cs cs' : CStatus} {fl : List Ent} {e : Ent} (hi : Inv n cs fl)
    (hlen : cs'.levels.length = cs.levels.length)
    (hr : ∀ l, (cs'.level l).ranges = (cs.level l).ranges ++ regAt l e)
    (ht : ∀ x, x ∈ cs'.tables ↔ x ∈ e.cd.ids ∨ x ∈ cs.tables)
    (hsep : ∀ a ∈ fl, Sep a e) (hfresh : ∀ id ∈ e.cd.ids, id ∉ cs.tables) (hnd : e.cd.ids.Nodup)
    (hshape : Shape n e) (hone : e.l0 = true → ∀ a ∈ fl, a.l0 = false) :
    Inv n cs' (fl ++ [e]) := by
  have hmem : ∀ {p : Ent → Prop}, (∀ a ∈ fl, p a) → p e → ∀ a ∈ fl ++ [e], p a := by
    intro p h1 h2 a ha
    rcases List.mem_append.mp ha with ha | ha
    · exact h1 a ha
    · rw [List.mem_singleton.mp ha]; exact h2
  have hpair : ∀ {R : Ent → Ent → Prop}, fl.Pairwise R → (∀ a ∈ fl, R a e) → (fl ++ [e]).Pairwise R := by
    intro R h1 h2
    rw [List.pairwise_append]
    exact ⟨h1, List.pairwise_singleton _ _, fun a ha b hb => by rw [List.mem_singleton.mp hb]; exact h2 a ha⟩
  -- each field is the old one plus the share of `e`: `hmem` extends a `∀ a ∈ fl`, `hpair` a `Pairwise`
  refine ⟨hlen.trans hi.len, ?_, ?_, ?_, ?_, hpair hi.sep hsep, hpair hi.idsDisj ?_,
    hmem hi.idsNodup hnd, hmem hi.shape hshape, hpair hi.oneL0 ?_⟩
  · refine hmem (fun a ha l r hra => ?_) (fun l r hre => ?_)
    · rw [hr l]; exact List.mem_append_left _ (hi.sound a ha l r hra)
    · rw [hr l]; exact List.mem_append_right _ hre
  · intro l r hrr
    rw [hr l] at hrr
    rcases List.mem_append.mp hrr with h1 | h1
    · obtain ⟨a, ha, hra⟩ := hi.complete l r h1
      exact ⟨a, List.mem_append_left _ ha, hra⟩
    · exact ⟨e, by simp, h1⟩
  · exact hmem (fun a ha id hid => (ht id).mpr (Or.inr (hi.idsSound a ha id hid)))
      (fun id hid => (ht id).mpr (Or.inl hid))
  · intro id hid
    rcases (ht id).mp hid with h1 | h1
    · exact ⟨e, by simp, h1⟩
    · obtain ⟨a, ha, hia⟩ := hi.idsComplete id h1
      exact ⟨a, List.mem_append_left _ ha, hia⟩
  · exact fun a ha id hida hide => hfresh id hide (hi.idsSound a ha id hida)
  · exact fun a ha h => by rw [hone h.2 a ha] at h; exact Bool.false_ne_true h.1

theorem inv_accept {n : Nat} {cs cs' : CStatus} {fl : List Ent} {cd : CDef} (hi : Inv n cs fl)
    (hs : ShapeC n cd) (hn : cd.ids.Nodup) (hf : ∀ id ∈ cd.ids, id ∉ cs.tables)
    (h : cs.compareAndAdd cd = some (cs', true)) : Inv n cs' (fl ++ [⟨cd, false⟩]) := by
  obtain ⟨hlen, _, _, ho1, ho2, hr, ht⟩ := caa_spec h
  refine hi.push hlen (fun l => by rw [hr l, regAt_false rfl]) ht ?_ hf hn (by simpa [Shape] using hs)
    (fun h => by cases h)
  intro a ha
  -- `compareAndAdd` tested both new ranges against every registered range, and those of `a` are registered
  refine Or.inr (Or.inr fun l ra hra rb hrb => Or.inl ?_)
  have hra' := hi.sound a ha l ra hra
  rw [regAt_false rfl] at hrb
  rcases mem_rangesAt.mp hrb with ⟨rfl, rfl⟩ | ⟨rfl, rfl⟩
  · simp only [LevelCS.overlapsWith, List.any_eq_false] at ho1
    simpa using ho1 ra hra'
  · simp only [LevelCS.overlapsWith, List.any_eq_false] at ho2
    simpa using ho2 ra hra'

theorem inv_l0l0 {n : Nat} {cs cs' : CStatus} {fl : List Ent} {cands out : List Nat} (hi : Inv n cs fl)
    (hn0 : 0 < n) (hno : ∀ e ∈ fl, e.l0 = false) (hnd : cands.Nodup)
    (h : cs.l0l0 cands = (cs', some out)) : Inv n cs' (fl ++ [⟨l0l0Def out, true⟩]) := by
  obtain ⟨hlen, hout, hr, ht⟩ := l0l0_spec h
  have hpos : 0 < cs.levels.length := by rw [hi.len]; exact hn0
  refine hi.push hlen (fun l => ?_) ht (fun a _ => Or.inr (Or.inl rfl)) ?_ ?_
    (by simp [Shape, hn0, l0l0Def]) (fun _ => hno)
  · rw [hr l, regAt_l0 rfl]; simp [hpos]
  · intro id hid
    rw [show (l0l0Def out).ids = out from rfl, hout, List.mem_filter] at hid
    simpa using hid.2
  · rw [show (l0l0Def out).ids = out from rfl, hout]; exact hnd.filter _

theorem mem_delAt_iff {n : Nat} {e : Ent} (hs : Shape n e) (l : Nat) (r : KeyRange) :
    r ∈ delAt l e.cd ↔ r ∈ regAt l e := by
  unfold Shape at hs
  cases h0 : e.l0
  · simp only [h0, Bool.false_eq_true, if_false] at hs
    obtain ⟨_, _, _, hp, heq⟩ := hs
    simp only [regAt_false h0, mem_rangesAt, delAt, List.mem_append]
    by_cases c : e.cd.thisLevel = e.cd.nextLevel
    · have := heq c
      -- same level: `delete` skips `nextRange`; it equals `thisRange`, and `remove` drops every equal range
      by_cases a : e.cd.thisLevel = l
      · have b : e.cd.nextLevel = l := c ▸ a
        simp [a, b, this]
      · have b : ¬ e.cd.nextLevel = l := c ▸ a
        simp [a, b]
    · -- different levels: `delete` skips `nextRange` only when it is empty, and a proper range is not
      by_cases a : e.cd.thisLevel = l <;> by_cases b : e.cd.nextLevel = l <;> simp [a, b, c, hp.1]
      exact absurd (a.trans b.symm) c
  · simp only [h0, if_true] at hs
    rw [hs.1]
    simp only [regAt_l0 h0, delAt, l0l0Def]
    by_cases a : l = 0
    · subst a; simp
    · have : ¬ 0 = l := fun h => a h.symm
      simp [a, this]

theorem not_proper_of_l0 {e : Ent} (h0 : e.l0 = true) {l : Nat} {r : KeyRange} (hr : r ∈ regAt l e) :
    ¬ Proper r := by
  rw [regAt_l0 h0] at hr
  by_cases hl : l = 0
  · simp only [hl, if_true, List.mem_singleton] at hr
    subst hr; simp [Proper, infRange]
  · simp [hl] at hr

theorem Inv.apart {n : Nat} {cs : CStatus} {fl : List Ent} (hi : Inv n cs fl) {a b : Ent}
    (ha : a ∈ fl) (hb : b ∈ fl) (hne : a ≠ b) (ha0 : a.l0 = false) (hb0 : b.l0 = false)
    {l : Nat} {ra rb : KeyRange} (hra : ra ∈ regAt l a) (hrb : rb ∈ regAt l b) : Apart ra rb := by
  rcases (pairwise_sym_forall (fun h => sep_symm h) hi.sep ha hb).resolve_left hne with h | h | h
  · simp [ha0] at h
  · simp [hb0] at h
  · exact apart_of_not_overlap (reg_proper (hi.shape a ha) ha0 hra).1 (reg_proper (hi.shape b hb) hb0 hrb).1
      (h l ra hra rb hrb)

theorem reg_distinct {n : Nat} {cs : CStatus} {fl : List Ent} (hi : Inv n cs fl) {a b : Ent}
    (ha : a ∈ fl) (hb : b ∈ fl) (hne : a ≠ b) {l : Nat} {r : KeyRange} (hra : r ∈ regAt l a) : r ∉ regAt l b := by
  intro hrb
  cases ha0 : a.l0 <;> cases hb0 : b.l0
  · -- a proper range is not apart from itself
    exact (reg_proper (hi.shape a ha) ha0 hra).2.2 ((compareKeys_total.gt_iff _ _).mpr
      ((hi.apart ha hb hne ha0 hb0 hra hrb).elim id id))
  · exact not_proper_of_l0 hb0 hrb (reg_proper (hi.shape a ha) ha0 hra)
  · exact not_proper_of_l0 ha0 hra (reg_proper (hi.shape b hb) hb0 hrb)
  · exact (pairwise_sym_forall (R := fun a b => ¬(a.l0 = true ∧ b.l0 = true))
      (fun h hc => h ⟨hc.2, hc.1⟩) hi.oneL0 ha hb).resolve_left hne ⟨ha0, hb0⟩

theorem inv_delete {n : Nat} {cs cs' : CStatus} {fl : List Ent} {e0 : Ent} (hi : Inv n cs fl)
    (he0 : e0 ∈ fl) (h : cs.delete e0.cd = some cs') : Inv n cs' (fl.filter (· ≠ e0)) := by
  obtain ⟨hlen, hr, ht⟩ := delete_spec h
  have hshape := hi.shape e0 he0
  have hids : cs'.tables = cs.tables.filter (fun x => decide (x ∉ e0.cd.ids)) := by
    have := delIds_eq e0.cd.ids cs.tables (hi.idsNodup e0 he0) (hi.idsSound e0 he0)
    rw [this] at ht; exact (Option.some.inj ht).symm
  have hmem : ∀ e, e ∈ fl.filter (· ≠ e0) ↔ e ∈ fl ∧ e ≠ e0 := by
    intro e; simp [List.mem_filter]
  refine ⟨hlen.trans hi.len, ?_, ?_, ?_, ?_, hi.sep.filter _, hi.idsDisj.filter _, ?_, ?_, hi.oneL0.filter _⟩
  · intro e he l r hre
    obtain ⟨he, hne⟩ := (hmem e).mp he
    rw [hr l r]
    refine ⟨hi.sound e he l r hre, ?_⟩
    rw [mem_delAt_iff hshape]
    -- a range of another entry is none of `e0`'s, so `delete` leaves it
    exact reg_distinct hi he he0 hne hre
  · intro l r hrr
    obtain ⟨h1, h2⟩ := (hr l r).mp hrr
    rw [mem_delAt_iff hshape] at h2
    obtain ⟨e, he, hre⟩ := hi.complete l r h1
    refine ⟨e, (hmem e).mpr ⟨he, ?_⟩, hre⟩
    intro heq; subst heq; exact h2 hre
  · intro e he id hid
    obtain ⟨he, hne⟩ := (hmem e).mp he
    rw [hids, List.mem_filter]
    refine ⟨hi.idsSound e he id hid, ?_⟩
    have := (pairwise_sym_forall (fun h => idsDisj_symm h) hi.idsDisj he he0).resolve_left hne id hid
    simpa using this
  · intro id hid
    rw [hids, List.mem_filter] at hid
    obtain ⟨e, he, hie⟩ := hi.idsComplete id hid.1
    refine ⟨e, (hmem e).mpr ⟨he, ?_⟩, hie⟩
    intro heq; subst heq; simp [hie] at hid
  · intro e he; exact hi.idsNodup e ((hmem e).mp he).1
  · intro e he; exact hi.shape e ((hmem e).mp he).1

theorem delete_ok {n : Nat} {cs : CStatus} {fl : List Ent} {e0 : Ent} (hi : Inv n cs fl) (he0 : e0 ∈ fl) :
    (cs.delete e0.cd).isSome := by
  have hshape := hi.shape e0 he0
  have hreg : ∀ l r, r ∈ delAt l e0.cd → r ∈ (cs.level l).ranges := fun l r h =>
    hi.sound e0 he0 l r ((mem_delAt_iff hshape l r).mp h)
  have hlv : e0.cd.thisLevel < cs.levels.length ∧ e0.cd.nextLevel < cs.levels.length := by
    rw [hi.len]
    unfold Shape at hshape
    cases h0 : e0.l0
    · simp only [h0, Bool.false_eq_true, if_false] at hshape; exact ⟨hshape.1, hshape.2.1⟩
    · simp only [h0, if_true] at hshape; rw [hshape.1]; exact ⟨hshape.2, hshape.2⟩
  apply delete_isSome hlv
  · exact hreg _ _ (by simp [delAt])
  · intro h1 h2; exact hreg _ _ (by simp [delAt, h1, h2])
  · rw [delIds_eq e0.cd.ids cs.tables (hi.idsNodup e0 he0) (hi.idsSound e0 he0)]; rfl

end Badger.CS

namespace Badger
open Badger.CS

theorem C14_cstatus_inv {n : Nat} {cs : CStatus} {fl : List Ent} (h : Reach n cs fl) : Inv n cs fl := by
  induction h with
  | init => exact inv_init n
  | accept _ hs hn hf hc ih => exact inv_accept ih hs hn hf hc
  | refuse _ hc ih => exact (caa_spec hc : _ = _) ▸ ih
  | delete _ he hd ih => exact inv_delete ih he hd
  | l0l0 _ hn0 hno hnd hl ih => exact inv_l0l0 ih hn0 hno hnd hl
  | l0l0No _ hl ih => exact (l0l0_spec hl : _ = _) ▸ ih

/-- Two different compactions in flight that were admitted by `compareAndAdd` never
have key ranges with a common key registered on the same level — whatever the order of admissions,
refusals and deletions before. (An L0→L0 compaction registers `infRange` without a test; for it the
guarantee is `C14_cstatus_tables_disjoint` and `C14_cstatus_l0l0_blocks`.) -/
theorem C14_cstatus_exclusive {n : Nat} {cs : CStatus} {fl : List Ent} (h : Reach n cs fl) {a b : Ent}
    (ha : a ∈ fl) (hb : b ∈ fl) (hne : a ≠ b) (ha0 : a.l0 = false) (hb0 : b.l0 = false)
    {l : Nat} {ra rb : KeyRange} (hra : ra ∈ regAt l a) (hrb : rb ∈ regAt l b) : Apart ra rb :=
  (C14_cstatus_inv h).apart ha hb hne ha0 hb0 hra hrb

/-- Key `k` (an internal key) lies in the closed interval of `r`, by `y.CompareKeys`. -/
def Within (r : KeyRange) (k : Bytes) : Prop := compareKeys k r.left ≠ .lt ∧ compareKeys r.right k ≠ .lt

theorem apart_no_common_key {ra rb : KeyRange} (h : Apart ra rb) (k : Bytes) : ¬(Within ra k ∧ Within rb k) := by
  rintro ⟨⟨a1, a2⟩, ⟨b1, b2⟩⟩
  rcases h with h | h
  · exact b1 (compareKeys_total.lt_of_not_lt_of_lt a2 h)
  · exact a1 (compareKeys_total.lt_of_not_lt_of_lt b2 h)

/-- Key-level reading of the mutual exclusion: no internal key lies inside the registered ranges of two
different `compareAndAdd`-admitted compactions on one level — so tables whose keys lie inside the
ranges registered for them (what `getKeyRange` over `cd.top` / `cd.bot` guarantees) are touched by at
most one running compaction. -/
theorem C14_cstatus_no_common_key {n : Nat} {cs : CStatus} {fl : List Ent} (h : Reach n cs fl) {a b : Ent}
    (ha : a ∈ fl) (hb : b ∈ fl) (hne : a ≠ b) (ha0 : a.l0 = false) (hb0 : b.l0 = false)
    {l : Nat} {ra rb : KeyRange} (hra : ra ∈ regAt l a) (hrb : rb ∈ regAt l b) (k : Bytes) :
    ¬(Within ra k ∧ Within rb k) :=
  apart_no_common_key (C14_cstatus_exclusive h ha hb hne ha0 hb0 hra hrb) k

/-- Two different compactions in flight never share a table — for an L0→L0 compaction this is
established by the `cs.tables` filter of `fillTablesL0ToL0`, for the others it is the caller's
hypothesis carried along. -/
theorem C14_cstatus_tables_disjoint {n : Nat} {cs : CStatus} {fl : List Ent} (h : Reach n cs fl) {a b : Ent}
    (ha : a ∈ fl) (hb : b ∈ fl) (hne : a ≠ b) : ∀ id ∈ a.cd.ids, id ∉ b.cd.ids :=
  (pairwise_sym_forall (fun h => idsDisj_symm h) (C14_cstatus_inv h).idsDisj ha hb).resolve_left hne

theorem C14_cstatus_tables_exact {n : Nat} {cs : CStatus} {fl : List Ent} (h : Reach n cs fl) (id : Nat) :
    id ∈ cs.tables ↔ ∃ e ∈ fl, id ∈ e.cd.ids :=
  ⟨(C14_cstatus_inv h).idsComplete id, fun ⟨e, he, hid⟩ => (C14_cstatus_inv h).idsSound e he id hid⟩

/-- `compactStatus.delete` of a compaction in flight never ends in `log.Fatal` / a failed assertion. -/
theorem C14_cstatus_delete_ok {n : Nat} {cs : CStatus} {fl : List Ent} (h : Reach n cs fl) {e : Ent}
    (he : e ∈ fl) : (cs.delete e.cd).isSome := delete_ok (C14_cstatus_inv h) he

/-- When no compaction is in flight, no range and no table id is registered: nothing stays
blocked. -/
theorem C14_cstatus_no_leak {n : Nat} {cs : CStatus} (h : Reach n cs []) :
    (∀ l, (cs.level l).ranges = []) ∧ cs.tables = [] := by
  have hi := C14_cstatus_inv h
  constructor
  · intro l
    apply List.eq_nil_iff_forall_not_mem.mpr
    intro r hr; obtain ⟨e, he, _⟩ := hi.complete l r hr; simp at he
  · apply List.eq_nil_iff_forall_not_mem.mpr
    intro id hid; obtain ⟨e, he, _⟩ := hi.idsComplete id hid; simp at he

/-- While an L0→L0 compaction is registered (`infRange` on level 0), `compareAndAdd` refuses every
compaction out of level 0 with a non-empty range ("Avoid any other L0 -> Lbase from happening"). -/
theorem C14_cstatus_l0l0_blocks {cs cs' : CStatus} {cd : CDef} {ok : Bool}
    (hinf : infRange ∈ (cs.level 0).ranges) (h0 : cd.thisLevel = 0) (hne : cd.thisRange.isEmpty = false)
    (h : cs.compareAndAdd cd = some (cs', ok)) : ok = false := by
  cases ok
  · rfl
  · obtain ⟨_, _, _, ho1, _⟩ := caa_spec h
    rw [h0] at ho1
    simp only [LevelCS.overlapsWith, List.any_eq_false] at ho1
    have := ho1 infRange hinf
    simp only [KeyRange.overlapsWith, hne] at this
    simp [infRange, KeyRange.isEmpty] at this

/-! ## what the `nextRange = thisRange` hypothesis excludes (observation O-cs1, DESIGN §4.9)

`fillMaxLevelTables` starts with `nextRange = thisRange` but then EXTENDS `nextRange` over the
following tables it adds to `cd.bot` (`collectBotTables`, levels.go:1360). `compareAndAdd` registers
both ranges on the last level; `delete` skips `nextRange` because both level handlers are the same.
The extended range stays registered for ever: -/
def leakCd : CDef :=
  { thisLevel := 2, nextLevel := 2,
    thisRange := { left := keyWithTs [0x61] maxU64, right := keyWithTs [0x62] 0 },
    nextRange := { left := keyWithTs [0x61] maxU64, right := keyWithTs [0x64] 0 }, thisSize := 10, ids := [1, 2] }

def leakNext : CDef :=
  { thisLevel := 1, nextLevel := 2, thisRange := leakCd.thisRange, nextRange := leakCd.thisRange, ids := [3] }

theorem C14_cstatus_lmax_leak_witness :
    ∃ cs1 cs2, (CStatus.init 3).compareAndAdd leakCd = some (cs1, true) ∧ cs1.delete leakCd = some cs2 ∧
      (cs2.level 2).ranges = [leakCd.nextRange] ∧ cs2.tables = [] ∧
      -- and from then on a compaction INTO that range of the last level is refused:
      ∃ cs3, cs2.compareAndAdd leakNext = some (cs3, false) := by
  refine ⟨_, _, rfl, rfl, rfl, rfl, _, rfl⟩

def exA : CDef :=
  { thisLevel := 1, nextLevel := 2,
    thisRange := { left := keyWithTs [0x61] maxU64, right := keyWithTs [0x62] 0 },
    nextRange := { left := keyWithTs [0x61] maxU64, right := keyWithTs [0x63] 0 }, ids := [1, 2] }
def exB : CDef :=
  { thisLevel := 1, nextLevel := 2,
    thisRange := { left := keyWithTs [0x65] maxU64, right := keyWithTs [0x66] 0 },
    nextRange := { left := keyWithTs [0x65] maxU64, right := keyWithTs [0x66] 0 }, ids := [3] }

theorem exA_shape : ShapeC 3 exA := by
  refine ⟨by decide, by decide, ⟨rfl, rfl, by decide⟩, ⟨rfl, rfl, by decide⟩, by decide⟩

theorem exB_shape : ShapeC 3 exB := by
  refine ⟨by decide, by decide, ⟨rfl, rfl, by decide⟩, ⟨rfl, rfl, by decide⟩, by decide⟩

/-- The hypotheses of the theorems are satisfiable: both compactions are admitted, an L0→L0 compaction
registers on top of them, and the theorems apply to the resulting status. -/
theorem C14_cstatus_nonvacuous :
    ∃ cs, Reach 3 cs [⟨exA, false⟩, ⟨exB, false⟩, ⟨l0l0Def [10, 11, 12, 13], true⟩] ∧
      Apart exA.nextRange exB.nextRange := by
  have r1 : Reach 3 _ ([] ++ [⟨exA, false⟩]) :=
    Reach.accept Reach.init exA_shape (by decide) (by decide) rfl
  have r2 : Reach 3 _ (([] ++ [⟨exA, false⟩]) ++ [⟨exB, false⟩]) :=
    Reach.accept r1 exB_shape (by decide) (by decide) rfl
  have r3 := Reach.l0l0 (cands := [10, 1, 11, 12, 13]) (out := [10, 11, 12, 13])
    r2 (by decide) (by simp) (by decide) rfl
  refine ⟨_, r3, ?_⟩
  exact C14_cstatus_exclusive r3 (a := ⟨exA, false⟩) (b := ⟨exB, false⟩) (by simp) (by simp) (by decide) rfl rfl
    (l := 2) (by simp [regAt, rangesAt, exA]) (by simp [regAt, rangesAt, exB])

/-- `getKeyRange` for given extreme keys (compaction.go:92-113): all versions of the smallest and of
the biggest user key: `[parseKey(smallest)@MaxUint64, parseKey(biggest)@0]`. -/
def getKeyRangeOf (smallest biggest : Bytes) : KeyRange :=
  { left := keyWithTs (parseKey smallest) maxU64, right := keyWithTs (parseKey biggest) 0 }

/-- What `getKeyRange` returns is `Proper` (the hypothesis of `Reach.accept`), for any tables whose
smallest key is not above their biggest key. -/
theorem C14_getKeyRange_proper (a b : Bytes) (s t : Nat) (hs : s ≤ maxU64) (ht : t ≤ maxU64)
    (h : compareKeys (keyWithTs a s) (keyWithTs b t) ≠ .gt) :
    Proper (getKeyRangeOf (keyWithTs a s) (keyWithTs b t)) := by
  unfold getKeyRangeOf
  rw [C20_parseKey_keyWithTs, C20_parseKey_keyWithTs]
  exact ⟨by simp [KeyRange.isEmpty, keyWithTs_ne_nil], rfl,
    keyWithTs_le_mono a b (Nat.le_refl _) ht hs (Nat.zero_le _) h⟩

/-- Every key of the tables (between their smallest and their biggest key) lies `Within` the range
`getKeyRange` registers for them. -/
theorem C14_getKeyRange_within (a b c : Bytes) (s t u : Nat) (hs : s ≤ maxU64) (ht : t ≤ maxU64) (hu : u ≤ maxU64)
    (h1 : compareKeys (keyWithTs a s) (keyWithTs c u) ≠ .gt)
    (h2 : compareKeys (keyWithTs c u) (keyWithTs b t) ≠ .gt) :
    Within (getKeyRangeOf (keyWithTs a s) (keyWithTs b t)) (keyWithTs c u) := by
  unfold getKeyRangeOf Within
  rw [C20_parseKey_keyWithTs, C20_parseKey_keyWithTs]
  exact ⟨fun hlt => keyWithTs_le_mono a c (Nat.le_refl _) hu hs (Nat.le_refl _) h1
      ((compareKeys_total.gt_iff _ _).mpr hlt),
    fun hlt => keyWithTs_le_mono c b hu ht (Nat.le_refl _) (Nat.zero_le _) h2
      ((compareKeys_total.gt_iff _ _).mpr hlt)⟩

end Badger
