import BadgerModel.Bloom
import BadgerProofs.Lemmas.AuxBits
import BadgerProofs.Props.C20
/-!
# C19 — bloom filters never hide a key that is present (`y/bloom.go`, `Table.DoesNotHave`).

`appendFilter` and `mayContain` are two separate loops in the model, exactly as in the Go code;
the theorems show that they visit the same bit positions (`probes`: the probe loop is `all` over
them, the filter is `foldl setBit` over those of all keys), for every list of key hashes, every
`bitsPerKey : Int` (hence every `BloomFalsePositive`) and with exact `uint32` wrap-around.
The only side condition is the one under which the Go code itself does not panic:
`uint32(nBits) ≠ 0` (a filter whose size is not a multiple of 512 MiB).
Outside the model (head of `BadgerModel/Bloom.lean`): `int` overflow of `len(keys)*bitsPerKey + 7`
and the `uint32(float64)` conversion for `bitsPerKey·0.69 ≥ 2^32`.
-/
namespace Badger

theorem testBit_eq (f : Bytes) (p : Nat) :
    testBit f p = (f.getD (p / 8) 0).toNat.testBit (p % 8) :=
  u8_testMask _ _ (Nat.mod_lt _ (by decide))

theorem setBit_length (f : Bytes) (p : Nat) : (setBit f p).length = f.length := by
  simp [setBit]

theorem getD_setBit (f : Bytes) (p q : Nat) :
    (setBit f p).getD q 0 =
      if p / 8 = q ∧ q < f.length then f.getD q 0 ||| ((1 : UInt8) <<< UInt8.ofNat (p % 8))
      else f.getD q 0 := by
  unfold setBit
  by_cases h1 : p / 8 = q <;> by_cases h2 : q < f.length <;> simp [h1, h2]

theorem testBit_setBit_eq (f : Bytes) (p q : Nat) (h : p / 8 < f.length) :
    testBit (setBit f p) q = (testBit f q || q == p) := by
  rw [testBit_eq, testBit_eq, getD_setBit]
  by_cases hq : p / 8 = q / 8
  · rw [if_pos ⟨hq, hq ▸ h⟩, u8_setMask_testBit _ _ _ (Nat.mod_lt _ (by decide))]
    exact congrArg _ (Bool.eq_iff_iff.mpr (by rw [decide_eq_true_eq, beq_iff_eq]; omega))
  · rw [if_neg fun h' => hq h'.1, beq_false_of_ne fun (e : q = p) => hq (e ▸ rfl), Bool.or_false]

/-- The bit positions of a key hash `h`: `appendFilter` sets them, `MayContain` tests them. Both
    loops walk `h, h + delta, …` (mod 2^32) and reduce modulo `nb`. -/
def probes (nb delta : Nat) : Nat → Nat → List Nat
  | 0, _ => []
  | j + 1, h => h % nb :: probes nb delta j ((h + delta) % u32)

theorem probes_lt (nb d : Nat) (hnb : 0 < nb) (j h : Nat) : ∀ p, p ∈ probes nb d j h → p < nb := by
  induction j generalizing h with
  | zero => exact fun _ hp => nomatch hp
  | succ j ih => exact List.forall_mem_cons.mpr ⟨Nat.mod_lt _ hnb, ih _⟩

theorem mayLoop_eq_all (f : Bytes) (nb d j h : Nat) :
    mayLoop f nb d j h = (probes nb d j h).all (testBit f) := by
  induction j generalizing h with
  | zero => rfl
  | succ j ih =>
    rw [mayLoop, probes, List.all_cons, ← ih]
    cases testBit f (h % nb) <;> rfl

theorem addKeyLoop_eq (nb d j h : Nat) (f : Bytes) :
    addKeyLoop nb d j h f = (probes nb d j h).foldl setBit f := by
  induction j generalizing h f with
  | zero => rfl
  | succ j ih => rw [addKeyLoop, ih, probes, List.foldl_cons]

@[simp] theorem foldl_setBit_length (ps : List Nat) (f : Bytes) : (ps.foldl setBit f).length = f.length := by
  induction ps generalizing f with
  | nil => rfl
  | cons p ps ih => rw [List.foldl_cons, ih, setBit_length]

theorem testBit_foldl_setBit (ps : List Nat) (f : Bytes) (hps : ∀ p, p ∈ ps → p / 8 < f.length) (q : Nat) :
    testBit (ps.foldl setBit f) q = (testBit f q || ps.contains q) := by
  induction ps generalizing f with
  | nil => simp
  | cons p ps ih =>
    obtain ⟨hp, hps⟩ := List.forall_mem_cons.mp hps
    rw [List.foldl_cons, ih _ (by rwa [setBit_length]), testBit_setBit_eq _ _ _ hp, List.contains_cons, Bool.or_assoc]

theorem mayLoop_foldl_setBit (nb k : Nat) (keys : List Nat) (f : Bytes) (h : Nat)
    (hnb : 0 < nb) (hlen : nb ≤ 8 * f.length) (hmem : h ∈ keys) :
    mayLoop ((keys.flatMap fun h => probes nb (bloomDelta h) k h).foldl setBit f) nb (bloomDelta h) k h = true := by
  rw [mayLoop_eq_all, List.all_eq_true]
  intro p hp
  rw [testBit_foldl_setBit, Bool.or_eq_true, List.contains_iff_mem]
  · exact Or.inr (List.mem_flatMap.mpr ⟨h, hmem, hp⟩)
  · -- every probe position lies inside the filter
    intro p hp
    obtain ⟨x, _, hx⟩ := List.mem_flatMap.mp hp
    have := probes_lt nb _ hnb k x p hx
    omega

theorem testBit_append (f g : Bytes) (p : Nat) (hp : p / 8 < f.length) :
    testBit (f ++ g) p = testBit f p := by
  unfold testBit
  simp only [List.getD_eq_getElem?_getD, List.getElem?_append_left hp]

/-- Probing never looks at the trailing `k` byte: positions are `< nb ≤ 8·len`. -/
theorem mayLoop_append (f g : Bytes) (nb d j h : Nat) (hnb : 0 < nb) (hlen : nb ≤ 8 * f.length) :
    mayLoop (f ++ g) nb d j h = mayLoop f nb d j h := by
  rw [mayLoop_eq_all, mayLoop_eq_all, Bool.eq_iff_iff, List.all_eq_true, List.all_eq_true]
  refine forall₂_congr fun p hp => ?_
  have := probes_lt nb d hnb j h p hp
  rw [testBit_append f g p (by omega)]

theorem bloomK_bounds (bpk : Int) : 1 ≤ bloomK bpk ∧ bloomK bpk ≤ 30 := by
  unfold bloomK
  simp only
  split
  · omega
  · split <;> omega

theorem bloomNBytes_ge (n : Nat) (bpk : Int) : 8 ≤ bloomNBytes n bpk := by
  unfold bloomNBytes
  simp only
  split <;> omega

/-- The filter: `nBytes` zero bytes with the probe positions of all keys set, then the byte `k`. -/
theorem appendFilter_eq_some {keys : List Nat} {bpk : Int} {f : Bytes} (hf : appendFilter keys bpk = some f) :
    ¬ (bloomNBytes keys.length bpk * 8 % u32 = 0 ∧ keys ≠ []) ∧
    f = (keys.flatMap fun h => probes (bloomNBytes keys.length bpk * 8 % u32) (bloomDelta h) (bloomK bpk) h).foldl
          setBit (List.replicate (bloomNBytes keys.length bpk) 0) ++ [UInt8.ofNat (bloomK bpk)] := by
  unfold appendFilter at hf
  simp only [addKeyLoop_eq, ← List.foldl_flatMap] at hf
  split at hf
  · cases hf
  · next hc => exact ⟨hc, (Option.some.inj hf).symm⟩

/-- Shape of the filter: `nBytes` data bytes followed by the byte `k ∈ [1, 30]`. -/
theorem C19_filter_last_byte_k (keys : List Nat) (bpk : Int) (f : Bytes)
    (hf : appendFilter keys bpk = some f) :
    f.length = bloomNBytes keys.length bpk + 1 ∧
    f.getLast? = some (UInt8.ofNat (bloomK bpk)) ∧
    (f.getD (f.length - 1) 0).toNat = bloomK bpk ∧
    1 ≤ bloomK bpk ∧ bloomK bpk ≤ 30 := by
  obtain ⟨_, rfl⟩ := appendFilter_eq_some hf
  have hb := bloomK_bounds bpk
  refine ⟨by simp, by simp, ?_, hb.1, hb.2⟩
  simp [UInt8.toNat_ofNat']
  omega

/-- `appendFilter` does not panic (division by zero) unless `uint32(nBits) = 0`; the converse, for a
    non-empty key list, is the first part of `appendFilter_eq_some`. -/
theorem appendFilter_isSome (keys : List Nat) (bpk : Int)
    (hnb : bloomNBytes keys.length bpk * 8 % u32 ≠ 0) : ∃ f, appendFilter keys bpk = some f := by
  unfold appendFilter
  rw [if_neg (by intro h; exact hnb h.1)]
  exact ⟨_, rfl⟩

/-- **No false negatives.** For every list of key hashes, every `bitsPerKey` and every hash `h`
    in the list: the filter built by `appendFilter` answers `true` to `MayContain(h)`.
    `hf` says that `appendFilter` did not panic (see `appendFilter_isSome`). -/
theorem C19_no_false_negative (keys : List Nat) (bpk : Int) (f : Bytes) (h : Nat)
    (hf : appendFilter keys bpk = some f) (hmem : h ∈ keys) :
    mayContain f h = some true := by
  obtain ⟨hlen, _, hk, hk1, hk30⟩ := C19_filter_last_byte_k keys bpk f hf
  obtain ⟨hc, rfl⟩ := appendFilter_eq_some hf
  have hnb : bloomNBytes keys.length bpk * 8 % u32 ≠ 0 := fun h0 => hc ⟨h0, List.ne_nil_of_mem hmem⟩
  have hnB := bloomNBytes_ge keys.length bpk
  -- the probed positions are below `nb ≤ 8 * nBytes`: inside the data bytes
  have hle : bloomNBytes keys.length bpk * 8 % u32 ≤
      8 * (List.replicate (bloomNBytes keys.length bpk) (0 : UInt8)).length := by
    have := Nat.mod_le (bloomNBytes keys.length bpk * 8) u32
    rw [List.length_replicate]
    omega
  unfold mayContain
  rw [if_neg (by omega)]
  simp only [hk]
  rw [if_neg (by omega), hlen, Nat.add_sub_cancel, Nat.mul_comm 8, if_neg (fun hz => hnb hz.1),
    mayLoop_append _ _ _ _ _ _ (Nat.pos_of_ne_zero hnb) (by rw [foldl_setBit_length]; exact hle),
    mayLoop_foldl_setBit _ _ _ _ _ (Nat.pos_of_ne_zero hnb) hle hmem]

/-- Table level: `table.Builder` adds `Hash(ParseKey(key))` for every internal key, and
    `Table.DoesNotHave(Hash(ParseKey(key)))` is `false` for each of them. -/
theorem C19_doesNotHave_sound (internalKeys : List Bytes) (bpk : Int) (f : Bytes) (ik : Bytes)
    (hf : tableFilter internalKeys bpk = some f) (hmem : ik ∈ internalKeys) :
    doesNotHave f (hash (parseKey ik)) = some false := by
  unfold doesNotHave
  rw [C19_no_false_negative _ bpk f _ hf (List.mem_map.mpr ⟨ik, hmem, rfl⟩)]
  rfl

/-- In terms of user keys and versions (what `Get` and key iterators probe with). -/
theorem C19_doesNotHave_userKey (entries : List (Bytes × Nat)) (bpk : Int) (f : Bytes)
    (k : Bytes) (ts : Nat)
    (hf : tableFilter (entries.map (fun e => keyWithTs e.1 e.2)) bpk = some f)
    (hmem : (k, ts) ∈ entries) :
    doesNotHave f (hash k) = some false := by
  have h := C19_doesNotHave_sound _ bpk f (keyWithTs k ts) hf
    (List.mem_map.mpr ⟨(k, ts), hmem, rfl⟩)
  rwa [C20_parseKey_keyWithTs] at h

-- a concrete filter: 3 key hashes, 10 bits per key (k = 6, 64 bits + the k byte)
example : (appendFilter [1, 0xdeadbeef, 0xffffffff] 10).map List.length = some 9 := by decide +kernel
example : ∃ f, appendFilter [1, 0xdeadbeef, 0xffffffff] 10 = some f ∧
    mayContain f 0xdeadbeef = some true ∧ mayContain f 12345 = some false := by
  refine ⟨_, rfl, ?_, ?_⟩ <;> decide +kernel
-- the side condition of `appendFilter_isSome` on one size: 1000 keys at 10 bits per key
example : bloomNBytes 1000 10 * 8 % u32 ≠ 0 := by decide
-- negative bitsPerKey is clamped: k = 1, 64 bits
example : appendFilter [7] (-5) = some [0x80, 0, 0, 0, 0, 0, 0, 0, 1] := by decide +kernel
example : hash [] = 0xbc9f1d34 := by decide
example : hash [0x61] ≠ hash [0x62] := by decide

end Badger
