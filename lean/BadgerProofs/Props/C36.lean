import BadgerProofs.Lemmas.Txn
import BadgerProofs.Props.C06
import BadgerProofs.Props.C03Model
/-!
# C36 — managed mode honors caller-chosen timestamps

Managed mode (`managed_db.go`): `NewTransactionAt(readTs)` uses the caller's read timestamp and
never touches the read watermark; `CommitAt(commitTs)` writes at exactly `commitTs` (entries
with an explicit non-zero version keep it — `keepTogether = false`, txn.go:544); `SetDiscardTs`
only moves the oracle's `discardTs`.

"A read at a chosen timestamp sees exactly the newest write at or below it" is the read
refinement C01 (`C01_get_spec`) instantiated with the caller's timestamp; what is
specific to managed mode is proved here. The discard timestamp influences reads only through
compaction (C12/C13).
-/
namespace Badger

/-- `NewTransactionAt`: exactly the caller's timestamp; no read mark, no change of `nextTs`. -/
theorem C36_begin_readTs (d : Db) (id : Nat) (u : Bool) (ts : Nat) (hm : d.opts.managed = true) :
    (d.begin id u ts).2 = ts ∧ (d.begin id u ts).1.readMark = d.readMark ∧
    (d.begin id u ts).1.nextTs = d.nextTs ∧ (d.begin id u ts).1.lsm = d.lsm ∧
    ∃ t, (d.begin id u ts).1.findTxn id = some t ∧ t.readTs = ts ∧ t.update = u ∧ t.pending = [] := by
  rw [begin_managed hm]
  exact ⟨rfl, rfl, rfl, rfl, _, findTxn_setTxn_self _ _, rfl, rfl, rfl⟩

/-- a read at the chosen timestamp goes to `DB.get` with exactly that timestamp -/
theorem C36_read_at (d : Db) (id : Nat) (t : TxnM) (k : Bytes)
    (ht : d.findTxn id = some t) (hk : k ≠ []) (hd : t.discarded = false)
    (hp : t.update = true → t.pending.find? (·.key == k) = none) :
    (d.txnGet id k).2 = (match visible d.now (d.lsm.get k t.readTs) with
      | none => GetRes.notfound
      | some e => .found e e.ver) := by
  rw [txnGet_eq k ht]
  simp only [getAnswer_visible d.now _ hk hd, pendingHit_eq_none hp]
  rfl

/-- `CommitAt`: the answer is exactly the caller's commit timestamp, `nextTs` is untouched, and
    every entry of the transaction is stored at exactly that timestamp — or at its own explicit
    non-zero version (`SetEntryAt`). -/
theorem C36_commit_ts_exact (d : Db) (id mts cts : Nat) (t : TxnM) (hm : d.opts.managed = true)
    (hf : d.findTxn id = some t) (hok : (d.commit id mts).2 = .ok cts) :
    cts = mts ∧ (d.commit id mts).1.nextTs = d.nextTs ∧
    (∀ e ∈ t.pending ++ t.dups, ∃ x ∈ (d.commit id mts).1.lsm.mem,
        x.key = e.key ∧ x.ver = (if e.ver = 0 then mts else e.ver)) ∧
    (∀ x ∈ (d.commit id mts).1.lsm.mem, x ∈ d.lsm.mem ∨
        ∃ e ∈ t.pending ++ t.dups, x.key = e.key ∧ x.ver = (if e.ver = 0 then mts else e.ver) ∧
          x.val = e.val ∧ x.umeta = e.umeta ∧ x.exp = e.exp) := by
  obtain ⟨hg, hcts, hl⟩ := commit_ok hf hok
  have hc : cts = mts := by simpa [commitTsOf, hm] using hcts
  have hn := (commit_goes mts hf hg).nextTs
  simp only [hm, if_true] at hn
  refine ⟨hc, hn, ?_, ?_⟩
  · have := (C03_commit_atomic d id mts cts t hf hok).1
    rw [hc] at this; exact this
  · intro x hx
    rw [hl] at hx
    rcases mem_foldl_memPut hx with hx | hx
    · right
      obtain ⟨e, he, rfl⟩ := mem_commitEntries.mp hx
      have := C06_finEnt_fields d (keepTogetherOf t) cts e
      rw [show (if e.ver = 0 then cts else e.ver) = (if e.ver = 0 then mts else e.ver) by rw [hc]] at this
      exact ⟨e, he, this.1, this.2.1, this.2.2.1, this.2.2.2.1, this.2.2.2.2.1⟩
    · exact .inl hx

/-- a zero commit timestamp is refused when transaction markers would be written -/
theorem C36_zero_commit_ts (d : Db) (id : Nat) (t : TxnM) (hm : d.opts.managed = true)
    (hf : d.findTxn id = some t) (hp : t.pending ≠ []) (hd : t.discarded = false)
    (hv : ∀ e ∈ t.pending, e.ver = 0) :
    d.commit id 0 = (d, .err "err:zerocommitts") := by
  rw [commit_eq 0 hf]
  have h1 : t.pending.isEmpty = false := List.isEmpty_eq_false_iff.mpr hp
  have h2 : keepPreOf t = true := by
    simp only [keepPreOf, List.all_eq_true, beq_iff_eq]; exact hv
  -- the first two guards of `commit_eq` fail, the third (transaction markers at timestamp zero) fires
  simp [h1, hd, h2, hm]

/-- `SetDiscardTs` (the `setdiscard` step: assignment + `cleanupCommittedTransactions`) changes
    neither the LSM tree nor the clock nor any transaction: every `Get` and every iteration
    returns what it returned before, at every timestamp. -/
theorem C36_discard_monotone_reads (d : Db) (ts : Nat) :
    (d.step (.setDiscard ts)).lsm = d.lsm ∧ (d.step (.setDiscard ts)).now = d.now ∧
    (d.step (.setDiscard ts)).txns = d.txns ∧
    (∀ k rts, (d.step (.setDiscard ts)).lsm.get k rts = d.lsm.get k rts) ∧
    (∀ id o seek, (d.step (.setDiscard ts)).iterate id o seek = d.iterate id o seek) ∧
    (∀ id k, ((d.step (.setDiscard ts)).txnGet id k).2 = (d.txnGet id k).2) := by
  have h1 : (d.step (.setDiscard ts)).lsm = d.lsm := (cleanup_same _).lsm
  have h2 : (d.step (.setDiscard ts)).now = d.now := (cleanup_same _).now
  have h3 : (d.step (.setDiscard ts)).txns = d.txns := cleanup_txns _
  have h := fun id => reads_congr (id := id) (congrArg (List.find? _) h3) h1 h2
  exact ⟨h1, h2, h3, fun k rts => by rw [h1], fun id => (h id).2, fun id => (h id).1⟩

-- non-vacuity: managed commits at caller-chosen, non-monotonic timestamps 7 then 5, with an
-- explicit per-entry version 3; reads at 6 and at 7.
example :
    let d0 := Db.init { managed := true, maxBatchCount := 100, maxBatchSize := 100000 } 0
    let d1 := (d0.begin 1 true 0).1
    let d2 := (d1.modify 1 { key := [0x61], ver := 0, emeta := 0, umeta := 0, exp := 0, val := [7] }).1
    let r1 := d2.commit 1 7
    let d3 := (r1.1.begin 2 true 0).1
    let d4 := (d3.modify 2 { key := [0x61], ver := 0, emeta := 0, umeta := 0, exp := 0, val := [5] }).1
    let d5 := (d4.modify 2 { key := [0x62], ver := 3, emeta := 0, umeta := 0, exp := 0, val := [3] }).1
    let r2 := d5.commit 2 5
    (match r1.2, r2.2 with | .ok a, .ok b => a == 7 && b == 5 | _, _ => false) = true ∧
    (r2.1.lsm.get [0x61] 6).map (·.val) = some [5] ∧
    (r2.1.lsm.get [0x61] 7).map (·.val) = some [7] ∧
    (r2.1.lsm.get [0x62] 4).map (·.ver) = some 3 ∧ r2.1.nextTs = 1 := by decide

end Badger
