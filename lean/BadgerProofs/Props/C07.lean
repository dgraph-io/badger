import BadgerProofs.Props.C08
/-!
# C07 — Close and re-open preserves all content; read-only opens change nothing

`DB.close` hands the active memtable to the flusher (`flushChan <- mt; imm = append(imm, mt)`,
the atom `pushImm`), waits until the flusher has turned it into a table and deleted its WAL,
closes the value log (msync, `ftruncate` of the newest file to its write offset), msyncs the
tables and fsyncs the directory. In the protocol machine that is: the step `pushImm`, flusher
steps until no immutable memtable is left, and operations that do not change what a `.mem`,
`.sst` or MANIFEST file holds. A *closed* state is a reachable state with `curOpen = false` and
`imm = []`: no `.mem` file exists.

* `C07_reopen_same` — for every history that ends in a closed state, `Open` (read-write or
  read-only) succeeds and finds entries that read like the commits written before the close —
  the same thing the open database served (`C07_same_as_before`).
* `C07_ro_pure` — on such a directory (no table file outside the MANIFEST: every compaction has
  finished deleting its inputs) a read-only `Open` performs no mutating `FsOp` at all (its only
  operation is the directory fsync of `newLevelsController`); reads perform none by definition.
-/
namespace Badger

theorem openMems_nil (ro : Bool) : openMems false ro [] = .ok ([], []) := rfl

theorem C07_reopen_same (R : ViewRel) (c : Cfg) (h : List Sched) (ro : Bool)
    (hok : SchedHistOk R (MState.init c).p h)
    (hc : ((MState.init c).exec h).p.curOpen = false) (hi : ((MState.init c).exec h).p.imm = []) :
    ∃ r, recover ro (crashKill ((MState.init c).exec h).fs) = .ok r ∧
      R.r r.entries (txnsEnts (((MState.init c).exec h).p.commits.take ((MState.init c).exec h).p.done)) := by
  have hI := reach_inv R c h hok
  obtain ⟨r, hr, hm, _⟩ := recover_of_inv ro hI fun _ => ⟨hc, hi⟩
  exact ⟨r, hr, R.trans _ _ _ (R.of_mem_iff _ _ hm) hI.logic.view⟩

/-- if the closing steps `h2` (handing the memtable to the flusher, flusher steps) complete no
    further commit, the re-opened database reads like the open one did after `h1` -/
theorem C07_same_as_before (R : ViewRel) (c : Cfg) (h1 h2 : List Sched) (ro : Bool)
    (hok : SchedHistOk R (MState.init c).p (h1 ++ h2))
    (hc : ((MState.init c).exec (h1 ++ h2)).p.curOpen = false) (hi : ((MState.init c).exec (h1 ++ h2)).p.imm = [])
    (hd : ((MState.init c).exec (h1 ++ h2)).p.done = ((MState.init c).exec h1).p.done)
    (hcm : ((MState.init c).exec (h1 ++ h2)).p.commits = ((MState.init c).exec h1).p.commits) :
    ∃ r, recover ro (crashKill ((MState.init c).exec (h1 ++ h2)).fs) = .ok r ∧
      R.r r.entries ((MState.init c).exec h1).p.lsmEnts := by
  obtain ⟨r, hr, hv⟩ := C07_reopen_same R c (h1 ++ h2) ro hok hc hi
  refine ⟨r, hr, ?_⟩
  rw [hd, hcm] at hv
  exact R.trans _ _ _ hv (R.symm _ _ (reach_inv R c h1 ((SchedHistOk_append R _ h1 h2).mp hok).1).logic.view)

theorem C07_ro_pure (R : ViewRel) (c : Cfg) (h : List Sched)
    (hok : SchedHistOk R (MState.init c).p h)
    (hc : ((MState.init c).exec h).p.curOpen = false) (hi : ((MState.init c).exec h).p.imm = [])
    (hno : ∀ n, (((MState.init c).exec h).fs.file (.sst n)).isSome → (aget n ((MState.init c).exec h).p.tset).isSome) :
    ∃ r, recover true (crashKill ((MState.init c).exec h).fs) = .ok r ∧ ∀ op ∈ r.ops, op.mutating = false := by
  have hI := reach_inv R c h hok
  obtain ⟨r, hr, _, hops⟩ := recover_of_inv true hI fun _ => ⟨hc, hi⟩
  refine ⟨r, hr, ?_⟩
  rw [hops rfl hno]
  intro op hop
  simp at hop; subst hop; rfl

/-- commit one entry; `Close`: hand the memtable to the flusher (`flushReq`, first atom
    `pushImm`) and let the flusher run (7 atoms) -/
def closeDemo : List Sched :=
  [.commit [demoEnt 1 1] false, .w, .w, .w, .w, .w, .w, .w, .flushReq, .w, .f, .f, .f, .f, .f, .f, .f]

set_option maxHeartbeats 1000000 in
example : ((MState.init {}).exec closeDemo).p.curOpen = false ∧ ((MState.init {}).exec closeDemo).p.imm = [] ∧
    ((MState.init {}).exec closeDemo).p.tset = [(1, 0)] ∧
    (crashKill ((MState.init {}).exec closeDemo).fs).map (·.1) = [.sst 1, .vlog 1, .keyRegistry, .manifest] := by
  decide +kernel

end Badger
