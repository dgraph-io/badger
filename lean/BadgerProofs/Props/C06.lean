import BadgerModel.Mvcc
import BadgerProofs.Lemmas.Txn
import BadgerProofs.Props.C01
import BadgerProofs.Lemmas.Buf
/-!
# C06 — values and metadata read back exactly as written, wherever they are stored

Model: `Db.lsmForm` is `writeToLSM` (db.go:801): an entry whose value is shorter than the
threshold (or any entry of an in-memory database) is stored inline, `meta &^ bitValuePointer`;
otherwise a value pointer is stored, `meta | bitValuePointer`. The model keeps the value bytes
in the entry in both cases (the value log is the identity on values; its encoding round trip is
C16/C20), so "reads back exactly" is: `commit` stores `finEnt … e`, which differs from `e` only
in the version (commit timestamp), the transaction bit and the value-pointer bit.

The threshold is static in the model (`Opts.threshold`, `VLogPercentile = 0`); the decision is
taken once per entry from `(len value, threshold, inMemory)` (`C06_threshold_cached`).
-/
namespace Badger

/-- `writeToLSM` changes only the value-pointer bit: key, version, user meta, expiry, value and
    every other meta bit (`2^i`, `i ≠ 1`) are preserved; the pointer bit is set iff
    `len(value) ≥ threshold` on an on-disk database. -/
theorem C06_lsmForm_fields (d : Db) (e : Ent) :
    (d.lsmForm e).key = e.key ∧ (d.lsmForm e).ver = e.ver ∧ (d.lsmForm e).umeta = e.umeta ∧
    (d.lsmForm e).exp = e.exp ∧ (d.lsmForm e).val = e.val ∧
    (∀ i, i ≠ 1 → hasBit (d.lsmForm e).emeta (2 ^ i) = hasBit e.emeta (2 ^ i)) ∧
    (hasBit (d.lsmForm e).emeta bitValuePointer = true ↔
      (d.opts.threshold ≤ e.val.length ∧ d.opts.inMemory = false)) := by
  refine ⟨lsmForm_key .., lsmForm_ver .., lsmForm_umeta .., lsmForm_exp .., lsmForm_val ..,
    fun i hi => by rw [hasBit_two_pow, hasBit_two_pow, lsmForm_testBit d e hi], ?_⟩
  rw [bitValuePointer_eq, hasBit_two_pow, lsmForm_testBit_vp]
  simp [Nat.not_lt]

/-- The named flags of the public `Item` API survive `writeToLSM`. -/
theorem C06_lsmForm_flags (d : Db) (e : Ent) :
    hasBit (d.lsmForm e).emeta bitDelete = hasBit e.emeta bitDelete ∧
    hasBit (d.lsmForm e).emeta bitDiscardEarlier = hasBit e.emeta bitDiscardEarlier ∧
    hasBit (d.lsmForm e).emeta bitMerge = hasBit e.emeta bitMerge ∧
    hasBit (d.lsmForm e).emeta bitTxn = hasBit e.emeta bitTxn ∧
    hasBit (d.lsmForm e).emeta bitFinTxn = hasBit e.emeta bitFinTxn := by
  have h := (C06_lsmForm_fields d e).2.2.2.2.2.1
  exact ⟨h 0 (by decide), h 2 (by decide), h 3 (by decide), h 6 (by decide), h 7 (by decide)⟩

/-- One decision per entry: the inline/pointer choice is a function of the value length, the
    threshold and the in-memory flag only — the same test (`len(value) < threshold`) that
    `estimateSizeAndSetThreshold` used when the entry was accepted. -/
theorem C06_threshold_cached (d : Db) (e1 e2 : Ent) (h : e1.val.length = e2.val.length) :
    hasBit (d.lsmForm e1).emeta bitValuePointer = hasBit (d.lsmForm e2).emeta bitValuePointer ∧
    (estimateSize d.opts.threshold e1 - e1.key.length = estimateSize d.opts.threshold e2 - e2.key.length) ∧
    (d.opts.inMemory = false →
      ((estimateSize d.opts.threshold e1 = e1.key.length + 12 + 2 ∧ d.opts.threshold ≤ e1.val.length) ↔
        hasBit (d.lsmForm e1).emeta bitValuePointer = true)) := by
  have h1 := (C06_lsmForm_fields d e1).2.2.2.2.2.2
  have h2 := (C06_lsmForm_fields d e2).2.2.2.2.2.2
  refine ⟨?_, ?_, ?_⟩
  · rw [Bool.eq_iff_iff, h1, h2, h]
  · unfold estimateSize; rw [h]; split <;> omega
  · intro hm
    rw [h1]
    unfold estimateSize
    constructor
    · rintro ⟨-, h3⟩; exact ⟨h3, hm⟩
    · rintro ⟨h3, -⟩
      rw [if_neg (by omega)]
      exact ⟨rfl, h3⟩

/-- The stored form of a committed entry: exactly the written value, user meta, expiry and
    delete / discard-earlier-versions / merge flags; version = the commit timestamp (or the
    entry's own non-zero version). -/
theorem C06_finEnt_fields (d : Db) (keep : Bool) (cts : Nat) (e : Ent) :
    (finEnt d keep cts e).key = e.key ∧
    (finEnt d keep cts e).ver = (if e.ver = 0 then cts else e.ver) ∧
    (finEnt d keep cts e).val = e.val ∧ (finEnt d keep cts e).umeta = e.umeta ∧
    (finEnt d keep cts e).exp = e.exp ∧
    hasBit (finEnt d keep cts e).emeta bitDelete = hasBit e.emeta bitDelete ∧
    hasBit (finEnt d keep cts e).emeta bitDiscardEarlier = hasBit e.emeta bitDiscardEarlier ∧
    hasBit (finEnt d keep cts e).emeta bitMerge = hasBit e.emeta bitMerge := by
  have hbit : ∀ i, i ≠ 6 →
      hasBit (if keep then setBit e.emeta bitTxn else e.emeta) (2 ^ i) = hasBit e.emeta (2 ^ i) := by
    intro i hi
    cases keep
    · rfl
    · rw [if_pos rfl, bitTxn_eq, hasBit_setBit, beq_eq_false_iff_ne.mpr hi, Bool.or_false]
  refine ⟨finEnt_key .., finEnt_ver .., ?_, ?_, ?_, ?_, ?_, ?_⟩
  all_goals rw [finEnt_eq]
  · rw [lsmForm_val]
  · rw [lsmForm_umeta]
  · rw [lsmForm_exp]
  · rw [(C06_lsmForm_flags d _).1]; exact hbit 0 (by decide)
  · rw [(C06_lsmForm_flags d _).2.1]; exact hbit 2 (by decide)
  · rw [(C06_lsmForm_flags d _).2.2.1]; exact hbit 3 (by decide)

/-- Every pending write is in the memtable after the commit, in its stored form — whatever the
    duplicate writes are: `commitAndSend` emits `duplicateWrites` first, so a pending write
    overwrites an older duplicate of the same `(key, version)` (the order of `commitAndSend`,
    txn.go:583-588; finding F8 was the opposite order). -/
theorem C06_commit_pending_stored (d : Db) (id mts cts : Nat) (t : TxnM) (e : Ent)
    (hf : d.findTxn id = some t) (hok : (d.commit id mts).2 = .ok cts)
    (he : e ∈ t.pending) (hpk : t.pending.Pairwise (fun a b => a.key ≠ b.key)) :
    finEnt d (keepTogetherOf t) cts e ∈ (d.commit id mts).1.lsm.mem := by
  rw [(commit_ok hf hok).2.2]
  simp only [commitEntries, List.map_append, List.foldl_append]
  apply mem_foldl_memPut_of_distinct
  · rw [List.pairwise_map]
    refine hpk.imp ?_
    intro a b hab hc
    rw [finEnt_key, finEnt_key] at hc
    exact hab hc.1
  · exact List.mem_map_of_mem he

/-- After a successful commit, the newest version `≤ ts'` of a written key is the stored form of
    the transaction's pending entry, for every `ts'` from its version on, as long as nothing
    newer was there ("no later write to the key"). Hypotheses: the pending map has one entry
    per key (an invariant — `C06_pending_keys_distinct`) and the transaction holds no duplicate
    write (`SetEntryAt` with another version) for this key. -/
theorem C06_commit_newest (d : Db) (id mts cts ts' : Nat) (t : TxnM) (e : Ent)
    (hf : d.findTxn id = some t) (hok : (d.commit id mts).2 = .ok cts)
    (he : e ∈ t.pending) (hd : ∀ x ∈ t.dups, x.key ≠ e.key)
    (hpk : t.pending.Pairwise (fun a b => a.key ≠ b.key))
    (hold : ∀ x ∈ d.lsm.allEntries, x.key = e.key → x.ver < (if e.ver = 0 then cts else e.ver))
    (hts : (if e.ver = 0 then cts else e.ver) ≤ ts') :
    newestLE (d.commit id mts).1.lsm.allEntries e.key ts' =
      some (finEnt d (keepTogetherOf t) cts e) := by
  -- the batch reads like its entries in front of the old tree; among them only `e` has the key
  rw [(commit_ok hf hok).2.2, allEntries_eq, newestLE_append, newestLE_foldl_memPut, ← newestLE_append,
    List.append_assoc, ← allEntries_eq]
  apply newestLE_unique_max
  · exact List.mem_append_left _ (List.mem_reverse.mpr (mem_commitEntries.mpr ⟨e, List.mem_append_left _ he, rfl⟩))
  · exact finEnt_key ..
  · rw [finEnt_ver]; exact hts
  · intro y hy hyk hyv
    rw [finEnt_ver]
    rcases List.mem_append.mp hy with hy | hy
    · obtain ⟨e', he', rfl⟩ := mem_commitEntries.mp (List.mem_reverse.mp hy)
      rw [finEnt_key] at hyk
      rcases List.mem_append.mp he' with he' | he'
      · have := eq_of_key_eq Ent.key hpk he' he hyk
        subst this
        exact .inl rfl
      · exact absurd hyk (hd e' he')
    · exact .inr (hold y hy hyk)

/-- One entry per key in the pending map is preserved by `modify` (after `begin` the map is
    empty). -/
theorem C06_pending_keys_distinct (d : Db) (id : Nat) (t : TxnM) (e : Ent)
    (hf : d.findTxn id = some t) (hpk : t.pending.Pairwise (fun a b => a.key ≠ b.key)) :
    ∀ t', (d.modify id e).1.findTxn id = some t' → t'.pending.Pairwise (fun a b => a.key ≠ b.key) := by
  intro t' ht'
  cases hv : (d.modify id e).2 with
  | some err =>
    rw [modify_refused e hv, hf] at ht'
    injection ht' with ht'
    subst ht'
    exact hpk
  | none =>
    obtain ⟨hmod, hfind⟩ := modify_accepted e hf hv
    rw [hmod, hfind] at ht'
    injection ht' with ht'
    subst ht'
    exact Buf.add_keysDistinct (b := ⟨t.pending, t.dups⟩) hpk e

/-- Read back through `DB.get` (any read-timestamp from the commit on, nothing newer written):
    given the snapshot-read theorem C01 for the post-commit state (`hget`, provided by
    `C01_get_spec` under the LSM invariant), the entry read has exactly the written value,
    user meta, expiry, version and flags. -/
theorem C06_commit_then_get (d : Db) (id mts cts ts' : Nat) (t : TxnM) (e : Ent)
    (hf : d.findTxn id = some t) (hok : (d.commit id mts).2 = .ok cts)
    (he : e ∈ t.pending) (hd : ∀ x ∈ t.dups, x.key ≠ e.key)
    (hpk : t.pending.Pairwise (fun a b => a.key ≠ b.key))
    (hold : ∀ x ∈ d.lsm.allEntries, x.key = e.key → x.ver < (if e.ver = 0 then cts else e.ver))
    (hts : (if e.ver = 0 then cts else e.ver) ≤ ts')
    (hget : (d.commit id mts).1.lsm.get e.key ts' =
      newestLE (d.commit id mts).1.lsm.allEntries e.key ts') :
    ∃ r, (d.commit id mts).1.lsm.get e.key ts' = some r ∧
      r.key = e.key ∧ r.ver = (if e.ver = 0 then cts else e.ver) ∧ r.val = e.val ∧
      r.umeta = e.umeta ∧ r.exp = e.exp ∧
      hasBit r.emeta bitDelete = hasBit e.emeta bitDelete ∧
      hasBit r.emeta bitDiscardEarlier = hasBit e.emeta bitDiscardEarlier ∧
      hasBit r.emeta bitMerge = hasBit e.emeta bitMerge := by
  rw [hget, C06_commit_newest d id mts cts ts' t e hf hok he hd hpk hold hts]
  exact ⟨_, rfl, C06_finEnt_fields d (keepTogetherOf t) cts e⟩

/-- The same with the snapshot-read theorem C01 plugged in: it suffices that the post-commit
    LSM state satisfies the structural invariant `LsmInv` (C14). -/
theorem C06_commit_then_get_inv (d : Db) (id mts cts ts' : Nat) (t : TxnM) (e : Ent)
    (hf : d.findTxn id = some t) (hok : (d.commit id mts).2 = .ok cts)
    (he : e ∈ t.pending) (hd : ∀ x ∈ t.dups, x.key ≠ e.key)
    (hpk : t.pending.Pairwise (fun a b => a.key ≠ b.key))
    (hold : ∀ x ∈ d.lsm.allEntries, x.key = e.key → x.ver < (if e.ver = 0 then cts else e.ver))
    (hts : (if e.ver = 0 then cts else e.ver) ≤ ts')
    (hinv : LsmInv (d.commit id mts).1.lsm) :
    ∃ r, (d.commit id mts).1.lsm.get e.key ts' = some r ∧
      r.key = e.key ∧ r.ver = (if e.ver = 0 then cts else e.ver) ∧ r.val = e.val ∧
      r.umeta = e.umeta ∧ r.exp = e.exp ∧
      hasBit r.emeta bitDelete = hasBit e.emeta bitDelete ∧
      hasBit r.emeta bitDiscardEarlier = hasBit e.emeta bitDiscardEarlier ∧
      hasBit r.emeta bitMerge = hasBit e.emeta bitMerge :=
  C06_commit_then_get d id mts cts ts' t e hf hok he hd hpk hold hts (C01_get_spec hinv e.key ts')

-- non-vacuity: a value at the threshold goes to the value log (pointer bit), one below stays
-- inline; in memory never; commit + get returns what was written.
example :
    let d : Db := Db.init { threshold := 2 } 0
    let e1 : Ent := { key := [1], ver := 0, emeta := 4, umeta := 9, exp := 77, val := [5, 6] }
    let e2 : Ent := { key := [1], ver := 0, emeta := 4, umeta := 9, exp := 77, val := [5] }
    hasBit (d.lsmForm e1).emeta bitValuePointer = true ∧
    hasBit (d.lsmForm e2).emeta bitValuePointer = false ∧
    hasBit (d.lsmForm e1).emeta bitDiscardEarlier = true := by decide

example :
    let d0 := Db.init { maxBatchCount := 100, maxBatchSize := 100000, threshold := 2 } 0
    let d1 := (d0.begin 1 true 0).1
    let e : Ent := { key := [0x61], ver := 0, emeta := 4, umeta := 7, exp := 0, val := [1, 2] }
    let d2 := (d1.modify 1 e).1
    let r := d2.commit 1 0
    (match r.2 with | .ok ts => ts == 1 | _ => false) = true ∧
    (match r.1.lsm.get [0x61] 1 with
      | some x => x.val == [1, 2] && x.umeta == 7 && x.ver == 1 && hasBit x.emeta bitDiscardEarlier
      | none => false) = true := by decide

end Badger
