import BadgerProofs.Props.C13
import BadgerProofs.Lemmas.Bits
/-!
# C12 (list level) — the compaction filter, the merge and `memPut` preserve reads

`newestLE es k ts` / `visible now` are the specification of a read (`Spec/Mvcc.lean`).

* filter: `subcompact` returns a sorted sublist, and a read at or above the discard watermark
  sees the same thing before and after (`C12_filter_reads`); the refined form
  `C12_filter_reads_refined` says *exactly* when the raw `newestLE` differs: only when the
  newest version `≤ ts` was a marker dead at `p.now`, dropped because `hasOverlap = false`, and
  then the filtered stream holds no version `≤ ts` of that key at all.
* merge: `mergeAll` of sorted sources is sorted, holds exactly the earliest-source copy of every
  `(key, ver)`, and serves the same reads as the sources searched in order.
* `memPut e m` is sorted insert-or-replace and reads like `e :: m`.
-/
namespace Badger

theorem filtRun_sublist (p : CParams) (st : FState) (es : List Ent) : (filtRun p st es).Sublist es := by
  fun_induction filtRun p st es with
  | case1 => exact List.Sublist.refl _
  | case2 st e es st' hst ih => exact ih.cons_cons e  -- `e` is written
  | case3 st e es st' keep hst hk ih => exact ih.cons e  -- `e` is dropped

/-- the filter only removes entries (no hypothesis on the stream or on `dropPrefixes`) -/
theorem C12_filter_sublist (p : CParams) (es : List Ent) : (subcompact p es).Sublist es :=
  filtRun_sublist p {} es

theorem C12_filter_sorted (p : CParams) {es : List Ent} (hs : SortedEnts es) :
    SortedEnts (subcompact p es) := hs.sublist (C12_filter_sublist p es)

theorem C12_filter_mem {p : CParams} {es : List Ent} {e : Ent} (h : e ∈ subcompact p es) : e ∈ es :=
  (C12_filter_sublist p es).subset h

/-- **C12 (filter, refined)** — for a read at `ts ≥ discardTs` the filtered stream returns the
    very same entry as the input stream, except when that entry was a marker dead at `p.now`
    that the filter dropped because the key range has no overlap below (`hasOverlap = false`);
    in that case the filtered stream holds *nothing* for this read (every older version of the
    key went with the marker). -/
theorem C12_filter_reads_refined {p : CParams} {es : List Ent} (hs : SortedEnts es)
    (hp : p.dropPrefixes = []) {ts : Nat} (hts : p.discardTs ≤ ts) (k : Bytes) :
    newestLE (subcompact p es) k ts = newestLE es k ts ∨
      (newestLE (subcompact p es) k ts = none ∧ p.hasOverlap = false ∧
        ∃ e, newestLE es k ts = some e ∧ deletedOrExpired e.emeta e.exp p.now = true) := by
  have hso : SortedEnts (subcompact p es) := C12_filter_sorted p hs
  cases hr : newestLE es k ts with
  | none =>
    left
    rw [newestLE_eq_none_iff] at hr ⊢
    exact fun x hx => hr x (C12_filter_mem hx)
  | some e =>
    obtain ⟨hm, hk, hv, hmax⟩ := (newestLE_sorted_some_iff hs).mp hr
    -- `e` is not below a boundary: a stopper above it would be a newer candidate for the read
    have hnb : belowBoundary p es e = false := by
      refine belowBoundary_eq_false.2 fun x hx hxk hxv => Bool.eq_false_iff.2 fun hst => ?_
      simp only [stops, counted, Bool.and_eq_true, decide_eq_true_eq] at hst
      have := hmax x hx (hxk.trans hk) (by omega)
      omega
    by_cases hkeep : e ∈ subcompact p es
    · left
      rw [newestLE_sorted_some_iff hso]
      exact ⟨hkeep, hk, hv, fun x hx => hmax x (C12_filter_mem hx)⟩
    · right
      have hdrop : isBoundary p es e = true ∧ deadAt p e = true ∧ p.hasOverlap = false :=
        Classical.not_not.1 fun hcon => hkeep ((C13_keep_n hs hp e).mpr ⟨hm, hnb, hcon⟩)
      refine ⟨?_, hdrop.2.2, e, rfl, hdrop.2.1⟩
      rw [newestLE_eq_none_iff]
      intro x hx ⟨hxk, hxv⟩
      have hxe := (C13_keep_n hs hp x).mp hx
      have hle := hmax x hxe.1 hxk hxv
      have hne : x.ver ≠ e.ver := fun h =>
        hkeep (hs.eq_of_key_ver hxe.1 hm (hxk.trans hk.symm) h ▸ hx)
      have hbx : belowBoundary p es x = true :=
        belowBoundary_eq_true.2 ⟨e, hm, ⟨hk.trans hxk.symm, by omega⟩, (isBoundary_eq_true.1 hdrop.1).1⟩
      rw [hxe.2.1] at hbx; cases hbx

/-- **C12 (filter)** — the compaction filter never changes what a read at or above the discard
    watermark returns, on any clock not earlier than the compaction's. -/
theorem C12_filter_reads {p : CParams} {es : List Ent} (hs : SortedEnts es)
    (hp : p.dropPrefixes = []) {ts now : Nat} (hts : p.discardTs ≤ ts) (hnow : p.now ≤ now)
    (k : Bytes) :
    visible now (newestLE (subcompact p es) k ts) = visible now (newestLE es k ts) := by
  rcases C12_filter_reads_refined hs hp hts k with h | ⟨h, _, e, he, hd⟩
  · rw [h]
  · rw [h, he]
    simp only [visible, deletedOrExpired_mono hnow hd, if_true]

theorem C12_merge_sorted {srcs : List (List Ent)} (h : ∀ s ∈ srcs, SortedEnts s) :
    SortedEnts (mergeAll srcs) := mergeAll_sorted h

/-- soundness: the merge invents nothing -/
theorem C12_merge_mem {e : Ent} {srcs : List (List Ent)} (h : e ∈ mergeAll srcs) :
    ∃ s ∈ srcs, e ∈ s := mem_mergeAll_imp h

theorem C12_merge_mem_flatten {e : Ent} {srcs : List (List Ent)} (h : e ∈ mergeAll srcs) :
    e ∈ srcs.flatten := List.mem_flatten.mpr (mem_mergeAll_imp h)

/-- exact membership, earliest source wins: `e` is in the merge iff it comes from a source such
    that no earlier source holds an entry with the same `(key, ver)`. -/
theorem C12_merge_mem_iff {e : Ent} {srcs : List (List Ent)} (h : ∀ s ∈ srcs, SortedEnts s) :
    e ∈ mergeAll srcs ↔
      ∃ pre s post, srcs = pre ++ s :: post ∧ e ∈ s ∧
        ∀ s' ∈ pre, ∀ y ∈ s', ¬(y.key = e.key ∧ y.ver = e.ver) := by
  induction srcs with
  | nil => simp
  | cons s rest ih =>
    have hrest : ∀ s' ∈ rest, SortedEnts s' := fun s' hs' => h s' (List.mem_cons_of_mem _ hs')
    rw [mergeAll_cons, mem_merge2 (h s List.mem_cons_self) (mergeAll_sorted hrest), ih hrest]
    constructor
    · rintro (he | ⟨⟨pre, s', post, heq, he, hne⟩, hs⟩)
      · exact ⟨[], s, rest, rfl, he, by simp⟩
      · refine ⟨s :: pre, s', post, by rw [heq]; rfl, he, ?_⟩
        intro t ht y hy
        rcases List.mem_cons.mp ht with rfl | ht
        · exact hs y hy
        · exact hne t ht y hy
    · rintro ⟨pre, s', post, heq, he, hne⟩
      cases pre with
      | nil =>
        simp only [List.nil_append, List.cons.injEq] at heq
        exact .inl (heq.1 ▸ he)
      | cons p pre =>
        simp only [List.cons_append, List.cons.injEq] at heq
        refine .inr ⟨⟨pre, s', post, heq.2, he, fun t ht => hne t (List.mem_cons_of_mem _ ht)⟩, ?_⟩
        rw [heq.1]
        exact hne p List.mem_cons_self

/-- completeness up to duplicates: every `(key, ver)` of every source occurs in the merge -/
theorem C12_merge_complete {srcs : List (List Ent)} (h : ∀ s ∈ srcs, SortedEnts s)
    {s : List Ent} (hs : s ∈ srcs) {e : Ent} (he : e ∈ s) :
    ∃ e' ∈ mergeAll srcs, e'.key = e.key ∧ e'.ver = e.ver := by
  induction srcs with
  | nil => cases hs
  | cons s0 rest ih =>
    have h0 := h s0 List.mem_cons_self
    have hrest : ∀ s' ∈ rest, SortedEnts s' := fun s' hs' => h s' (List.mem_cons_of_mem _ hs')
    rw [mergeAll_cons]
    by_cases hex : ∃ y ∈ s0, y.key = e.key ∧ y.ver = e.ver
    · obtain ⟨y, hy, hkv⟩ := hex
      exact ⟨y, (mem_merge2 h0 (mergeAll_sorted hrest)).mpr (.inl hy), hkv⟩
    · rcases List.mem_cons.mp hs with rfl | hs
      · exact absurd ⟨e, he, rfl, rfl⟩ hex
      · obtain ⟨e', he', hk, hv⟩ := ih hrest hs
        refine ⟨e', (mem_merge2 h0 (mergeAll_sorted hrest)).mpr (.inr ⟨he', ?_⟩), hk, hv⟩
        intro y hy hkv
        exact hex ⟨y, hy, hkv.1.trans hk, hkv.2.trans hv⟩

/-- the merge holds at most one entry per `(key, ver)` -/
theorem C12_merge_unique {srcs : List (List Ent)} (h : ∀ s ∈ srcs, SortedEnts s) {a b : Ent}
    (ha : a ∈ mergeAll srcs) (hb : b ∈ mergeAll srcs) (hk : a.key = b.key) (hv : a.ver = b.ver) :
    a = b := (mergeAll_sorted h).eq_of_key_ver ha hb hk hv

/-- **C12 (merge)** — the merged stream serves the same reads as the sources searched in order
    (plain equality: `merge2` keeps the left copy on equal `(key, ver)` and `newestLE` keeps the
    first maximal entry). -/
theorem C12_merge_reads {srcs : List (List Ent)} (h : ∀ s ∈ srcs, SortedEnts s) (k : Bytes)
    (ts : Nat) : newestLE (mergeAll srcs) k ts = newestLE srcs.flatten k ts :=
  newestLE_mergeAll h k ts

theorem C12_merge2_reads {a b : List Ent} (ha : SortedEnts a) (k : Bytes) (ts : Nat) :
    newestLE (merge2 a b) k ts = newestLE (a ++ b) k ts := by
  rw [newestLE_merge2 ha, newestLE_append]

theorem C12_memPut_sorted {e : Ent} {m : List Ent} (hs : SortedEnts m) : SortedEnts (memPut e m) :=
  memPut_sorted hs

/-- insert-or-replace -/
theorem C12_memPut_mem {e x : Ent} {m : List Ent} (hs : SortedEnts m) :
    x ∈ memPut e m ↔ x = e ∨ (x ∈ m ∧ ¬(x.key = e.key ∧ x.ver = e.ver)) := mem_memPut hs

/-- **C12 (memPut)** — exactly equal: a skiplist after `Put e` reads like the list with `e` put
    in front (where it wins the tie against the entry it replaces). Holds for any list. -/
theorem C12_memPut_reads (e : Ent) (m : List Ent) (k : Bytes) (ts : Nat) :
    newestLE (memPut e m) k ts = newestLE (e :: m) k ts := newestLE_memPut e m k ts

section Sanity

private def mk (k : Nat) (v : Nat) (m : Nat) (exp : Nat := 0) (val : Nat := 0) : Ent :=
  { key := [UInt8.ofNat k], ver := v, emeta := m, umeta := 0, exp := exp, val := [UInt8.ofNat val] }

private def sample : List Ent :=
  [mk 1 12 0, mk 1 9 0, mk 1 7 0, mk 1 5 0, mk 2 6 bitDelete, mk 2 4 0]

private def prm (ov : Bool) : CParams :=
  { discardTs := 10, numKeep := 2, hasOverlap := ov, now := 100, dropPrefixes := [] }

-- hypotheses of C12_filter_reads(_refined) are satisfiable, and both disjuncts occur
example : SortedEnts sample ∧ (prm false).dropPrefixes = [] ∧ (prm false).discardTs ≤ 10 := by decide
example : newestLE (subcompact (prm false) sample) [1] 11 = newestLE sample [1] 11 := by decide
example : newestLE (subcompact (prm false) sample) [2] 11 = none ∧
    newestLE sample [2] 11 = some (mk 2 6 bitDelete) := by decide
-- below the discard watermark the filter *does* change reads (so `discardTs ≤ ts` is needed)
example : newestLE (subcompact (prm false) sample) [1] 6 = none ∧
    newestLE sample [1] 6 = some (mk 1 5 0) := by decide
-- and on an earlier clock an expired-and-dropped entry would still be visible (`p.now ≤ now` is needed)
example : visible 40 (newestLE (subcompact (prm false) [mk 3 9 0 50]) [3] 11) = none ∧
    visible 40 (newestLE [mk 3 9 0 50] [3] 11) = some (mk 3 9 0 50) := by decide

-- merge: hypotheses satisfiable
example : ∀ s ∈ [[mk 1 9 0 0 1, mk 2 4 0], [mk 1 9 0 0 2, mk 1 7 0]], SortedEnts s := by decide

-- memPut replaces
example : memPut (mk 1 9 0 0 7) [mk 1 12 0, mk 1 9 0, mk 2 4 0] =
    [mk 1 12 0, mk 1 9 0 0 7, mk 2 4 0] := by decide

end Sanity

end Badger
