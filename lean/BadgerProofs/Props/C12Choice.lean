import BadgerProofs.Lemmas.LsmChoice
import BadgerProofs.Props.C12
/-!
# C12 — the hypotheses of the compaction theorems follow from the run-time-checked picker predicate

`validChoice` (BadgerModel/Picker.lean) is evaluated by the mvcc driver on every compaction the
implementation performs. Here: `validChoice` (+ the index sanity `ChoiceIdxOk` that `validChoice`
does not look at) gives `CompactOk`; and the rule of the repaired `fillTablesL0ToLbase` (finding
F28: the chain-overlapping prefix, or ALL of L0 when a table behind the prefix overlaps its range)
gives `TopsOldest` in the strongest possible form — the L0 tables left behind share no user key
with the tables taken — with no assumption about the order of the L0 tables, which `Open` re-sorts
by file id. So the read-preservation theorem needs no hypothesis about the choice beyond
`validChoice`. (`L0SF` of Lemmas/LsmChoice.lean is a shape of L0 that commits, flushes and well-formed
compactions keep (`C14_l0sf_*` below) and a re-ordering of L0 does not; the read theorems do not use it.)
-/
namespace Badger

/-- a choice the production pickers can make is a well-formed compaction. `ChoiceIdxOk` is
    exactly what `validChoice` does not inspect (levels exist, indices point at tables, `top` in
    level order, same-level compaction of a level `≥ 1` only on the last level); `VerBound` is needed
    because `BotExact` speaks about `tblOverlaps` on `key@MaxUint64 … key@0` while `overlapIdx`
    compares user keys. -/
theorem C12_validChoice_compactOk {s : Lsm} {cd : CompactDef} (h : LsmInv s) (hv : VerBound s)
    (hi : ChoiceIdxOk s cd) (htop : cd.top ≠ []) (hvc : validChoice s cd = true) : CompactOk s cd := by
  open LL in
  obtain ⟨hth, hnx, htr, hinc, hbr, hlast⟩ := hi
  have htne := tops_ne_nil htr htop
  have exact_case : 1 ≤ cd.nextLevel → cd.bot = overlapIdx (cdNextT s cd) (rangeOfTables (cdTops s cd)) →
      CdBase s cd ∧ BotExact s cd := by
    intro hn hb
    have htok : ∀ t ∈ cdTops s cd, TblOk t := fun t ht => (h.level (levels_getD hth)).1 t (tops_mem ht)
    obtain ⟨lo, hi', hkr⟩ := keyRangeOf_some htok htne
    obtain ⟨hlo, hhi, _⟩ := keyRangeOf_cover htok hkr
    have hnext : s.levels[cd.nextLevel]? = some (cdNextT s cd) := levels_getD hnx
    rw [rangeOfTables_eq htok hkr, overlapIdx_eq_range (h.level hnext).1 (fun t ht e he =>
      hv e (mem_allEntries_of_level ⟨_, t, hnext, ht, he⟩)) hlo hhi] at hb
    exact cdBase_of_range h hth hnx htr hinc htop hn hkr hb
  rcases validChoice_cases hvc htop with ⟨h0, hn, hb, _⟩ | ⟨h0, hn, ht, hb, hbt⟩ | ⟨h0, hsame, i, ht, hcont, hhead⟩ |
      ⟨h0, hn, i, ht, hb⟩
  · refine ⟨⟨hth, hnx, htr, hinc, htop, ?_, ?_⟩, .inr (.inr (.inl ⟨h0, hn, hb⟩))⟩
    · rw [hb]; rfl
    · rw [hb]; simp
  · obtain ⟨hbase, hexact⟩ := exact_case (by omega) hb
    refine ⟨hbase, .inl ⟨h0, by omega, ?_, ?_, hexact⟩⟩
    · rw [ht, List.length_range]
    · intro j hj hpos
      have hmem : j ∈ (List.range cd.nextLevel).drop 1 := by
        rw [List.range_eq_range', List.drop_range', List.mem_range'_1]; omega
      have := List.any_eq_false.mp hbt j hmem
      simp only [Bool.not_eq_true, Bool.not_eq_false'] at this
      simpa using this
  · have hshape := contiguous_shape hcont
    refine ⟨⟨hth, hnx, htr, hinc, htop, hshape, ?_⟩, .inr (.inr (.inr ⟨by omega, hsame.symm, hlast hsame h0, by rw [ht]; rfl, ?_⟩))⟩
    · by_cases hb0 : cd.bot = []
      · rw [hb0]; simp
      · have hlen : 0 < cd.bot.length := List.length_pos_iff.mpr hb0
        have hm : cd.bot.headD 0 + cd.bot.length - 1 ∈ List.range' (cd.bot.headD 0) cd.bot.length :=
          List.mem_range'_1.mpr ⟨by omega, by omega⟩
        have := hbr _ (hshape.symm ▸ hm)
        omega
    · rcases hhead with hb0 | hh
      · exact .inl hb0
      · right
        rw [ht, List.headD_eq_head?_getD, hh]
        rfl
  · obtain ⟨hbase, hexact⟩ := exact_case (by omega) hb
    exact ⟨hbase, .inr (.inl ⟨by omega, hn, by rw [ht]; rfl, hexact⟩)⟩

/-- `ChoiceIdxOk` is needed: with a next level that does not exist `validChoice` still accepts, and
    `Lsm.compact` would silently lose the table. -/
theorem C12_validChoice_needs_idxOk :
    ∃ (s : Lsm) (cd : CompactDef), LsmInv s ∧ VerBound s ∧ cd.top ≠ [] ∧ validChoice s cd = true ∧
      ¬ CompactOk s cd :=
  ⟨{ mem := [], imm := [], levels := [[{ ents := [⟨[1], 1, 0, 0, 0, []⟩] }]] },
   { thisLevel := 0, nextLevel := 1, top := [0], bot := [], outSizes := [1], dropPrefixes := [] },
   by decide, by decide, by decide, by decide, by decide⟩

/-- L0 in age order is the special case `m = 0` of `L0SF` -/
theorem C14_l0sf_of_layered {s : Lsm} (hl : Layered s) : L0SF s := by
  refine ⟨0, Nat.zero_le _, ?_, ?_⟩
  · intro i j a b x y _ hj; omega
  · intro j j' a b hlt _ hj hj'
    cases hlv : s.levels with
    | nil => rw [hlv] at hj; simp at hj
    | cons l0 rest =>
      rw [hlv] at hj hj'
      exact ((LL.layered_iff_X s).mp hl).2 l0 j j' a b (by rw [hlv]; rfl) hj hj' hlt

theorem C14_l0sf_init (n : Nat) : L0SF (Lsm.init n) := by
  refine ⟨0, Nat.zero_le _, ?_, ?_⟩
  · intro i j a b x y _ hj; omega
  · intro j j' a b _ _ hj
    have : (Lsm.init n).levels.getD 0 [] = [] := by
      cases n <;> simp [Lsm.init, List.replicate]
    rw [this] at hj; simp at hj

theorem C14_l0sf_put {s : Lsm} (hsf : L0SF s) (e : Ent) : L0SF (s.putEnt e) := hsf

theorem C14_l0sf_flush {s : Lsm} (hl : LayeredX s) (hsf : L0SF s) (id : Nat) : L0SF (s.flush id) := by
  open LL in
  rcases flush_eq_self_or s id with he | ⟨l0, rest, hlv, _, he⟩
  · rw [he]; exact hsf
  · obtain ⟨m, hm, hsorted, haged⟩ := hsf
    rw [he]
    have hg : s.levels.getD 0 [] = l0 := by rw [hlv]; rfl
    rw [hg] at hm hsorted haged
    refine ⟨m, ?_⟩
    simp only [List.getD_cons_zero]
    obtain ⟨_, p2, _⟩ := (layeredX_iff s).mp hl
    refine ⟨by simp; omega, ?_, ?_⟩
    · intro i j a b x y hij hjm hi hj
      rw [List.getElem?_append_left (by omega)] at hi hj
      exact hsorted i j a b x y hij hjm hi hj
    · exact aged_append haged fun b hb x hx e he' hk =>
        p2 x (mem_memEnts.mpr ⟨s.mem, by simp, hx⟩) 0 e ⟨l0, b, by rw [hlv]; rfl, hb, he'⟩ hk

/-- every well-formed compaction keeps the shape: L0 → Lbase removes a prefix, L0 → L0 re-sorts the
    whole level by `Smallest`, the others do not touch level 0 -/
theorem C14_l0sf_compact {s s' : Lsm} {cd : CompactDef} {d n now : Nat} (h : LsmInv s) (hc : CompactOk s cd)
    (hsf : L0SF s) (hs : s.compact cd d n now = some s') : L0SF s' := by
  open LL in
  obtain ⟨new0, hsp, rfl⟩ := compact_some hs
  obtain ⟨m, hm, hsorted, haged⟩ := hsf
  rcases level0_after_compact hc new0 with ⟨_, e⟩ | ⟨_, e⟩ | ⟨_, e⟩
  · refine ⟨m - cd.top.length, ?_⟩
    simp only [List.getD_eq_getElem?_getD, e, Option.getD_some]
    rw [← List.getD_eq_getElem?_getD]
    refine ⟨by rw [List.length_drop]; omega, ?_, ?_⟩
    · intro i j a b x y hij hjm hi hj
      rw [List.getElem?_drop] at hi hj
      exact hsorted _ _ a b x y (by omega) (by omega) hi hj
    · intro j j' a b hlt hmj hj hj'
      rw [List.getElem?_drop] at hj hj'
      exact haged _ _ a b (by omega) (by omega) hj hj'
  · -- L0 → L0: the whole level is re-sorted by `Smallest`
    refine ⟨(newNext s cd new0).length, ?_⟩
    simp only [List.getD_eq_getElem?_getD, e, Option.getD_some]
    have hne : ∀ t ∈ removeIdx (cdNextT s cd) (takenIdx cd) ++ withIds new0 cd.outIds, t.ents ≠ [] := by
      intro t ht
      rcases List.mem_append.mp ht with h1 | h1
      · exact ((next_level h hc.1).2.1 t ((removeIdx_sublist _ _).subset h1)).1
      · exact ((new_tables h hc hsp).1 t h1).1.1
    have hpw := List.pairwise_iff_getElem.mp (show (newNext s cd new0).Pairwise SmLe from sortBySmallest_smLe hne)
    refine ⟨Nat.le_refl _, ?_, ?_⟩
    · intro i j a b x y hij hjm hi hj hx hy hlt
      obtain ⟨hil, rfl⟩ := List.getElem?_eq_some_iff.mp hi
      obtain ⟨hjl, rfl⟩ := List.getElem?_eq_some_iff.mp hj
      exact hpw i j hil hjl hij x y hx hy (elt_of_klt hlt)
    · intro j j' a b _ hmj hj
      have := (List.getElem?_eq_some_iff.mp hj).1
      omega
  · refine ⟨m, ?_⟩
    simp only [List.getD_eq_getElem?_getD, e]
    rw [← List.getD_eq_getElem?_getD]
    exact ⟨hm, hsorted, haged⟩

/-- the repaired picker (F28: the chain-overlapping prefix, or all of L0 when a table behind it
    overlaps) never leaves behind an L0 table whose key range overlaps the tables it takes -/
theorem C12_validChoice_noLeftBehind {s : Lsm} {cd : CompactDef} (htop : cd.top ≠ [])
    (hvc : validChoice s cd = true) (hk : IsL0Lbase s cd) : LL.cdLeftBehind s cd = false := by
  open LL in
  have h0 := hk.1
  have hn : cd.nextLevel ≠ 0 := by have := hk.2.1; omega
  unfold cdLeftBehind
  simp only [h0, beq_self_eq_true, Bool.true_and]
  have hall : ∀ (m : Nat), (cdThisT s cd).length ≤ m → cd.top = List.range m →
      removeIdx (cdThisT s cd) cd.top = [] := fun m hm ht => by
    rw [ht, removeIdx_range, List.drop_eq_nil_of_le hm]
  rcases validChoice_cases hvc htop with ⟨_, hn', _⟩ | ⟨_, _, ht, _, _⟩ | ⟨hne, _⟩ | ⟨hne, _⟩
  · exact absurd hn' hn
  · by_cases hdp : cd.dropPrefixes.isEmpty = true
    · rw [if_pos hdp] at ht
      unfold l0PickLen at ht
      simp only at ht
      split at ht
      · rw [hall _ (Nat.le_refl _) ht]; rfl
      · rename_i hany
        have hle := l0PrefixLen_le (cdThisT s cd) none
        have htops : cdTops s cd = (cdThisT s cd).take (l0PrefixLen (cdThisT s cd) none) := by
          unfold cdTops; rw [ht, pickIdx_range _ _ hle]
        rw [htops]
        rw [ht, removeIdx_range]
        apply List.any_eq_false.mpr
        intro t htm
        have := List.any_eq_false.mp (by simpa using hany) t htm
        unfold overlapsRange at this
        cases hk : t.keyRange with
        | none => simp
        | some d => rw [hk] at this; simpa using this
    · rw [if_neg hdp] at ht
      rw [hall _ (Nat.le_refl _) ht]; rfl
  · exact absurd h0 hne
  · exact absurd h0 hne

/-- hence the side condition `TopsOldest` of the L0 → Lbase theorems: the tables left in L0
    share no user key with the tops — with NO assumption about the order of L0 (so it survives the
    re-sort by file id that `Open` performs). -/
theorem C12_validChoice_topsOldest {s : Lsm} {cd : CompactDef} (h : LsmInv s)
    (hth : cd.thisLevel < s.levels.length) (htop : cd.top ≠ []) (hvc : validChoice s cd = true)
    (hk : IsL0Lbase s cd) : TopsOldest s cd :=
  LL.topsOldest_of_noLeftBehind h hth hk.1 (C12_validChoice_noLeftBehind htop hvc hk)

/-- C12 with the choice hypothesis replaced by the run-time-checked predicate: every compaction the
    pickers can choose preserves every read at `ts ≥ discardTs`, in every state of the kind the
    engine maintains. -/
theorem C12_compact_reads_valid {s s' : Lsm} {cd : CompactDef} {d n now' now ts : Nat} {k : Bytes}
    (h : LsmInv s) (hv : VerBound s) (hl : LayeredX s) (hu : KeyVerUnique s)
    (hi : ChoiceIdxOk s cd) (htop : cd.top ≠ []) (hvc : validChoice s cd = true)
    (hdp : cd.dropPrefixes = []) (hs : s.compact cd d n now' = some s') (hts : d ≤ ts) (hnow : now' ≤ now) :
    visible now (s'.get k ts) = visible now (s.get k ts) := by
  have hc := C12_validChoice_compactOk h hv hi htop hvc
  exact C12_compact_reads_weak h hv hl hc (fun hk => C12_validChoice_topsOldest h hi.1 htop hvc hk)
    (fun _ => LL.tblsFun_of_unique hu hc.1) hdp hs hts hnow

/-! ## finding F28 and its repair

On the state of F28 (`C12_f28State`, Props/C12.lean) `validChoice` rejects the choice that resurrected the deleted key
and accepts ALL of L0, which preserves the read (`C12_f28_picker_rejects`); forcing `hasOverlap := true` with the
picker unchanged does not repair it (`C12_f28_hasOverlap_repair_insufficient`). -/

def C12_f28CdAll : CompactDef :=
  { thisLevel := 0, nextLevel := 1, top := [0, 1], bot := [], outSizes := [], dropPrefixes := [] }
def C12_f28StateAll' : Lsm :=
  { mem := [], imm := [], levels := [[], []] }

/-- F28, repaired in the picker: on the F28 state (L0 = [ {1@2 marker}, {1@1 ↦ 42} ], newer table
    first) the choice `top = [0]` that resurrected `1@1` (`C12_L0Lbase_needs_topsOldest`) is not
    a choice of the repaired picker — the table behind the prefix overlaps its range, so ALL of L0 is taken;
    that compaction drops the marker TOGETHER with the version it shadows and preserves the read. -/
theorem C12_f28_picker_rejects :
    validChoice C12_f28State C12_f28Cd = false ∧
    ChoiceIdxOk C12_f28State C12_f28CdAll ∧ validChoice C12_f28State C12_f28CdAll = true ∧
    C12_f28State.compact C12_f28CdAll 5 1 0 = some C12_f28StateAll' ∧
    visible 0 (C12_f28StateAll'.get [1] 9) = visible 0 (C12_f28State.get [1] 9) := by
  refine ⟨by decide, by decide, by decide, by decide +kernel, by decide⟩

/-! Why the repair is in the picker: a candidate repair that keeps the picker and forces
`hasOverlap := true` in an L0 → Lbase compaction that leaves an overlapping L0 table behind
keeps the marker in THAT step but moves it BELOW the older version it shadows, destroying the
recency invariant every deeper compaction relies on. -/

/-- L0 as sorted by file id after a reopen: marker `1@5`, an unrelated table, the old `1@1 ↦ 42` -/
def C12_f28bS0 : Lsm :=
  { mem := [], imm := [],
    levels := [[{ ents := [⟨[1], 5, 1, 0, 0, []⟩] }, { ents := [⟨[3], 1, 0, 0, 0, [3]⟩] },
                { ents := [⟨[1], 1, 0, 0, 0, [42]⟩] }], [], []] }
def C12_f28bCdA : CompactDef :=
  { thisLevel := 0, nextLevel := 1, top := [0], bot := [], outSizes := [1], dropPrefixes := [] }
/-- what that candidate repair produced from `C12_f28bS0`: the marker, kept, now in L1 -/
def C12_f28bS1 : Lsm :=
  { mem := [], imm := [],
    levels := [[{ ents := [⟨[3], 1, 0, 0, 0, [3]⟩] }, { ents := [⟨[1], 1, 0, 0, 0, [42]⟩] }],
               [{ ents := [⟨[1], 5, 1, 0, 0, []⟩] }], []] }
def C12_f28bCdB : CompactDef :=
  { thisLevel := 1, nextLevel := 2, top := [0], bot := [], outSizes := [], dropPrefixes := [] }
def C12_f28bS2 : Lsm :=
  { mem := [], imm := [],
    levels := [[{ ents := [⟨[3], 1, 0, 0, 0, [3]⟩] }, { ents := [⟨[1], 1, 0, 0, 0, [42]⟩] }], [], []] }

/-- the `hasOverlap` repair of F28 is insufficient. Step A (L0 → L1 of the chain prefix `[0]` of
    `C12_f28bS0`, with `hasOverlap` forced to `true` because the table left behind overlaps) writes
    exactly the marker — the state `C12_f28bS1`, which is structurally fine but no longer `LayeredX`
    (the newer `1@5` lies below the older `1@1`). Step B, an ordinary picker-valid L1 → L2 compaction
    of that marker, finds nothing below (`hasOverlap = false`) and drops it: key 1 reads 42 again.
    (The repaired picker never makes step A: `validChoice C12_f28bS0 C12_f28bCdA = false`.) -/
theorem C12_f28_hasOverlap_repair_insufficient :
    -- step A under the candidate repair writes the marker …
    subcompact { discardTs := 6, numKeep := 1, hasOverlap := true, now := 0, dropPrefixes := [] }
      (LL.cdMerged C12_f28bS0 C12_f28bCdA) = [⟨[1], 5, 1, 0, 0, []⟩] ∧
    -- … into a state that is well formed but not layered,
    LsmInv C12_f28bS1 ∧ VerBound C12_f28bS1 ∧ KeyVerUnique C12_f28bS1 ∧ ¬ LayeredX C12_f28bS1 ∧
    -- from which an ordinary valid compaction resurrects the deleted key
    ChoiceIdxOk C12_f28bS1 C12_f28bCdB ∧ validChoice C12_f28bS1 C12_f28bCdB = true ∧
    C12_f28bS1.compact C12_f28bCdB 6 1 0 = some C12_f28bS2 ∧
    visible 0 (C12_f28bS0.get [1] 9) = none ∧ visible 0 (C12_f28bS1.get [1] 9) = none ∧
    visible 0 (C12_f28bS2.get [1] 9) = some ⟨[1], 1, 0, 0, 0, [42]⟩ ∧
    validChoice C12_f28bS0 C12_f28bCdA = false := by
  refine ⟨?_, by decide, by decide, by decide, by decide, by decide, by decide, by decide +kernel, by decide,
    by decide, by decide, by decide⟩
  decide +kernel

/-! non-vacuity: the production choice on a three-table L0 whose first two tables chain-overlap -/
def C12_choiceState : Lsm :=
  { mem := [], imm := [],
    levels := [[{ ents := [⟨[1], 1, 0, 0, 0, []⟩, ⟨[3], 1, 0, 0, 0, []⟩] }, { ents := [⟨[2], 2, 0, 0, 0, []⟩] },
                { ents := [⟨[5], 3, 0, 0, 0, []⟩] }],
               [{ ents := [⟨[2], 1, 0, 0, 0, []⟩] }, { ents := [⟨[7], 1, 0, 0, 0, []⟩] }]] }
def C12_choiceCd : CompactDef :=
  { thisLevel := 0, nextLevel := 1, top := [0, 1], bot := [0], outSizes := [4], dropPrefixes := [] }

example : LsmInv C12_choiceState ∧ VerBound C12_choiceState ∧ ChoiceIdxOk C12_choiceState C12_choiceCd ∧
    validChoice C12_choiceState C12_choiceCd = true ∧ CompactOk C12_choiceState C12_choiceCd ∧
    TopsOldest C12_choiceState C12_choiceCd := by decide

end Badger
