import BadgerModel.Extracted
/-!
# T-gen facts for the log-record properties (C16, C09, the streaming header decoder of C20) and the
MANIFEST rewrite constants (C17).
Kept apart from `Tgen.lean` (which imports the LSM model) because the log model and the LSM
model both declare the meta-bit constants. This file imports neither model: the regenerated values
are compared with literals, of which `20`, `64`, `128` are in `BadgerModel/Log.lean` the values of
`vlogHeaderSize`, `bitTxn`, `bitFinTxn`.
-/
namespace Badger

theorem C16_tgen_log_consts : Extracted.vlogHeaderSize = 20 ∧ Extracted.maxHeaderSize = 22 ∧
    Extracted.bitTxn = 64 ∧ Extracted.bitFinTxn = 128 ∧ Extracted.bitValuePointer = 2 ∧
    Extracted.bitDelete = 1 := ⟨rfl, rfl, rfl, rfl, rfl, rfl⟩

/-- The reads of `safeRead.Entry` are the ones the model's `readFull` / `headerDecodeFrom` mirror:
    header via `DecodeFrom` (two `ReadByte`, three `binary.ReadUvarint`), key‖value and checksum via
    `io.ReadFull` (no bare `Read`, which returns short counts at refill boundaries of the
    `bufio.Reader` that `iterate` uses), in this order. -/
theorem C16_tgen_saferead_reads : Extracted.ord_saferead_reads = "ascending" ∧
    Extracted.has_saferead_bare_read = "no" ∧ Extracted.ord_header_decodefrom_reads = "ascending" ∧
    Extracted.has_iterate_bufio = "yes" := ⟨rfl, rfl, rfl, rfl⟩

theorem C09_tgen_saferead_reads : Extracted.ord_saferead_reads = "ascending" ∧
    Extracted.has_saferead_bare_read = "no" := ⟨rfl, rfl⟩

theorem C09_tgen_log_consts : Extracted.vlogHeaderSize = 20 ∧ Extracted.maxHeaderSize = 22 ∧
    Extracted.bitTxn = 64 ∧ Extracted.bitFinTxn = 128 := ⟨rfl, rfl, rfl, rfl⟩

theorem C17_tgen_manifest_consts :
    Extracted.manifestDeletionsRewriteThreshold = 10000 ∧ Extracted.manifestDeletionsRatio = 10 ∧
    Extracted.op_manifest_rewrite_threshold = ">" := ⟨rfl, rfl, rfl⟩

/-- C20: the streaming header decoder reads two single bytes and three uvarints, in this order, from
    the hashing reader (`C20_header_decodeFrom` is proved for exactly these reads; a bare `Read` of
    two bytes returns one at a refill boundary of the `bufio.Reader` — seed C20e). -/
theorem C20_tgen_header_decodefrom : Extracted.ord_header_decodefrom_reads = "ascending" ∧
    Extracted.has_iterate_bufio = "yes" := ⟨rfl, rfl⟩

end Badger
