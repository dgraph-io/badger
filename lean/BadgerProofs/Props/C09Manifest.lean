import BadgerProofs.Props.C17
/-!
# C09 (MANIFEST part) — a torn tail of the MANIFEST is recovered, not surfaced.

Last frame cut at any byte, rest missing: `Open` (`helpOpenOrCreateManifestFile`) recovers exactly
the change sets before the damage, for every cut (the length check of finding F16 failed on
some). Rest zero-filled: zeros after a complete frame are read as empty change sets, but a cut
frame refilled with zeros can be a checksum error (finding F5; which cuts: the examples at the end).
-/
namespace Badger

/-- **Torn tail, rest missing.** The MANIFEST of `pre ++ [last]` cut at any byte `c` inside the
    frame of `last`: opening it succeeds, the replayed manifest is the one after `pre`, the file
    is truncated to the end of the last complete frame and the in-memory manifest is a clone of
    the replayed one. -/
theorem C09_manifest_trunc (cd : Codec) (hv : cd.Valid) (ext : Nat) (hext : ext < 2 ^ 16) (threshold : Int)
    (pre : List ChangeSet) (last : ChangeSet) (c : Nat) (m : Manifest)
    (hall : applyAll Manifest.empty pre = some m) (hrange : ∀ s, s ∈ pre → ChangeSet.InRange s)
    (hc1 : (manifestFileOf cd ext pre).length ≤ c)
    (hc2 : c < (manifestFileOf cd ext (pre ++ [last])).length)
    (hsize : c < 2 ^ 32) (hl32 : (cd.enc last).length < 2 ^ 32) :
    MFile.openExisting cd ((manifestFileOf cd ext (pre ++ [last])).take c) ext threshold =
      .ok ({ file := manifestFileOf cd ext pre, manifest := m.clone cd, threshold, ext,
             pos := (manifestFileOf cd ext pre).length }, m) := by
  unfold MFile.openExisting
  rw [C17_trunc cd hv ext hext pre last c m hall hrange hc1 hc2 hsize hl32]
  simp only
  rw [manifestFileOf_snoc, List.take_take, Nat.min_eq_left hc1, List.take_left' rfl]

/-- Last frame cut at any byte, rest missing: Open succeeds and recovers the sets before the
    damage (MANIFEST smaller than 4 GiB: `uint32` length field). -/
def C09_manifest_truncStatement (cd : Codec) : Prop :=
  ∀ (ext : Nat) (threshold : Int) (pre : List ChangeSet) (last : ChangeSet) (c : Nat) (m : Manifest),
    ext < 2 ^ 16 → applyAll Manifest.empty pre = some m →
    (∀ s, s ∈ pre → ChangeSet.InRange s) → ChangeSet.InRange last →
    (manifestFileOf cd ext (pre ++ [last])).length < 2 ^ 32 →
    (manifestFileOf cd ext pre).length ≤ c → c < (manifestFileOf cd ext (pre ++ [last])).length →
    ∃ mf, MFile.openExisting cd ((manifestFileOf cd ext (pre ++ [last])).take c) ext threshold = .ok (mf, m)

theorem C09_manifest_trunc_all (cd : Codec) (hv : cd.Valid) : C09_manifest_truncStatement cd := by
  intro ext threshold pre last c m hext hall hrange _ hsz hc1 hc2
  exact ⟨_, C09_manifest_trunc cd hv ext hext threshold pre last c m hall hrange hc1 hc2 (by omega)
    (enc_last_lt cd ext pre last hsz)⟩

/-- Finding F16 at the level of Open: the image that the check against `uint32(stat.Size())`
    rejects (see `C17_F16_regression_witness`) opens, truncated to its 16 intact bytes. -/
theorem C09_manifest_F16_regression_witness :
    oldLengthCheckRejects ((manifestFileOf pbCodec 0 ([[]] ++ [c17Witness])).take 25) 16 = true ∧
    (MFile.openExisting pbCodec ((manifestFileOf pbCodec 0 ([[]] ++ [c17Witness])).take 25) 0 0).toOption.map
      (fun r => (r.1.file.length, r.1.pos, r.2)) = some (16, 16, Manifest.empty) :=
  ⟨C17_F16_regression_witness.1, by decide +kernel⟩

/-- **Zero-filled after a complete frame** (e.g. a pre-allocated or zero-extended file): replay
    succeeds with the manifest of the complete sets. (The truncation offset then includes the
    zero "frames".) Needs `crc("") = 0` and `dec("") = []`, true for CRC32-C / protobuf. -/
theorem C09_manifest_zero_after_complete (cd : Codec) (hv : cd.Valid)
    (hcrc0 : cd.crc [] = 0) (hdec0 : cd.dec [] = some [])
    (ext : Nat) (hext : ext < 2 ^ 16) (sets : List ChangeSet) (n : Nat) (m : Manifest)
    (hall : applyAll Manifest.empty sets = some m) (hrange : ∀ s, s ∈ sets → ChangeSet.InRange s)
    (hsize : (manifestFileOf cd ext sets ++ List.replicate n 0).length < 2 ^ 32) :
    replay cd (manifestFileOf cd ext sets ++ List.replicate n 0) ext =
      .ok (m, (manifestFileOf cd ext sets).length + 8 * (n / 8)) := by
  rw [replay_frames_tail cd hv ext hext sets _ m hall hrange hsize, replayRest_zeros cd hcrc0 hdec0]

/-- The zero-filled variant: last frame cut after `k` bytes, followed by `n` zero bytes ⇒ replay
    succeeds with the manifest of the earlier sets. -/
def C09_manifest_zeroStatement (cd : Codec) : Prop :=
  ∀ (ext : Nat) (pre : List ChangeSet) (last : ChangeSet) (k n : Nat) (m : Manifest),
    ext < 2 ^ 16 → applyAll Manifest.empty pre = some m →
    (∀ s, s ∈ pre → ChangeSet.InRange s) → ChangeSet.InRange last →
    k < (frame cd (cd.enc last)).length →
    ∃ off, replay cd (manifestFileOf cd ext pre ++ (frame cd (cd.enc last)).take k ++ List.replicate n 0) ext =
      .ok (m, off)

/-- The 28-byte witness: header, the empty set of a fresh MANIFEST, one set creating table 1
    (payload `0a 02 08 01`), cut 10 bytes into that frame (2 payload bytes left) and refilled
    with 2 zero bytes: the stored CRC no longer matches. -/
theorem C09_manifest_zero_counterexample_replay :
    replay pbCodec (manifestFileOf pbCodec 0 [[]] ++ (frame pbCodec (pbCodec.enc [Change.create 1 0 0 0])).take 10
      ++ List.replicate 2 0) 0 = .error .badChecksum := by decide +kernel

/-- **Finding F5**: `C09_manifest_zeroStatement` is false for the code as it is. -/
theorem C09_manifest_zero_counterexample : ¬ C09_manifest_zeroStatement pbCodec := by
  intro h
  obtain ⟨off, h1⟩ := h 0 [[]] [Change.create 1 0 0 0] 10 2 Manifest.empty (by decide) (by decide)
    (by decide) (by decide) (by decide)
  rw [C09_manifest_zero_counterexample_replay] at h1
  cases h1

-- the other classes of F5 on the same witness: cut inside the CRC field …
example : replay pbCodec (manifestFileOf pbCodec 0 [[]] ++ (frame pbCodec (pbCodec.enc [Change.create 1 0 0 0])).take 6
    ++ List.replicate 6 0) 0 = .error .badChecksum := by decide +kernel
-- … cut inside the length field (payload < 256 bytes: those bytes are zero anyway): fine
example : replay pbCodec (manifestFileOf pbCodec 0 [[]] ++ (frame pbCodec (pbCodec.enc [Change.create 1 0 0 0])).take 3
    ++ List.replicate 9 0) 0 = .ok (Manifest.empty, 24) := by decide +kernel
-- … not enough zeros to complete the frame: a plain truncation
example : replay pbCodec (manifestFileOf pbCodec 0 [[]] ++ (frame pbCodec (pbCodec.enc [Change.create 1 0 0 0])).take 10
    ++ List.replicate 1 0) 0 = .ok (Manifest.empty, 16) := by decide +kernel
-- the premises of `C09_manifest_zero_after_complete` hold for the concrete codec
example : pbCodec.crc [] = 0 ∧ pbCodec.dec [] = some [] := by decide
-- non-vacuity of `C09_manifest_trunc` (cut 5 bytes into the last frame of the file of `C17_F16_regression_witness`)
example : (MFile.openExisting pbCodec ((manifestFileOf pbCodec 0 ([[]] ++ [c17Witness])).take 21) 0 5).toOption.map
    (fun r => (r.1.file.length, r.2)) = some (16, Manifest.empty) := by decide +kernel

end Badger
