import BadgerProofs.Lemmas.CrashMain
/-!
# C08 — a crash (process kill) at any point recovers a commit prefix holding every
# acknowledged commit

Model: `BadgerModel/Fs.lean` (`crashKill`: the page cache survives), `Protocol.lean` (the
small-step machine: writer thread, flusher goroutine, one persistence event per step) and
`Recover.lean` (`Open` as a function of the directory image).

A history is a list of scheduler choices (`Sched`): start a commit / a memtable rotation / a
compaction, let the writer execute its next persistence event, let the flusher execute its
next persistence event. Every interleaving of the two threads at event granularity is a
history and every prefix of a history is a history, so "for every history" is "for every crash
point between two persistence events of every workload".

* `C08_kill_safe` — after every history the directory opens without error and what `Open`
  finds reads like the first `k` issued commits, `acked ≤ k ≤ issued` (whole transactions only).
* `C08_kill_safe_events` — the same, phrased over the emitted `FsOp` sequence cut after the
  operations of any number `n` of steps of the history.
* `C08_syscall_statement` — the claim for cuts between any two *system calls*: stated, not proved
  (checked on the two F22 scenarios and by the harness).
* `C08_syscall_oldStatement` is the same claim for cuts between any two *system calls* and the
  `Open` of before the repair of finding F22; it is **false**: `z.OpenMmapFile` creates a log
  file with `open(O_CREAT)` and sizes it with a second call, `z.MmapFile.Delete` truncates to 0
  before unlinking, and `Open` refused a zero-length `.mem` / `.vlog` file
  (`C08_syscall_counterexample`). `C08_f22_repaired`: the repaired `Open` accepts both images.
-/
namespace Badger

theorem C08_kill_safe (R : ViewRel) (c : Cfg) (h : List Sched) (hok : SchedHistOk R (MState.init c).p h) :
    ∃ r, recover false (crashKill ((MState.init c).exec h).fs) = .ok r ∧
      ∃ k, ((MState.init c).exec h).p.acked ≤ k ∧ k ≤ ((MState.init c).exec h).p.commits.length ∧
        R.r r.entries (txnsEnts (((MState.init c).exec h).p.commits.take k)) := by
  have hI := reach_inv R c h hok
  obtain ⟨r, hr, hm, _⟩ := recover_of_inv false hI nofun
  refine ⟨r, hr, ((MState.init c).exec h).p.done, hI.logic.acked_le, hI.logic.done_le, ?_⟩
  exact R.trans _ _ _ (R.of_mem_iff _ _ hm) hI.logic.view

theorem SchedHistOk_append (R : ViewRel) (p : PState) (a b : List Sched) :
    SchedHistOk R p (a ++ b) ↔ SchedHistOk R p a ∧ SchedHistOk R (a.foldl (fun p x => (p.step x).2) p) b := by
  induction a generalizing p with
  | nil => simp [SchedHistOk]
  | cons x a ih => simp only [List.cons_append, SchedHistOk, List.foldl_cons, ih, and_assoc]

theorem exec_p (m : MState) (h : List Sched) : (m.exec h).p = h.foldl (fun p x => (p.step x).2) m.p := by
  induction h generalizing m with
  | nil => rfl
  | cons x h ih => show ((m.step x).exec h).p = _; rw [ih]; rfl

theorem exec_fs (m : MState) (h : List Sched) : (m.exec h).fs = m.fs.run (m.p.atoms h).flatten := by
  induction h generalizing m with
  | nil => rfl
  | cons x h ih =>
    show ((m.step x).exec h).fs = _
    rw [ih]
    simp [MState.step, PState.atoms, Fs.run, List.foldl_append]

theorem atoms_take (p : PState) (h : List Sched) (n : Nat) : (p.atoms h).take n = p.atoms (h.take n) := by
  induction h generalizing p n with
  | nil => simp [PState.atoms]
  | cons x h ih =>
    cases n with
    | zero => simp [PState.atoms]
    | succ n => simp [PState.atoms, ih]

/-- C08 over the `FsOp`s a history emits, step by step (`PState.atoms`): keep those of the first
    `n` steps of the history (a step that emits nothing counts; `n` larger than the history = no
    crash), kill the process, open the directory. The commits issued / acknowledged by then are
    those of the prefix `h.take n`. -/
theorem C08_kill_safe_events (R : ViewRel) (c : Cfg) (h : List Sched) (hok : SchedHistOk R (MState.init c).p h) (n : Nat) :
    ∃ r, recover false (crashKill ((MState.init c).fs.run (((MState.init c).p.atoms h).take n).flatten)) = .ok r ∧
      ∃ k, ((MState.init c).exec (h.take n)).p.acked ≤ k ∧
        k ≤ ((MState.init c).exec (h.take n)).p.commits.length ∧
        R.r r.entries (txnsEnts (((MState.init c).exec (h.take n)).p.commits.take k)) := by
  have := C08_kill_safe R c (h.take n)
    ((SchedHistOk_append R _ (h.take n) (h.drop n)).mp (by rwa [List.take_append_drop])).1
  rw [exec_fs, ← atoms_take] at this
  exact this

def isError {ε α : Type} : Except ε α → Bool
  | .error _ => true
  | .ok _ => false

def errOf {α : Type} : Except RecErr α → Option RecErr
  | .error e => some e
  | .ok _ => none

/-- C08 with crash points between any two system calls, for the code as it is: `Open` never
    fails. (`create p; extend p` and `truncate p 0; unlink p` are single persistence events but
    two system calls; between them a log file has length zero.) Stated, checked on the two
    F22 scenarios below and by the harness on every such image; the general proof (the
    invariant of `C08_kill_safe` at system-call granularity) is not done. -/
def C08_syscall_statement : Prop :=
  ∀ (c : Cfg) (h : List Sched) (n : Nat),
    isError (recover false (crashKill ((MState.init c).fs.run (((MState.init c).p.atoms h).flatten.take n)))) = false

/-- the same claim for `Open` before the repair of F22 (a zero-length `.mem` / `.vlog` file was
    an error: `recoverOld`) -/
def C08_syscall_oldStatement : Prop :=
  ∀ (c : Cfg) (h : List Sched) (n : Nat),
    isError (recoverOld false (crashKill ((MState.init c).fs.run (((MState.init c).p.atoms h).flatten.take n)))) = false

/-- the regression witness: a memtable rotation, killed between `open(O_CREAT)` and `ftruncate`
    of the new `.mem` file (inside `z.OpenMmapFile`): the old `Open` answered "while opening fid:
    2 … Create a new file". Replay: corpus/C08/f22.ops. -/
def f22History : List Sched := [.flushReq, .w, .w]

theorem C08_f22_witness :
    errOf (recoverOld false (crashKill ((MState.init {}).fs.run (((MState.init {}).p.atoms f22History).flatten.take 1))))
      = some (.zeroLengthLog (.mem 2)) := by
  decide +kernel

theorem C08_syscall_counterexample : ¬ C08_syscall_oldStatement := by
  intro h
  have h1 := h {} f22History 1
  have h2 := C08_f22_witness
  cases hr : recoverOld false (crashKill ((MState.init {}).fs.run (((MState.init {}).p.atoms f22History).flatten.take 1))) with
  | error e => rw [hr] at h1; simp [isError] at h1
  | ok r => rw [hr] at h2; simp [errOf] at h2

/-- the second half of F22: a kill between `ftruncate(0)` and `unlink` inside
    `z.MmapFile.Delete` of the WAL of an empty memtable, which the flusher drops without writing a
    table (nothing was committed; `.f` takes the `es.isEmpty` branch of `flushAtom`) -/
theorem C08_f22_witness_delete :
    isError (recoverOld false (crashKill ((MState.init {}).fs.run
      (((MState.init {}).p.atoms [.flushReq, .w, .w, .w, .w, .f]).flatten.take 5))) ) = true := by
  decide +kernel

theorem C08_f22_repaired :
    isError (recover false (crashKill ((MState.init {}).fs.run (((MState.init {}).p.atoms f22History).flatten.take 1)))) = false ∧
    isError (recover false (crashKill ((MState.init {}).fs.run
      (((MState.init {}).p.atoms [.flushReq, .w, .w, .w, .w, .f]).flatten.take 5)))) = false := by
  decide +kernel

def demoEnt (k : UInt8) (v : UInt8) : CEnt := { key := [k], ver := 0, del := false, val := [v] }

/-- a commit, a memtable rotation, the flush of the rotated memtable (table 1) -/
def demoFlush : List Sched :=
  [.commit [demoEnt 1 1] false, .w, .w, .w, .w, .w, .w, .w, .flushReq, .w, .w, .w, .w, .w, .f, .f, .f, .f, .f, .f, .f]

/-- … followed by a compaction of table 1 into table 2 and a commit in flight -/
def demoHistory : List Sched :=
  demoFlush ++ [.compact [1] [(1, [{ key := [1], ver := 1, del := false, val := [1] }])],
    .w, .w, .w, .w, .w, .w, .w, .commit [demoEnt 2 2] false, .w, .w]

set_option maxHeartbeats 1000000 in
example : ((MState.init {}).exec demoFlush).p.acked = 1 ∧
    ((MState.init {}).exec demoFlush).p.tset = [(1, 0)] ∧
    ((MState.init {}).exec demoFlush).p.tableEnts 1 = [{ key := [1], ver := 1, del := false, val := [1] }] := by
  decide

set_option maxHeartbeats 1000000 in
/-- a history with a compaction that is admissible for the set view (the output table holds
    exactly the entries of the input table) -/
example : SchedHistOk setView (MState.init {}).p demoHistory := by
  unfold demoHistory
  rw [SchedHistOk_append]
  refine ⟨by simp [demoFlush, SchedHistOk], ?_⟩
  have ht : (demoFlush.foldl (fun p x => (p.step x).2) (MState.init {}).p).tableEnts 1 =
      [{ key := [1], ver := 1, del := false, val := [1] }] := by decide
  simp only [SchedHistOk, and_true, List.map, List.flatten, ht]
  intro e; simp

/-- histories without compactions are admissible for every view -/
example (R : ViewRel) : SchedHistOk R (MState.init {}).p demoFlush := by
  simp [demoFlush, SchedHistOk]

end Badger
