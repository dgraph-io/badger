import BadgerModel.Pipeline
/-!
# C38 — public calls and Close always return (no deadlock)

`BadgerModel/Pipeline.lean` is a small-step model of the write pipeline, the flusher, the L0
stall, the L0 compaction and the shutdown sequence of `DB.close`. Proved here: an inductive
invariant of its reachable states (`C38_inv`: queues within capacity, `imm = flushChan +
[flusher busy]`, which goroutine can still be alive in which phase of `Close`) with the projection
the harness checks on the real DB under stress (`C38_coarse_inv`); deadlock freedom, given two
compactors and no caller between the `blockWrites` check and the send on `writeCh` when `Close`
begins (`C38_no_stuck_partial`); that both provisos are needed (`C38_zero_compactors_stuck`, and
`C38_no_stuck_fails` = finding F38a: the late request stays in `writeCh` for ever;
`corpus/C38/f38a.ops` replays the finding on the real code in its other outcome, a send that panics
on the closed channel, which is the label `sendPanic` of the model and not what the witness shows); a measure that
every internal non-poll step decreases (`C38_measure_decreases`), hence bounded runs
(`C38_bounded`) and, under weak fairness of the non-poll steps, a `Close` that returns
(`C38_close_terminates`). The oracle's watermark is not part of the transition system
(`State`/`step`): `C38_F38c_witness` replays finding F38c (a `readTs` after `orc.Stop()` blocks for
ever) on the three-operation model `Orc` of the same file.

Partial (labelled in props/C38.json): scheduler fairness, `time.Sleep` polling and RWMutex
writer preference are abstracted; `DropAll`/`DropPrefix`/`Flatten`/publisher are not modelled;
the stress engine is a test, not a proof.
-/
namespace Badger
open Pipeline

namespace Pipeline

/-- The numbers are control points of `Close` (`CL.rank`): from 1 on writes are blocked (`State.blocked`),
    from 2 the value-log GC has stopped, from 3 `doWrites` is signalled (`writesSignalled`), from 4 it has
    exited and `writeCh` is closed (`writeChClosed`), from 7 `flushChan` is closed (`flushChanClosed`), from 8
    the flusher has exited and the compactors are signalled (`compSignalled`), from 9 no compaction runs.
    The clauses: queues within capacity (`chanCap` … `l0_le`); what `writeRequests` (`wr*`: `wrReqs` requests
    taken, `wrLeft` of them still to write) and `doWrites` (`dw*`) hold at each of their control points; how
    far `Close` has got when a goroutine is in its closing phase or gone (`dwClosed` … `clTail`, `gcClose`);
    and, unless a caller stood between the `blockWrites` check and the send when `Close` began (`late`),
    nobody sends once `Close` is called (`lateSenders`, `lateCh`); before `Close` is called `late` is
    false (`notCalledLate`). -/
structure Inv (c : Cfg) (s : State) : Prop where
  chanCap : s.writeCh ≤ c.writeChCap
  flushCap : s.flushChan ≤ c.numMemtables
  immEq : s.imm = s.flushChan + (if s.fl = .build ∨ s.fl = .addL0 ∨ s.fl = .popImm then 1 else 0)
  l0comp_le : s.l0comp ≤ s.l0
  l0_le : s.l0 ≤ c.l0Stall
  wrNone : s.wr = .none → s.wrReqs = 0 ∧ s.wrLeft = 0
  wrLeft_le : s.wrLeft ≤ s.wrReqs
  wrWork : (s.wr = .ensure ∨ s.wr = .toLSM) → 1 ≤ s.wrLeft
  wrFin : (s.wr = .finish ∨ s.wr = .release) → s.wrLeft = 0
  wrRel : s.wr = .release → s.wrReqs = 0
  wrVlog : s.wr = .vlog → s.wrLeft = s.wrReqs
  dwIdle : s.dw = .idle → s.batch = 0
  dwDone : (s.dw = .closedWrite ∨ s.dw = .exited) → s.batch = 0
  dwInline : s.dw = .closedWrite → s.wr ≠ .none
  dwExited : s.dw = .exited → s.wr = .none
  dwClosed : (s.dw = .closedDrain ∨ s.dw = .closedPush ∨ s.dw = .closedWrite ∨ s.dw = .exited) →
    3 ≤ s.cl.rank
  clPub : 4 ≤ s.cl.rank → s.dw = .exited
  flExited : s.fl = .exited → 7 ≤ s.cl.rank ∧ s.flushChan = 0
  clComp : 8 ≤ s.cl.rank → s.fl = .exited
  clTail : 9 ≤ s.cl.rank → s.l0comp = 0
  lateSenders : s.late = false → 1 ≤ s.cl.rank → s.senders = 0
  lateCh : s.late = false → (s.dw = .closedPush ∨ s.dw = .closedWrite ∨ s.dw = .exited) → s.writeCh = 0
  gcClose : 2 ≤ s.cl.rank → s.gcRunning = false
  dwColl : (s.dw = .collect ∨ s.dw = .pushPending) → 1 ≤ s.batch
  notCalledLate : s.cl = .notCalled → s.late = false

theorem Inv_init (c : Cfg) : Inv c State.init := by
  constructor <;> simp [State.init, CL.rank]

/-- `Close` moves on by one control point (`closeCall`, the first, also fixes `late`): only what
    the invariant asks of the new one is owed. -/
theorem Inv.close {c : Cfg} {s : State} (hi : Inv c s) {x : CL} {b : Bool}
    (hx : x.rank = s.cl.rank + 1 ∧ (1 ≤ s.cl.rank → b = s.late))
    (hnew : (x.rank = 1 → b = false → s.senders = 0) ∧ (x.rank = 2 → s.gcRunning = false) ∧
      (x.rank = 4 → s.dw = .exited) ∧ (x.rank = 8 → s.fl = .exited) ∧ (x.rank = 9 → s.l0comp = 0)) :
    Inv c { s with cl := x, late := b } :=
  have hle : s.cl.rank ≤ x.rank := by omega
  have new {k} {p : Prop} (hk : x.rank = k → p) (old : k ≤ s.cl.rank → p) (h : k ≤ x.rank) : p :=
    (by omega : k ≤ s.cl.rank ∨ x.rank = k).elim old hk
  { hi with
    dwClosed := fun h => Nat.le_trans (hi.dwClosed h) hle
    clPub := new hnew.2.2.1 hi.clPub
    flExited := fun h => ⟨Nat.le_trans (hi.flExited h).1 hle, (hi.flExited h).2⟩
    clComp := new hnew.2.2.2.1 hi.clComp
    clTail := new hnew.2.2.2.2 hi.clTail
    lateSenders := fun hl => new (hnew.1 · hl) fun h => hi.lateSenders (hx.2 h ▸ hl) h
    -- `doWrites` in a closed state means rank ≥ 3, so `late` is not touched
    lateCh := fun hl h => hi.lateCh (hx.2 (by have := hi.dwClosed (.inr h); omega) ▸ hl) h
    gcClose := new hnew.2.1 hi.gcClose
    notCalledLate := fun (h : x = .notCalled) => by subst h; cases hx.1 }

theorem Inv.toLSM {c : Cfg} {s : State} (hi : Inv c s) (hw : s.wr = .ensure) :
    Inv c { s with wr := .toLSM } :=
  { hi with
    wrNone := nofun
    wrWork := fun _ => hi.wrWork (.inl hw)
    wrFin := by simp
    wrRel := nofun
    wrVlog := nofun
    dwInline := fun _ => nofun
    dwExited := fun h => by have := hi.dwExited h; simp_all }

theorem Inv_step (c : Cfg) (s s' : State) (l : Label) (hi : Inv c s)
    (h : step c s l = some s') : Inv c s' := by
  cases l <;> obtain ⟨hg, ⟨⟩⟩ := Option.ite_none_right_eq_some.mp h
  case pollNoRoom | pollL0Stall | pollClosePush => exact hi
  case callBegin =>
    have hb : ¬ 1 ≤ s.cl.rank := by simpa [State.blocked] using hg
    exact { hi with lateSenders := fun _ hr => absurd hr hb }
  case gcStart =>
    have hb : ¬ 1 ≤ s.cl.rank := by simpa [State.blocked] using hg.1
    exact { hi with gcClose := fun hr => absurd (Nat.le_of_succ_le hr) hb }
  case send =>
    exact { hi with
      chanCap := hg.2.2
      lateSenders := fun hl hr => by have := hi.lateSenders hl hr; omega
      lateCh := fun hl hd => by
        have := hi.lateSenders hl (by have := hi.dwClosed (.inr hd); omega)
        omega }
  case sendPanic =>
    exact { hi with lateSenders := fun hl hr => by have := hi.lateSenders hl hr; omega }
  case dwRecv =>
    have := hi.chanCap
    split <;> exact { hi with
      chanCap := by simp only; omega
      dwIdle := nofun
      dwDone := by simp
      dwInline := nofun
      dwExited := nofun
      dwClosed := by simp
      clPub := fun h => by have := hi.clPub h; simp_all
      lateCh := by simp
      dwColl := fun _ => by simp }
  case dwPush | dwPushBlocking | dwClosedPush =>
    -- `writeRequests` starts with the batch; `doWrites` is not gone, so `Close` is before `pub`
    have hr : ¬ 4 ≤ s.cl.rank := fun h => by have := hi.clPub h; simp_all
    exact { hi with
      wrNone := nofun
      wrLeft_le := Nat.le_refl _
      wrWork := by simp [spawn]
      wrFin := by simp [spawn]
      wrRel := nofun
      wrVlog := fun _ => rfl
      dwIdle := fun _ => rfl
      dwDone := fun _ => rfl
      dwInline := fun _ => nofun
      dwExited := nofun
      dwClosed := fun h => hi.dwClosed (by simp_all [spawn])
      clPub := fun h => absurd h hr
      lateCh := fun hl h => hi.lateCh hl (by simp_all [spawn])
      dwColl := by simp [spawn] }
  case dwSeeClosed =>
    exact { hi with
      dwIdle := nofun
      dwDone := by simp
      dwInline := nofun
      dwExited := nofun
      dwClosed := fun _ => by simpa [State.writesSignalled] using hg.2
      clPub := fun h => by have := hi.clPub h; simp_all
      lateCh := by simp
      dwColl := by simp }
  case dwDrain =>
    have := hi.chanCap
    exact { hi with
      chanCap := by simp only; omega
      dwIdle := fun h => by simp [hg.1] at h
      dwDone := fun h => by simp [hg.1] at h
      lateCh := fun _ h => by simp [hg.1] at h
      dwColl := fun h => by simp [hg.1] at h }
  case dwDrainDone =>
    exact { hi with
      dwIdle := nofun
      dwDone := by simp
      dwInline := nofun
      dwExited := nofun
      dwClosed := fun _ => hi.dwClosed (.inl hg.1)
      clPub := fun h => by have := hi.clPub h; simp_all
      lateCh := fun _ _ => hg.2
      dwColl := by simp }
  case wrVlog =>
    have := hi.wrVlog hg
    have := hi.dwExited
    split <;> exact { hi with
      wrNone := nofun
      wrWork := by simp <;> omega
      wrFin := by simp <;> omega
      wrRel := by simp <;> omega
      wrVlog := nofun
      dwInline := fun _ => nofun
      dwExited := fun h => by simp_all }
  case wrRoomOk => exact hi.toLSM hg.1
  case wrRotate =>
    exact { hi.toLSM hg.1 with
      flushCap := hg.2.2
      immEq := by have := hi.immEq; simp only; omega
      flExited := fun h => by
        have := hi.dwExited (hi.clPub (by have := (hi.flExited h).1; omega))
        simp_all }
  case wrToLSM =>
    have := hi.wrLeft_le
    split <;> exact { hi with
      wrNone := nofun
      wrLeft_le := by simp only; omega
      wrWork := by simp <;> omega
      wrFin := by simp <;> omega
      wrRel := nofun
      wrVlog := nofun
      dwInline := fun _ => nofun
      dwExited := fun h => by have := hi.dwExited h; simp_all }
  case wrFinish =>
    exact { hi with
      wrNone := nofun
      wrLeft_le := Nat.le_of_eq (hi.wrFin (.inl hg))
      wrWork := by simp
      wrFin := fun _ => hi.wrFin (.inl hg)
      wrRel := fun _ => rfl
      wrVlog := nofun
      dwInline := fun _ => nofun
      dwExited := fun h => by have := hi.dwExited h; simp_all }
  case wrRelease =>
    split
    next hd =>
      exact { hi with
        wrNone := fun _ => ⟨hi.wrRel hg, hi.wrFin (.inr hg)⟩
        wrWork := by simp
        wrFin := by simp
        wrRel := nofun
        wrVlog := nofun
        dwIdle := nofun
        dwDone := fun _ => hi.dwDone (.inl hd)
        dwInline := nofun
        dwExited := fun _ => rfl
        dwClosed := fun _ => hi.dwClosed (by simp [hd])
        clPub := fun _ => rfl
        lateCh := fun hl _ => hi.lateCh hl (by simp [hd])
        dwColl := by simp }
    next hd =>
      exact { hi with
        wrNone := fun _ => ⟨hi.wrRel hg, hi.wrFin (.inr hg)⟩
        wrWork := by simp
        wrFin := by simp
        wrRel := nofun
        wrVlog := nofun
        dwInline := fun h => absurd h hd
        dwExited := fun _ => rfl }
  case flTake =>
    exact { hi with
      flushCap := Nat.le_trans (Nat.sub_le _ _) hi.flushCap
      immEq := by have := hi.immEq; simp_all; omega
      flExited := nofun
      clComp := fun h => by have := hi.clComp h; simp_all }
  case flAdd =>
    exact { hi with
      immEq := by have := hi.immEq; simp_all
      l0comp_le := Nat.le_succ_of_le hi.l0comp_le
      l0_le := hg.2
      flExited := nofun
      clComp := fun h => by have := hi.clComp h; simp_all }
  case flBuild | flPop =>
    exact { hi with
      immEq := by have := hi.immEq; simp_all
      flExited := nofun
      clComp := fun h => by have := hi.clComp h; simp_all }
  case flExit =>
    exact { hi with
      immEq := by have := hi.immEq; simp_all
      flExited := fun _ => ⟨by simpa [State.flushChanClosed] using hg.2.2, hg.2.1⟩
      clComp := fun _ => rfl }
  case compStart =>
    exact { hi with
      l0comp_le := hg.2.2.2.2.2
      clTail := fun h => absurd (Nat.le_of_succ_le h) (by simpa [State.compSignalled] using hg.2.1) }
  case compDone =>
    exact { hi with
      l0comp_le := Nat.zero_le _
      l0_le := Nat.le_trans (Nat.sub_le _ _) hi.l0_le
      clTail := fun _ => rfl }
  case gcDone => exact { hi with gcClose := fun _ => rfl }
  case closePushMt =>
    exact { hi.close (x := .stopFlush) (by simp [hg, CL.rank]) (by simp [CL.rank]) with
      flushCap := hg.2.2
      immEq := by have := hi.immEq; simp only; omega
      flExited := fun h => by have := (hi.flExited h).1; simp [hg, CL.rank] at this }
  case closeGc => exact hi.close (by simp [hg, CL.rank]) (by simpa [CL.rank] using hg.2)
  case closeCall | closeSignalWrites | closeWriteCh | closePub | closeSkipMt | closeFlushChan |
      closeSignalComp | closeCompDone | closeReturn =>
    exact hi.close (by simp [hg, CL.rank]) (by simp [hg, CL.rank])

/-- what `C38_no_stuckStatement` asks of a label -/
def Progress (c : Cfg) (s : State) (l : Label) : Prop :=
  l.isPoll = false ∧ l.isEnv = false ∧ (step c s l).isSome = true

section
attribute [local simp] Progress step Label.isPoll Label.isEnv

theorem flushProgress_ok {c : Cfg} {s : State} (hc : c.WF) (h2 : 2 ≤ c.numCompactors) (hi : Inv c s)
    (hfl : s.fl ≠ .exited) (hch : s.flushChan = 0 → 7 ≤ s.cl.rank) :
    Progress c s (flushProgress c s) := by
  have hcomp : ¬ 8 ≤ s.cl.rank := fun h => hfl (hi.clComp h)
  obtain ⟨_, _, _, _⟩ := hc
  fun_cases flushProgress c s
  -- idle with nothing to take: exit (`hch`: an empty `flushChan` is closed)
  case case2 => simp_all [State.flushChanClosed]
  -- L0 stall and no compaction running: `clComp` (compactors not signalled while the flusher
  -- lives) and `l0Tables < l0Stall ≤ l0` enable `compStart`
  case case6 =>
    simp_all [State.compSignalled]
    omega
  case case8 => contradiction  -- the flusher has exited: `hfl`
  all_goals simp_all

theorem writersProgress_ok {c : Cfg} {s : State} (hc : c.WF) (hi : Inv c s) (hl : s.late = false)
    (hcl : s.cl = .notCalled ∨ s.cl = .returned) (hwr : s.wr = .none)
    (hp : 0 < s.senders + s.writeCh + s.batch) :
    Progress c s (writersProgress s) := by
  -- `dwClosed`, `clPub`: `doWrites` is past its loop only after `Close` returned, and has then exited
  have hclosed (h : s.dw = .closedDrain ∨ s.dw = .closedPush ∨ s.dw = .closedWrite ∨ s.dw = .exited) :
      s.dw = .exited ∧ s.cl = .returned := by
    have h3 := hi.dwClosed h
    rcases hcl with e | e
    · simp [e, CL.rank] at h3
    · exact ⟨hi.clPub (by simp [e, CL.rank]), e⟩
  fun_cases writersProgress s
  case case1 => simp [*]  -- idle, `writeCh` not empty: `dwRecv`
  case case2 hd _ =>  -- idle, `writeCh` empty: `send`
    -- `dwIdle`: no batch, so a sender holds the request, and `writeCh` is open (`clPub`)
    have hopen : ¬ 4 ≤ s.cl.rank := fun h => by simpa [hd] using hi.clPub h
    have := hi.dwIdle hd
    have := hc.1
    simp [State.writeChClosed, hopen]
    omega
  case case3 | case4 => simp [*]  -- collecting: `dwPush`, `dwPushBlocking`
  case case5 hd | case6 hd | case7 hd =>  -- past its loop, not exited: excluded by `hclosed`
    simpa [hd] using (hclosed (by simp [hd])).1
  case case8 hd =>  -- exited: `send`
    -- `lateSenders`, `lateCh`, `dwDone`: nothing is pending
    have hr : 1 ≤ s.cl.rank := by simp [(hclosed (.inr (.inr (.inr hd)))).2, CL.rank]
    have := hi.lateSenders hl hr
    have := hi.lateCh hl (.inr (.inr hd))
    have := hi.dwDone (.inr hd)
    omega

/-- A full `flushChan` has a live flusher behind it. -/
theorem flushProgress_of_full {c : Cfg} {s : State} (hc : c.WF) (h2 : 2 ≤ c.numCompactors) (hi : Inv c s)
    (h : ¬ s.flushChan < c.numMemtables) :
    Progress c s (flushProgress c s) :=
  have := hc.2.1
  flushProgress_ok hc h2 hi (fun h' => by have := (hi.flExited h').2; omega) (fun _ => by omega)

theorem helper_ok (c : Cfg) (s : State) (hc : c.WF) (h2 : 2 ≤ c.numCompactors) (hi : Inv c s)
    (hl : s.late = false) (hp : 0 < pendingCalls s) :
    Progress c s (helper c s) := by
  -- one case per leaf of `helper`, in its order, the way to the leaf in the context
  fun_cases helper c s
  -- `flushChan` is full (`ensureRoomForWrite`, the last memtable of `Close`): the flusher
  case case4 | case22 => exact flushProgress_of_full hc h2 hi ‹_›
  -- `wrWork`: a request is left to write
  case case5 =>
    have := hi.wrWork (.inr ‹_›)
    simp [*]
    omega
  -- at either select (`idle`, `collect`) `doWrites` sees the signal (rank 3)
  case case12 | case13 => simp [*, State.writesSignalled, CL.rank]
  -- `dwDrainDone` (nothing left in `writeCh`), `compDone` (a compaction is running)
  case case16 | case27 =>
    simp [*]
    omega
  -- `dwInline`: with `wr = none`, `doWrites` is not in an inline `writeRequests`
  case case18 =>
    have := hi.dwInline
    simp_all
  -- the flusher is alive, and may exit: `flushChan` is closed (rank 7)
  case case25 => exact flushProgress_ok hc h2 hi ‹_› (fun _ => by simp [*, CL.rank])
  -- `Close` not called, or returned: by `wrNone` a sender, `writeCh` or the batch holds the call
  case case29 hwr _ _ | case30 hwr _ _ =>
    refine writersProgress_ok hc hi hl (by simp [*]) hwr ?_
    have := (hi.wrNone hwr).1
    simp_all [pendingCalls]
  -- everywhere else the guard of the step is the way to the leaf
  all_goals simp_all

end

def dwPts : DW → Nat
  | .idle => 7 | .collect => 7 | .pushPending => 7 | .closedDrain => 6 | .closedPush => 5
  | .closedWrite => 1 | .exited => 0
def wrPts : WR → Nat
  | .none => 0 | .release => 1 | .finish => 2 | .ensure => 2 | .toLSM => 1 | .vlog => 3
def flPts : FL → Nat
  | .exited => 0 | .idle => 1 | .build => 8 | .addL0 => 7 | .popImm => 2
def clPts : CL → Nat
  | .notCalled => 0 | .blocked => 12 | .gcStopped => 11 | .waitWrites => 10 | .pub => 9 | .mt => 8
  | .stopFlush => 7 | .waitFlush => 6 | .waitComp => 5 | .tail => 4 | .returned => 0

/-- An upper bound on the number of internal non-poll steps still possible: every request
    still has to travel `writeCh → batch → memtable`, a full or dirty memtable still has to be
    rotated, every queued memtable costs a flush (and an L0 table), every L0 table a compaction,
    every goroutine its remaining control points. -/
def measure (s : State) : Nat :=
  32 * s.senders + 31 * s.writeCh + 30 * s.batch + 25 * s.wrLeft + wrPts s.wr + dwPts s.dw +
  (if s.mtFull then 10 else 0) + (if s.mtDirty then 10 else 0) + 8 * s.flushChan + flPts s.fl +
  3 * s.l0 + (if s.l0comp = 0 then 1 else 0) + (if s.gcRunning then 1 else 0) + clPts s.cl

def reqPts (s : State) : Nat :=
  32 * s.senders + 31 * s.writeCh + 30 * s.batch + 25 * s.wrLeft + wrPts s.wr + dwPts s.dw
def flushPts (s : State) : Nat :=
  (if s.mtFull then 10 else 0) + (if s.mtDirty then 10 else 0) + 8 * s.flushChan + flPts s.fl +
  3 * s.l0 + (if s.l0comp = 0 then 1 else 0)
def closePts (s : State) : Nat := (if s.gcRunning then 1 else 0) + clPts s.cl

/-- `measure` is the sum of three potentials: the way of a request from its caller into the
    memtable, the way of a memtable to L0 and out of it, and the shutdown sequence. Every internal
    step other than `wrToLSM` moves within one of them or lowers two. -/
theorem measure_eq (s : State) : measure s = reqPts s + flushPts s + closePts s := by
  simp only [measure, reqPts, flushPts, closePts]
  omega

/-- A step that lowers one potential and, unless said otherwise, leaves the other two as they
    are (which then holds by unfolding). -/
theorem measure_lt_req {s s' : State} (h : reqPts s' < reqPts s)
    (hf : flushPts s' ≤ flushPts s := by exact Nat.le_refl _)
    (hc : closePts s' ≤ closePts s := by exact Nat.le_refl _) : measure s' < measure s := by
  rw [measure_eq, measure_eq]; omega

theorem measure_lt_flush {s s' : State} (h : flushPts s' < flushPts s)
    (hr : reqPts s' ≤ reqPts s := by exact Nat.le_refl _)
    (hc : closePts s' ≤ closePts s := by exact Nat.le_refl _) : measure s' < measure s := by
  rw [measure_eq, measure_eq]; omega

theorem measure_lt_close {s s' : State} (h : closePts s' < closePts s)
    (hf : flushPts s' ≤ flushPts s := by exact Nat.le_refl _)
    (hr : reqPts s' ≤ reqPts s := by exact Nat.le_refl _) : measure s' < measure s := by
  rw [measure_eq, measure_eq]; omega

theorem measure_step (c : Cfg) (s s' : State) (l : Label) (hi : Inv c s)
    (h : step c s l = some s') (he : l.isEnv = false) :
    (l.isPoll = true → s' = s) ∧ (l.isPoll = false → measure s' < measure s) := by
  cases l <;> obtain ⟨hg, ⟨⟩⟩ := Option.ite_none_right_eq_some.mp h
  case pollNoRoom | pollL0Stall | pollClosePush => exact ⟨fun _ => rfl, nofun⟩
  case callBegin | closeCall | gcStart => cases he
  all_goals refine ⟨nofun, fun _ => ?_⟩
  case send | sendPanic | dwDrain | dwDrainDone | dwClosedPush | wrRoomOk | wrFinish =>
    refine measure_lt_req ?_
    simp only [reqPts, spawn, hg, wrPts, dwPts]
    omega
  case dwRecv | dwSeeClosed =>
    -- the control points `doWrites` waits at count 7 each
    have h7 : dwPts s.dw = 7 := by rcases hg.1 with h | h <;> rw [h] <;> rfl
    have h7' (b : Prop) [Decidable b] : dwPts (if b then .pushPending else .collect) = 7 := by
      split <;> rfl
    refine measure_lt_req ?_
    simp only [reqPts, h7, h7', show dwPts .closedDrain = 6 from rfl]
    omega
  case dwPush | dwPushBlocking =>
    -- 30 per request of the batch against 25 per request plus 3 for the new activity: the
    -- batch is not empty
    have := hi.dwColl (by simp [hg.1])
    refine measure_lt_req ?_
    simp only [reqPts, spawn, hg, wrPts, dwPts]
    omega
  case wrVlog =>
    have : wrPts (if s.wrLeft = 0 then .release else .ensure) ≤ 2 := by split <;> decide
    refine measure_lt_req ?_
    simp only [reqPts, hg, show wrPts .vlog = 3 from rfl]
    omega
  case wrRelease =>
    have : dwPts (if s.dw = .closedWrite then .exited else s.dw) ≤ dwPts s.dw := by
      split <;> simp [dwPts, *]
    refine measure_lt_req ?_
    simp only [reqPts, hg, show wrPts .release = 1 from rfl, show wrPts .none = 0 from rfl]
    omega
  case wrRotate =>
    refine measure_lt_req ?_ ?_ <;>
      simp only [reqPts, flushPts, hg, wrPts, ↓reduceIte, Bool.false_eq_true] <;> omega
  case wrToLSM full _ =>
    -- the request written (25) pays for a memtable that becomes dirty and full (10 + 10)
    have hf : (if full then 10 else 0) ≤ 10 := by cases full <;> decide
    have h2 (b : Prop) [Decidable b] : wrPts (if b then .finish else .ensure) = 2 := by
      split <;> rfl
    rw [measure_eq, measure_eq]
    refine Nat.add_lt_add_right ?_ _
    simp only [reqPts, flushPts, hg, h2, show wrPts .toLSM = 1 from rfl, ↓reduceIte]
    omega
  case compStart =>
    refine measure_lt_flush ?_
    simp only [flushPts, hg, ↓reduceIte, Nat.ne_of_gt hg.2.2.2.2.1]
    omega
  case compDone =>
    have := hi.l0comp_le
    refine measure_lt_flush ?_
    simp only [flushPts, ↓reduceIte, Nat.ne_of_gt hg]
    omega
  case flTake | flBuild | flAdd | flPop | flExit =>
    refine measure_lt_flush ?_
    simp only [flushPts, hg, flPts]
    omega
  case closePushMt =>
    refine measure_lt_close ?_ ?_ <;>
      simp only [closePts, flushPts, hg, clPts, ↓reduceIte, Bool.false_eq_true] <;> omega
  case gcDone =>
    refine measure_lt_close ?_
    simp only [closePts, hg, ↓reduceIte, Bool.false_eq_true]
    omega
  all_goals
    -- only the control point of `Close` moves
    refine measure_lt_close ?_
    unfold closePts
    refine Nat.add_lt_add_left ?_ _
    simp [hg, clPts]

theorem rank_pos {x : CL} (h : x ≠ .notCalled) : 1 ≤ x.rank := by
  cases x <;> simp [CL.rank] at *

theorem late_step (c : Cfg) (s s' : State) (l : Label) (h : step c s l = some s')
    (hcl : s.cl ≠ .notCalled) : s'.late = s.late ∧ s'.cl ≠ .notCalled ∧ l.isEnv = false := by
  have hb : s.blocked = true := by simpa [State.blocked] using rank_pos hcl
  cases l <;> obtain ⟨hg, ⟨⟩⟩ := Option.ite_none_right_eq_some.mp h
  case closeCall => exact absurd hg hcl
  case callBegin => simp [hb] at hg
  case gcStart => simp [hb] at hg
  case closeGc | closeSignalWrites | closeWriteCh | closePub | closeSkipMt | closePushMt |
      closeFlushChan | closeSignalComp | closeCompDone | closeReturn => exact ⟨rfl, nofun, rfl⟩
  all_goals exact ⟨rfl, hcl, rfl⟩

theorem measure_step_le {c : Cfg} {s s' : State} {l : Label} (hi : Inv c s)
    (h : step c s l = some s') (he : l.isEnv = false) :
    (if l.isPoll then 0 else 1) + measure s' ≤ measure s := by
  obtain ⟨h1, h2⟩ := measure_step c s s' l hi h he
  cases hp : l.isPoll
  · have := h2 hp; simp; omega
  · rw [h1 hp]; simp

end Pipeline

theorem C38_inv (c : Cfg) (s : State) (h : Reach c s) : Inv c s := by
  induction h with
  | init => exact Inv_init c
  | step l _ hs ih => exact Inv_step c _ _ l ih hs

/-- The observable projection of the invariant (what the harness checks on every state sampled
    from the real DB): `flushChan` and `writeCh` within capacity, `len(imm)` equal to
    `len(flushChan)` or one more, L0 never above `NumLevelZeroTablesStall`. -/
theorem C38_coarse_inv (c : Cfg) (s : State) (h : Reach c s) : coarseOK (s.coarse c) = true := by
  have hi := C38_inv c s h
  have h1 := hi.flushCap
  have h2 := hi.l0_le
  have h3 := hi.immEq
  have h4 := hi.chanCap
  have a : s.flushChan ≤ s.imm := by rw [h3]; omega
  have b : s.imm ≤ s.flushChan + 1 := by rw [h3]; split <;> omega
  simp [coarseOK, State.coarse, h1, h2, h4, a, b]

/-- The full statement of deadlock freedom as a safety property. -/
def C38_no_stuckStatement : Prop :=
  ∀ (c : Cfg) (s : State), c.WF → 2 ≤ c.numCompactors → Reach c s → 0 < pendingCalls s →
    ∃ l, l.isPoll = false ∧ l.isEnv = false ∧ (step c s l).isSome = true

/-- **No stuck state (partial: no caller between the `blockWrites` check and the send when
    `Close` begins).** With at least two compactors, in every reachable state with a pending
    public call some internal step other than a poll is enabled. (The proof names the step,
    `helper`: for a stalled writer, flusher or `Close` it is a step of the flusher or an L0
    compaction step, `flushProgress`; the statement keeps only that one exists.) -/
theorem C38_no_stuck_partial (c : Cfg) (s : State) (hc : c.WF) (h2 : 2 ≤ c.numCompactors)
    (hr : Reach c s) (hl : s.late = false) (hp : 0 < pendingCalls s) :
    ∃ l, l.isPoll = false ∧ l.isEnv = false ∧ (step c s l).isSome = true :=
  ⟨helper c s, helper_ok c s hc h2 (C38_inv c s hr) hl hp⟩

namespace Pipeline

theorem run_cons {c : Cfg} {s s' : State} {l : Label} {ls : List Label}
    (h : run c s (l :: ls) = some s') : ∃ s1, step c s l = some s1 ∧ run c s1 ls = some s' := by
  simp only [run] at h
  split at h
  · exact ⟨_, ‹_›, h⟩
  · cases h

theorem run_reach (c : Cfg) (ls : List Label) (s s' : State) (hr : Reach c s)
    (h : run c s ls = some s') : Reach c s' := by
  induction ls generalizing s with
  | nil => cases h; exact hr
  | cons l ls ih =>
    obtain ⟨s1, hs1, h⟩ := run_cons h
    exact ih s1 (Reach.step l hr hs1) h

theorem run_closing (c : Cfg) (ls : List Label) (s s' : State) (hl : s.late = false)
    (hcl : s.cl ≠ .notCalled) (h : run c s ls = some s') :
    (∀ l ∈ ls, l.isEnv = false) ∧ s'.late = false ∧ s'.cl ≠ .notCalled := by
  induction ls generalizing s with
  | nil => cases h; exact ⟨nofun, hl, hcl⟩
  | cons l ls ih =>
    obtain ⟨s1, hs1, h⟩ := run_cons h
    obtain ⟨l1, l2, l3⟩ := late_step c s s1 l hs1 hcl
    obtain ⟨a, b⟩ := ih s1 (l1 ▸ hl) l2 h
    exact ⟨List.forall_mem_cons.2 ⟨l3, a⟩, b⟩

def cfgSmall : Cfg := { writeChCap := 2, numMemtables := 1, l0Tables := 1, l0Stall := 2, numCompactors := 2 }

/-- F38a: a caller passes the `blockWrites` check, `Close` runs to the point where `doWrites` has
    exited, the caller's request enters `writeCh`, `Close` completes. -/
def lateTrace : List Label :=
  [.callBegin, .closeCall, .closeGc, .closeSignalWrites, .dwSeeClosed, .dwDrainDone, .dwClosedPush,
   .wrVlog, .wrRelease, .send, .closeWriteCh, .closePub, .closeSkipMt, .closeFlushChan, .flExit,
   .closeSignalComp, .closeCompDone, .closeReturn]

def lateStuck : State :=
  { State.init with writeCh := 1, dw := .exited, fl := .exited, cl := .returned, late := true }

theorem lateTrace_run : run cfgSmall State.init lateTrace = some lateStuck := by decide

theorem lateStuck_dead (l : Label) (hp : l.isPoll = false) (he : l.isEnv = false) :
    step cfgSmall lateStuck l = none := by
  -- every label is disabled in this state (by evaluation) or is a poll or an environment label
  cases l <;> first | rfl | contradiction

end Pipeline

/-- **Finding F38a: the full statement is false for the code as it is.** After the trace
    `lateTrace` (one caller between check and send while `Close` runs) `Close` has returned, one
    request sits in `writeCh`, its caller waits in `req.Wait()`, and no step is enabled. -/
theorem C38_no_stuck_fails : ¬ C38_no_stuckStatement := by
  intro h
  have hr : Reach cfgSmall lateStuck := run_reach _ _ _ _ Reach.init lateTrace_run
  obtain ⟨l, hp, he, hs⟩ := h cfgSmall lateStuck (by simp [Cfg.WF, cfgSmall]) (by decide) hr (by decide)
  rw [lateStuck_dead l hp he] at hs
  cases hs

theorem C38_measure_decreases (c : Cfg) (s s' : State) (l : Label) (hr : Reach c s)
    (h : step c s l = some s') (he : l.isEnv = false) :
    (l.isPoll = true → s' = s) ∧ (l.isPoll = false → measure s' < measure s) :=
  measure_step c s s' l (C38_inv c s hr) h he

/-- **Bounded progress.** From a reachable state, an execution without new public calls
    contains at most `measure s` steps that are not polls. -/
theorem C38_bounded (c : Cfg) : ∀ (ls : List Label) (s s' : State), Reach c s →
    (∀ l ∈ ls, l.isEnv = false) → run c s ls = some s' →
    (ls.filter (fun l => !l.isPoll)).length + measure s' ≤ measure s := by
  intro ls
  induction ls with
  | nil => intro s s' _ _ h; cases h; simp
  | cons l ls ih =>
    intro s s' hr he h
    obtain ⟨s1, hs1, h⟩ := run_cons h
    have := measure_step_le (C38_inv c s hr) hs1 (he l List.mem_cons_self)
    have := ih s1 s' (Reach.step l hr hs1) (fun x hx => he x (List.mem_cons_of_mem _ hx)) h
    rw [List.filter_cons]
    cases hp : l.isPoll <;> simp [hp] at * <;> omega

/-- **Close terminates (under weak fairness of the non-poll steps).** Once `Close` has been
    issued with no caller between check and send (`late = false`), for every execution `ls`
    from that state: all its steps are internal (new writes and GC runs are refused), it has at
    most `measure s` non-poll steps, and in its last state either `Close` has returned or a
    non-poll internal step is enabled. So an execution in which polls are not scheduled for ever
    while a non-poll step is enabled reaches `cl = returned` after at most `measure s` non-poll
    steps. -/
theorem C38_close_terminates (c : Cfg) (hc : c.WF) (h2 : 2 ≤ c.numCompactors) :
    ∀ (ls : List Label) (s s' : State), Reach c s → s.late = false → s.cl ≠ .notCalled →
    run c s ls = some s' →
    (∀ l ∈ ls, l.isEnv = false) ∧
    (ls.filter (fun l => !l.isPoll)).length + measure s' ≤ measure s ∧
    (s'.cl = .returned ∨ ∃ l, l.isPoll = false ∧ l.isEnv = false ∧ (step c s' l).isSome = true) := by
  intro ls s s' hr hl hcl h
  obtain ⟨he, hl', hcl'⟩ := run_closing c ls s s' hl hcl h
  refine ⟨he, C38_bounded c ls s s' hr he h, ?_⟩
  by_cases hret : s'.cl = .returned
  · exact .inl hret
  · refine .inr (C38_no_stuck_partial c s' hc h2 (run_reach c ls s s' hr h) hl' ?_)
    simp [pendingCalls, hcl', hret]

namespace Pipeline

def cfgNoComp : Cfg := { writeChCap := 2, numMemtables := 1, l0Tables := 1, l0Stall := 2, numCompactors := 0 }

/-- one write, up to the value-log stage (what every write of `stallTrace` begins with) -/
def fillOnce : List Label :=
  [.callBegin, .send, .dwRecv, .dwPush, .wrVlog]

/-- Four memtables are filled and rotated; two become L0 tables (the stall threshold), the
    third waits in `addLevel0Table`, the fourth sits in `flushChan`; the sixth write finds the fifth
    memtable full and `flushChan` full. -/
def stallTrace : List Label :=
  [ .callBegin, .send, .dwRecv, .dwPush, .wrVlog, .wrRoomOk, .wrToLSM true, .wrFinish, .wrRelease,
    .callBegin, .send, .dwRecv, .dwPush, .wrVlog, .wrRotate, .wrToLSM true, .wrFinish, .wrRelease,
    .flTake, .flBuild, .flAdd, .flPop,
    .callBegin, .send, .dwRecv, .dwPush, .wrVlog, .wrRotate, .wrToLSM true, .wrFinish, .wrRelease,
    .flTake, .flBuild, .flAdd, .flPop,
    .callBegin, .send, .dwRecv, .dwPush, .wrVlog, .wrRotate, .wrToLSM true, .wrFinish, .wrRelease,
    .flTake, .flBuild,
    .callBegin, .send, .dwRecv, .dwPush, .wrVlog, .wrRotate, .wrToLSM true, .wrFinish, .wrRelease,
    .callBegin, .send, .dwRecv, .dwPush, .wrVlog ]

def stallStuck : State :=
  { State.init with wr := .ensure, wrReqs := 1, wrLeft := 1, mtFull := true, mtDirty := true,
                    flushChan := 1, imm := 2, fl := .addL0, l0 := 2 }

theorem stallTrace_run : run cfgNoComp State.init stallTrace = some stallStuck := by decide

theorem stallStuck_dead (l : Label) (hp : l.isPoll = false) (he : l.isEnv = false) :
    step cfgNoComp stallStuck l = none := by
  -- as for `lateStuck_dead`
  cases l <;> first | rfl | contradiction

end Pipeline

/-- **The compactor hypothesis is needed.** With `NumCompactors = 0` (allowed by `Open`) a
    reachable state has a pending write, no late caller, and no internal step other than a poll
    enabled. -/
theorem C38_zero_compactors_stuck :
    ∃ s, Reach cfgNoComp s ∧ s.late = false ∧ 0 < pendingCalls s ∧
      ∀ l, l.isPoll = false → l.isEnv = false → step cfgNoComp s l = none :=
  ⟨stallStuck, run_reach _ _ _ _ Reach.init stallTrace_run, rfl, by decide, stallStuck_dead⟩

/-- **Finding F38c (witness).** A commit refused after `orc.Stop()` leaves its timestamp
    unmarked, so the `readTs` that `WriteBatch.commit` issues right afterwards blocks for ever;
    the same commit refused *before* the stop is marked done and `readTs` returns. -/
theorem C38_F38c_witness :
    (({} : Orc).run [.stop, .commitRefused, .readTs]).2 = ["ok", "err-blocked", "blocks-forever"] ∧
    (({} : Orc).run [.commitRefused, .stop, .readTs]).2 = ["err-blocked", "ok", "returns"] := by
  decide

-- non-vacuity: a reachable state with the flusher stalled on a full L0 and `Close` just called, in
-- which `helper` names the next step of `Close`
example : ∃ s, run cfgSmall State.init
    [ .callBegin, .send, .dwRecv, .dwPush, .wrVlog, .wrRoomOk, .wrToLSM true, .wrFinish, .wrRelease,
      .callBegin, .send, .dwRecv, .dwPush, .wrVlog, .wrRotate, .wrToLSM true, .wrFinish, .wrRelease,
      .flTake, .flBuild, .flAdd, .flPop,
      .callBegin, .send, .dwRecv, .dwPush, .wrVlog, .wrRotate, .wrToLSM true, .wrFinish, .wrRelease,
      .flTake, .flBuild, .flAdd, .flPop,
      .callBegin, .send, .dwRecv, .dwPush, .wrVlog, .wrRotate, .wrToLSM true, .wrFinish, .wrRelease,
      .flTake, .flBuild, .closeCall ] = some s ∧ helper cfgSmall s = .closeGc ∧ s.l0 = 2 := by
  refine ⟨_, rfl, ?_, ?_⟩ <;> decide

end Badger
