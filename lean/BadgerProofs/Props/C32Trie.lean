import BadgerModel.Trie
/-!
# C32 (trie part) — `Trie.Get` returns exactly the ids that have a live matching pattern
(`trie/trie.go`: `AddMatch`, `DeleteMatch` incl. `removeEmpty`, `Get`).

A *pattern* is the canonical form of a `pb.Match`: the prefix with its ignored positions
replaced by holes (`mkPattern`). Two matches with the same pattern are the same trie path
(the prefix bytes at ignored positions are irrelevant), so "live" is defined per
(pattern, id): the last operation on that pair was an `AddMatch` (a `DeleteMatch` removes
*every* copy of the id stored at the node, whatever the number of earlier `AddMatch`es).

The proofs read the trie as a map from patterns to id lists (`idsAt`): `Get` collects the lists at
the patterns that match the key (`mem_trieGet`), `fix` changes the list at one pattern
(`idsAt_pathUpdate`), `removeEmpty` changes none (`idsAt_removeEmpty`).
-/
namespace Badger

/-- `p` matches `key`: `len(key) ≥ len(p)` and every non-hole position agrees. -/
def patMatches : Pattern → Bytes → Bool
  | [], _ => true
  | _ :: _, [] => false
  | none :: p, _ :: ks => patMatches p ks
  | some b :: p, k :: ks => b == k && patMatches p ks

/-- The ids stored at the node reached from `n` along `p` (`[]` when the path is absent). -/
def idsAt : Node → Pattern → List Nat
  | .nil, _ => []
  | .node ids _ _, [] => ids
  | .node _ ig _, none :: p => idsAt ig p
  | .node _ _ ch, some b :: p => idsAt (ch b) p

@[simp] theorem idsAt_nil (p : Pattern) : idsAt .nil p = [] := by
  cases p <;> rfl

def Node.ids : Node → List Nat
  | .nil => []
  | .node ids _ _ => ids

def Node.child : Node → Option UInt8 → Node
  | .nil, _ => .nil
  | .node _ ig _, none => ig
  | .node _ _ ch, some b => ch b

theorem idsAt_nil_right (n : Node) : idsAt n [] = n.ids := by
  cases n <;> rfl

theorem idsAt_cons (n : Node) (a : Option UInt8) (p : Pattern) : idsAt n (a :: p) = idsAt (n.child a) p := by
  cases n <;> cases a <;> simp [idsAt, Node.child]

theorem idsAt_new (q : Pattern) : idsAt Node.new q = [] := by
  cases q with
  | nil => rfl
  | cons a q =>
    cases a <;> exact idsAt_nil q

theorem trieGet_nil_right (n : Node) : trieGet n [] = n.ids := by
  cases n <;> rfl

theorem trieGet_cons (n : Node) (k : UInt8) (ks : Bytes) :
    trieGet n (k :: ks) = n.ids ++ trieGet (n.child none) ks ++ trieGet (n.child (some k)) ks := by
  cases n <;> rfl

theorem exists_pattern (P : Pattern → Prop) :
    (∃ p, P p) ↔ P [] ∨ (∃ p, P (none :: p)) ∨ ∃ b p, P (some b :: p) := by
  constructor
  · rintro ⟨_ | ⟨_ | b, p⟩, h⟩
    · exact Or.inl h
    · exact Or.inr (Or.inl ⟨p, h⟩)
    · exact Or.inr (Or.inr ⟨b, p, h⟩)
  · rintro (h | ⟨p, h⟩ | ⟨b, p, h⟩) <;> exact ⟨_, h⟩

theorem mem_trieGet (n : Node) (key : Bytes) (id : Nat) :
    id ∈ trieGet n key ↔ ∃ p, patMatches p key = true ∧ id ∈ idsAt n p := by
  induction key generalizing n with
  | nil =>
    rw [trieGet_nil_right, exists_pattern]
    simp only [patMatches, idsAt_nil_right, true_and, Bool.false_eq_true, false_and, exists_false, or_false]
  | cons k ks ih =>
    rw [trieGet_cons, exists_pattern]
    simp only [List.mem_append, ih, patMatches, idsAt_cons, idsAt_nil_right, Bool.and_eq_true, beq_iff_eq,
      true_and, and_assoc, exists_and_left, exists_eq_left, or_assoc]

/-- An operation that walks down the path `p` and replaces the ids `l` of the node at its end by
    `f l`, leaving everything off the path alone, changes `idsAt` at `p` only. -/
theorem idsAt_pathUpdate (op : Node → Pattern → Node) (f : List Nat → List Nat)
    (ids_nil : ∀ n, (op n []).ids = f n.ids)
    (child_nil : ∀ n c, (op n []).child c = n.child c)
    (ids_cons : ∀ n a p, (op n (a :: p)).ids = n.ids)
    (child_cons : ∀ n a p c, (op n (a :: p)).child c = if c = a then op (n.child a) p else n.child c)
    (n : Node) (p q : Pattern) :
    idsAt (op n p) q = if q = p then f (idsAt n p) else idsAt n q := by
  induction p generalizing n q with
  | nil =>
    cases q with
    | nil => simp [idsAt_nil_right, ids_nil]
    | cons c q => simp [idsAt_cons, child_nil]
  | cons a p ih =>
    cases q with
    | nil => simp [idsAt_nil_right, ids_cons]
    | cons c q =>
      rw [idsAt_cons, child_cons, idsAt_cons n a, idsAt_cons n c]
      by_cases hc : c = a <;> simp [hc, ih]

theorem idsAt_fixSet (n : Node) (p q : Pattern) (id : Nat) :
    idsAt (fixSet n p id) q = if q = p then idsAt n p ++ [id] else idsAt n q := by
  refine idsAt_pathUpdate (fun n p => fixSet n p id) (· ++ [id]) ?_ ?_ ?_ ?_ n p q
  · intro n
    cases n <;> rfl
  · intro n c
    cases n <;> cases c <;> rfl
  · intro n a p
    cases n <;> cases a <;> rfl
  · intro n a p c
    cases n <;> cases a <;> cases c <;> simp [fixSet, fixSet.go, Node.child]

theorem idsAt_fixDel (n : Node) (p q : Pattern) (id : Nat) :
    idsAt (fixDel n p id) q =
      if q = p then (idsAt n p).filter (fun c => id != c) else idsAt n q := by
  refine idsAt_pathUpdate (fun n p => fixDel n p id) (·.filter (fun c => id != c)) ?_ ?_ ?_ ?_ n p q
  · intro n
    cases n <;> rfl
  · intro n c
    cases n <;> cases c <;> rfl
  · intro n a p
    cases n <;> cases a <;> rfl
  · intro n a p c
    cases n <;> cases a <;> cases c <;> simp [fixDel, Node.child]

theorem mem_allBytes (b : UInt8) : b ∈ Node.allBytes := by
  unfold Node.allBytes
  rw [List.mem_map]
  exact ⟨b.toNat, List.mem_range.mpr b.toNat_lt, UInt8.ofNat_toNat⟩

theorem isNil_eq (n : Node) (h : n.isNil = true) : n = .nil := by
  cases n with
  | nil => rfl
  | node _ _ _ => simp [Node.isNil] at h

theorem idsAt_of_isEmpty (n : Node) (h : n.isEmpty = true) (q : Pattern) : idsAt n q = [] := by
  cases n with
  | nil => simp
  | node ids ig ch =>
    simp only [Node.isEmpty, Bool.and_eq_true, List.isEmpty_iff, List.all_eq_true] at h
    obtain ⟨⟨hids, hig⟩, hch⟩ := h
    cases q with
    | nil => simpa [idsAt] using hids
    | cons a q =>
      cases a with
      | none => simp [idsAt, isNil_eq ig hig]
      | some b => simp [idsAt, isNil_eq (ch b) (hch b (mem_allBytes b))]

theorem child_removeEmpty (n : Node) (a : Option UInt8) :
    (removeEmpty n).child a =
      if (removeEmpty (n.child a)).isEmpty then .nil else removeEmpty (n.child a) := by
  cases n <;> cases a <;> rfl

theorem idsAt_removeEmpty (n : Node) (q : Pattern) : idsAt (removeEmpty n) q = idsAt n q := by
  induction q generalizing n with
  | nil => cases n <;> rfl
  | cons a q ih =>
    rw [idsAt_cons, idsAt_cons, child_removeEmpty, ← ih (n.child a)]
    split
    · next he => rw [idsAt_nil, idsAt_of_isEmpty _ he]
    · rfl

theorem mem_idsAt_fixSet (n : Node) (p q : Pattern) (id id' : Nat) :
    id' ∈ idsAt (fixSet n p id) q ↔ id' ∈ idsAt n q ∨ (q = p ∧ id' = id) := by
  rw [idsAt_fixSet]
  by_cases h : q = p <;> simp [h]

theorem mem_idsAt_del (n : Node) (p q : Pattern) (id id' : Nat) :
    id' ∈ idsAt (removeEmpty (fixDel n p id)) q ↔ id' ∈ idsAt n q ∧ ¬ (q = p ∧ id' = id) := by
  rw [idsAt_removeEmpty, idsAt_fixDel]
  by_cases h : q = p
  · subst h
    simp only [if_true, List.mem_filter, bne_iff_ne, ne_eq, true_and, eq_comm (a := id)]
  · simp [h]

theorem trieGet_removeEmpty (n : Node) (key : Bytes) (id : Nat) :
    id ∈ trieGet (removeEmpty n) key ↔ id ∈ trieGet n key := by
  simp only [mem_trieGet, idsAt_removeEmpty]

inductive TrieOp where
  | add (p : Pattern) (id : Nat)
  | del (p : Pattern) (id : Nat)

/-- `AddMatch` is `fix(set)`; `DeleteMatch` is `fix(del)` followed by `removeEmpty(root)`. -/
def runOp (n : Node) : TrieOp → Node
  | .add p id => fixSet n p id
  | .del p id => removeEmpty (fixDel n p id)

def runOps (ops : List TrieOp) : Node := ops.foldl runOp Node.new

/-- `(p, id)` is live after `ops`: the last operation on that pair is an add. -/
def isLive (ops : List TrieOp) (p : Pattern) (id : Nat) : Bool :=
  ops.foldl (fun b op => match op with
    | .add p' id' => if p' = p ∧ id' = id then true else b
    | .del p' id' => if p' = p ∧ id' = id then false else b) false

theorem mem_idsAt_runOps (ops : List TrieOp) (q : Pattern) (id : Nat) :
    id ∈ idsAt (runOps ops) q ↔ isLive ops q id = true := by
  refine List.foldl_rel (r := fun n b => id ∈ idsAt n q ↔ b = true) (by simp [idsAt_new]) fun op _ n b h => ?_
  -- an add (delete) of `(q, id)` sets (clears) the flag, any other operation leaves it
  cases op <;> simp only [runOp, mem_idsAt_fixSet, mem_idsAt_del, h, eq_comm (a := q), eq_comm (a := id)] <;>
    split <;> simp [*]

/-- **Trie spec.** After any sequence of `AddMatch`/`DeleteMatch` operations, `Get(key)`
    returns exactly the ids that have a live pattern matching `key` (as a set). -/
theorem C32_trie_get_spec (ops : List TrieOp) (key : Bytes) (id : Nat) :
    id ∈ trieGet (runOps ops) key ↔ ∃ p, patMatches p key = true ∧ isLive ops p id = true := by
  simp only [mem_trieGet, mem_idsAt_runOps]

inductive ApiOp where
  | addMatch (pfx ig : Bytes) (id : Nat)
  | deleteMatch (pfx ig : Bytes) (id : Nat)

/-- An ignore string that does not parse makes the call return an error and leaves the trie
    unchanged. -/
def Trie.apply (t : Trie) : ApiOp → Trie
  | .addMatch pfx ig id => (t.addMatch pfx ig id).getD t
  | .deleteMatch pfx ig id => (t.deleteMatch pfx ig id).getD t

/-- The canonical operation of an API call (`none` = the call fails). -/
def ApiOp.canon : ApiOp → Option TrieOp
  | .addMatch pfx ig id => (parseIgnoreBytes ig).map (fun bs => .add (mkPattern pfx bs) id)
  | .deleteMatch pfx ig id => (parseIgnoreBytes ig).map (fun bs => .del (mkPattern pfx bs) id)

theorem apply_root (ops : List ApiOp) (t : Trie) :
    (ops.foldl Trie.apply t).root = (ops.filterMap ApiOp.canon).foldl runOp t.root := by
  rw [List.foldl_filterMap]
  refine (List.foldl_hom Trie.root fun t op => ?_).symm
  cases op with
  | addMatch pfx ig id | deleteMatch pfx ig id =>
    simp only [Trie.apply, Trie.addMatch, Trie.deleteMatch, ApiOp.canon]
    cases parseIgnoreBytes ig <;> rfl

/-- The same at the level of `Trie.AddMatch` / `Trie.DeleteMatch` / `Trie.Get`. -/
theorem C32_trie_api_spec (ops : List ApiOp) (key : Bytes) (id : Nat) :
    id ∈ (ops.foldl Trie.apply Trie.empty).get key ↔
      ∃ p, patMatches p key = true ∧ isLive (ops.filterMap ApiOp.canon) p id = true := by
  unfold Trie.get
  rw [apply_root]
  exact C32_trie_get_spec _ key id

theorem mkPattern_cons (b : UInt8) (bs : Bytes) (ig : List Bool) :
    mkPattern (b :: bs) ig = (if ig.getD 0 false then none else some b) :: mkPattern bs ig.tail := by
  cases ig <;> simp [mkPattern]

theorem getD_succ_eq_tail (ig : List Bool) (i : Nat) : ig.getD (i + 1) false = ig.tail.getD i false := by
  cases ig <;> simp

/-- What "a pattern matches a key" means in terms of prefix, ignored positions and key:
    the key is at least as long as the prefix and agrees with it outside the ignored positions. -/
theorem patMatches_mkPattern (pfx : Bytes) (ig : List Bool) (key : Bytes) :
    patMatches (mkPattern pfx ig) key = true ↔
      pfx.length ≤ key.length ∧
      ∀ i, i < pfx.length → ig.getD i false = true ∨ key[i]? = pfx[i]? := by
  induction pfx generalizing ig key with
  | nil => exact ⟨fun _ => ⟨Nat.zero_le _, fun i hi => absurd hi (Nat.not_lt_zero i)⟩, fun _ => rfl⟩
  | cons b bs ih =>
    rw [mkPattern_cons]
    cases key with
    | nil =>
      constructor
      · intro h
        cases h
      · intro h
        exact absurd h.1 (Nat.not_succ_le_zero _)
    | cons k ks =>
      rw [List.length_cons, Nat.forall_lt_succ_left]
      simp only [getD_succ_eq_tail, List.getElem?_cons_succ, List.getElem?_cons_zero, Option.some.injEq,
        List.length_cons, Nat.add_le_add_iff_right]
      cases hg : ig.getD 0 false
      · simp only [Bool.false_eq_true, reduceIte, patMatches, Bool.and_eq_true, beq_iff_eq, eq_comm (a := b), ih,
          false_or, and_left_comm]
      · simp only [reduceIte, patMatches, ih, true_or, true_and]

-- prefix "ab" with position 0 ignored, id 7, added twice; prefix "a", id 3. The examples with
-- `deleteMatch` remove id 7 through a different byte at the ignored position.
private def demoOps : List ApiOp :=
  [.addMatch [0x61, 0x62] [0x30] 7, .addMatch [0x61] [] 3, .addMatch [0x61, 0x62] [0x30] 7]

example : (demoOps.foldl Trie.apply Trie.empty).get [0x7a, 0x62, 0x63] = [7, 7] := by decide +kernel
example : (demoOps.foldl Trie.apply Trie.empty).get [0x61, 0x62] = [7, 7, 3] := by decide +kernel
set_option maxRecDepth 8000 in
example : ((demoOps ++ [ApiOp.deleteMatch [0x78, 0x62] [0x30] 7]).foldl Trie.apply Trie.empty).get [0x61, 0x62] = [3] := by
  decide +kernel
set_option maxRecDepth 8000 in
example : numNodes ((demoOps ++ [ApiOp.deleteMatch [0x78, 0x62] [0x30] 7]).foldl Trie.apply Trie.empty).root = 2 := by
  decide +kernel
example : isLive [.add [none, some 0x62] 7, .del [none, some 0x62] 7] [none, some 0x62] 7 = false := by decide
-- "3, 5-8, 10"
example : parseIgnoreBytes [0x33, 0x2c, 0x20, 0x35, 0x2d, 0x38, 0x2c, 0x20, 0x31, 0x30] =
    some [false, false, false, true, false, true, true, true, true, false, true] := by decide +kernel

end Badger
