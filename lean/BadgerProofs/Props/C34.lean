import BadgerProofs.Lemmas.WatermarkInv
import BadgerProofs.Lemmas.OracleLive
/-!
# C34 — watermark part: `y.WaterMark.process` never reports an unfinished index as done and never
strands a waiter.

The theorems up to `C34_until_ge_doneUntil` quantify over **every** sequence of marks (`WM.init.run ms`,
`ms : List Mark`): the `process` goroutine handles marks one at a time in channel order, so the set of reachable
states of a watermark is exactly `{ WM.init.run ms }`.

Those from `C34_no_assert` on assume the usage discipline of badger's oracle (`marksOK`: every `Done` matches an
unfinished `Begin`, `Begin`s in non-decreasing — `strict`: strictly increasing — index order). The discipline, why
each part of it is needed, and the state `WM.opened n` in which `DB.Open` leaves a watermark are in
`Lemmas/WatermarkInv.lean`.

The second half (its own heading below) is the oracle level: how `readMark` and `txnMark` are used by the oracle
transition system. The database level is `C34_db_discard_below_open` in `Props/C01Db.lean`.
-/
namespace Badger

/-- **`doneUntil` never decreases**: along any sequence of marks, from any reachable state. -/
theorem C34_monotone (ms ns : List Mark) :
    (WM.init.run ms).doneUntil ≤ (WM.init.run (ms ++ ns)).doneUntil := by
  rw [WM.run_append]
  exact (WM.runW_trans _ (WM.run_inv ms) ns).mono

/-- **`doneUntil` is never ahead of a pending index**: in every reachable state every index whose
    `pending` count is positive (more `Begin`s than `Done`s since it was last popped) is
    `≥ doneUntil`. No hypothesis on the order of the marks. -/
theorem C34_not_ahead (ms : List Mark) (i : Nat) (h : (WM.init.run ms).pending.val i > 0) :
    (WM.init.run ms).doneUntil ≤ i :=
  (WM.run_inv ms).le_of_pending_pos h

/-- **Waiters**: after every mark (a) no stored waiter has `idx ≤ doneUntil`, (b) every waiter
    released by the step is released with `doneUntil ≥` its index, (c) no waiter is lost: one that
    was stored before the step is still stored or has just been released. -/
theorem C34_waiters_released (ms : List Mark) (m : Mark) :
    let s := WM.init.run ms
    let r := s.step m
    (∀ k ∈ r.1.waiters.flat, r.1.doneUntil < k.idx) ∧
    (∀ k ∈ r.2, k.idx ≤ r.1.doneUntil) ∧
    (∀ k ∈ s.waiters.flat, k ∈ r.1.waiters.flat ∨ k ∈ r.2) := by
  intro s r
  have t := WM.step_trans s (WM.run_inv ms) m
  exact ⟨fun k hk => t.inv.flat_ahead hk, t.woke, t.conserve⟩

/-- A `wait` mark is answered immediately iff `doneUntil ≥ idx`, otherwise the waiter is stored
    (so `WaitForMark` returns at once exactly when the index is already done). -/
theorem C34_wait_mark (ms : List Mark) (idx w : Nat) (hf : (WM.init.run ms).failed = false) :
    let s := WM.init.run ms
    let r := s.step (.wait idx w)
    (idx ≤ s.doneUntil → r.2 = [⟨w, idx⟩] ∧ r.1 = s) ∧
    (s.doneUntil < idx → r.2 = [] ∧ ⟨w, idx⟩ ∈ r.1.waiters.flat) := by
  intro s r
  constructor
  · intro h
    simp only [r, WM.step]
    rw [if_neg (by simp [s, hf]), if_pos h]; exact ⟨rfl, rfl⟩
  · intro h
    simp only [r, WM.step]
    rw [if_neg (by simp [s, hf]), if_neg (by omega)]
    exact ⟨rfl, (Waiters.mem_flat_add _ _ _ _).mpr (.inl rfl)⟩

/-- **Both notification paths compute the same result** in every reachable state, for every
    possible new value `til ≥ doneUntil` of the watermark — whichever the
    `until-doneUntil <= len(waiters)` test selects: same remaining `waiters` map, same list of
    released channels. -/
theorem C34_two_notify_paths_equal (ms : List Mark) (til : Nat)
    (h : (WM.init.run ms).doneUntil ≤ til) :
    let s := WM.init.run ms
    notifyRange s.waiters (s.doneUntil + 1) (til - s.doneUntil) = notifyMap s.waiters til := by
  intro s
  have hI := WM.run_inv ms
  exact notifyRange_eq_notifyMap _ _ _ hI.wSorted hI.wAhead h

/-- … and `til ≥ doneUntil` does hold where the code makes the choice: inside `processOne` the
    value `until` produced by the pop loop is `≥ doneUntil` (so the `uint64` subtraction
    `until - doneUntil` cannot wrap). `hf` and `hle` name the branch of `processOne` in which the loop
    runs; only `hle` is needed. -/
theorem C34_until_ge_doneUntil (ms : List Mark) (i : Nat) (d : Bool)
    (hf : (WM.init.run ms).failed = false) (hle : (WM.init.run ms).doneUntil ≤ i) :
    let s := WM.init.run ms
    let h1 := if (s.pending i).isSome then s.heap else heapPush i s.heap
    let p1 := s.pending.set i (s.pending.val i + (if d then -1 else 1))
    s.doneUntil ≤ (popLoop p1 h1 s.doneUntil).2.2 := by
  exact (WM.processOne_popSpec _ (WM.run_inv ms) i d hle).mono

/-- **The `doneUntil > index` assertion never fires** for a watermark opened at `n` and used with
    matched `Done`s and non-decreasing `Begin`s (the discipline of `readMark`; that of `txnMark` is the strict
    one, `C34_oracle_discipline`). -/
theorem C34_no_assert (n : Nat) (ms : List Mark) (hok : marksOK false (Ghost.opened n) ms) :
    ((WM.opened n).run ms).failed = false :=
  (WM.opened_ghost n ms hok).live

/-- **Strict form of `C34_not_ahead`**: when every index is begun at most once and in
    increasing order (`txnMark`), `doneUntil` is *strictly* below every pending index. Without
    "begun once" the statement is false (`C34_not_ahead_strict_needs_once`). -/
theorem C34_not_ahead_strict (n : Nat) (ms : List Mark) (hok : marksOK true (Ghost.opened n) ms)
    (i : Nat) (h : ((WM.opened n).run ms).pending.val i > 0) : ((WM.opened n).run ms).doneUntil < i :=
  (WM.opened_ghost n ms hok).strictGt rfl i h

/-- Re-beginning the index the watermark stands on (two readers with the same read timestamp,
    `readMark`) gives `pending i > 0` with `doneUntil = i`: strictness really needs "begun once". -/
theorem C34_not_ahead_strict_needs_once :
    let s := (WM.opened 4).run [.begin 5, .done 5, .begin 5]
    marksOK false (Ghost.opened 4) [.begin 5, .done 5, .begin 5] ∧ s.pending.val 5 > 0 ∧ s.doneUntil = 5 := by
  decide

/-- `pending` is exactly "Begins minus Dones" under the discipline. -/
theorem C34_pending_is_net (n : Nat) (ms : List Mark) (hok : marksOK false (Ghost.opened n) ms) (i : Nat) :
    ((WM.opened n).run ms).pending.val i = netCount (ms.flatMap Mark.procs) i := by
  have h := WM.opened_ghost n ms hok
  rw [h.cnt, Ghost.run_cnt]; simp [Ghost.opened]

/-- **Progress**: for a watermark opened at `n` and used with matched `Done`s and non-decreasing
    `Begin`s, if `t` is `n` or occurs in some `Begin`/`Done` mark, and every index `≤ t` has been
    `Done` as often as it was begun, then `doneUntil ≥ t`. -/
theorem C34_progress (n : Nat) (ms : List Mark) (hok : marksOK false (Ghost.opened n) ms) (t : Nat)
    (hseen : t = n ∨ ∃ p ∈ ms.flatMap Mark.procs, p.1 = t)
    (hdone : ∀ i ≤ t, netCount (ms.flatMap Mark.procs) i = 0) :
    t ≤ ((WM.opened n).run ms).doneUntil :=
  WM.opened_progress n ms hok t hseen hdone

/-- **No reader is stranded**: under the discipline, a waiter registered for `idx` anywhere in
    the run has been released as soon as `doneUntil ≥ idx` (together with `C34_progress`: as
    soon as every begun index `≤ idx` is done, provided `idx` itself was begun). -/
theorem C34_waiter_not_stranded (n : Nat) (ms : List Mark) (hok : marksOK false (Ghost.opened n) ms)
    (idx w : Nat) (hreg : Mark.wait idx w ∈ ms) (hdone : idx ≤ ((WM.opened n).run ms).doneUntil) :
    (⟨w, idx⟩ : Wakeup) ∈ ((WM.opened n).runW ms).2 := by
  have hnf := C34_no_assert n ms hok
  have t := WM.runW_trans _ (WM.opened_inv n) ms
  rcases t.registered hnf ⟨w, idx⟩ hreg with h | h
  · exact absurd (t.inv.flat_ahead h) (Nat.not_lt.mpr hdone)
  · exact h

-- non-vacuity of the discipline: a txnMark-like and a readMark-like trace
example : marksOK true (Ghost.opened 4) [.begin 5, .begin 6, .wait 6 1, .done 6, .done 5] := by decide
example : marksOK false (Ghost.opened 4) [.begin 4, .begin 4, .done 4, .begin 5, .done 4, .done 5] := by
  decide
example : ((WM.opened 4).run [.begin 5, .begin 6, .wait 6 1, .done 6, .done 5]).doneUntil = 6 := by decide

-- non-vacuity / concrete runs (both notification paths are exercised)
example : (WM.init.run [.begin 3, .wait 3 1, .begin 5, .done 5, .done 3]).doneUntil = 5 := by decide
example : (WM.init.runW [.begin 3, .wait 3 1, .begin 5, .done 5, .done 3]).2 = [⟨1, 3⟩] := by decide
example : usesRangePath 0 5 1 = false ∧ usesRangePath 0 1 1 = true := by decide
example : (WM.init.runW [.begin 1, .wait 1 7, .done 1]).2 = [⟨7, 1⟩] := by decide
example : (WM.init.run [.begin 3, .begin 5, .done 5]).pending.val 3 > 0 := by decide

/-! ## Oracle level (`BadgerModel/Oracle.lean`): a transaction never starts at a timestamp while a
commit at or below it is still being applied

`OReach false d n s`: all reachable states of the oracle transition system in normal mode, any
number of transactions, any interleaving, the two `process` goroutines lagging arbitrarily. -/

/-- **`readTs` sees only applied commits.** In every reachable state, a transaction whose
    `NewTransaction` has returned (phase `active`, later `closing`/`closed`) with read timestamp `r`
    satisfies: every commit timestamp `≤ r` that was ever handed out has had `doneCommit` called —
    which the write pipeline does only after the memtable write. (All such timestamps were handed
    out before the transaction began: later ones are `> r`, `C03_ts_unique_increasing`.) -/
theorem C34_readTs_sees_applied {d : Bool} {n : Nat} {s : Sys} (h : OReach false d n s) (tid : Nat)
    (x : TxnSt) (hx : s.txns[tid]? = some x)
    (hret : x.phase = .active ∨ x.phase = .closing ∨ x.phase = .closed) :
    ∀ e ∈ s.hist, e.ts ≤ x.t.readTs → e.ts ∈ s.doneCommits :=
  h.inv.applied x (List.mem_of_getElem? hx) hret

/-- The guard itself: whenever `txnMark.DoneUntil() ≥ r` holds *now* (the `WaitForMark` fast path),
    every handed-out commit timestamp `≤ r` has been reported done; and `WaitForMark`'s wake-up is
    only sent with `DoneUntil() ≥ r` (`C34_waiters_released`). -/
theorem C34_doneUntil_means_applied {d : Bool} {n : Nat} {s : Sys} (h : OReach false d n s) (r : Nat)
    (hr : r ≤ s.o.txnMark.doneUntil) : ∀ e ∈ s.hist, e.ts ≤ r → e.ts ∈ s.doneCommits :=
  h.inv.applied_of_tracks h.inv.tmTracks hr

/-- Both watermarks of the oracle are used within the discipline of `C34_no_assert` /
    `C34_not_ahead_strict` / `C34_progress`: the marks sent to `readMark` are matched and
    non-decreasing, those sent to `txnMark` matched and strictly increasing; neither `process`
    goroutine (nor `newCommitTs`/`cleanup`) ever asserts. -/
theorem C34_oracle_discipline {d : Bool} {n : Nat} {s : Sys} (h : OReach false d n s) :
    marksOK false (Ghost.opened n) s.rmSent ∧ marksOK true (Ghost.opened n) s.tmSent ∧
    s.o.readMark.virt = (WM.opened n).run s.rmSent ∧ s.o.txnMark.virt = (WM.opened n).run s.tmSent ∧
    s.crashed = false :=
  ⟨h.inv.rmOK, h.inv.tmOK, h.inv.rmTracks.virt, h.inv.tmTracks.virt, h.inv.live⟩

/-- `DoneUntil()` read now never exceeds what it will be once the channel is drained (the process
    goroutine only lags), for both watermarks. -/
theorem C34_doneUntil_lags {d : Bool} {n : Nat} {s : Sys} (h : OReach false d n s) :
    s.o.readMark.doneUntil ≤ s.o.readMark.virt.doneUntil ∧
    s.o.txnMark.doneUntil ≤ s.o.txnMark.virt.doneUntil := by
  have hI := h.inv
  rw [hI.rmTracks.virt, hI.tmTracks.virt]
  exact ⟨hI.rmTracks.le_virt, hI.tmTracks.le_virt⟩

/-- **No reader is stranded (oracle level).** In every reachable state in which `txnMark`'s channel
    is drained (`process` has caught up), a transaction still parked in `WaitForMark` with read
    timestamp `r` is waiting for a commit timestamp `≤ r` that was handed out and has not been
    reported done. Contrapositive: once every commit at or below its read timestamp is done and
    `process` has handled the marks, `NewTransaction` has returned. -/
theorem C34_reader_released {d : Bool} {n : Nat} {s : Sys} (h : OReach false d n s)
    (hq : s.o.txnMark.q = []) (tid : Nat) (x : TxnSt) (hx : s.txns[tid]? = some x)
    (hp : x.phase = .parked) : ∃ e ∈ s.hist, e.ts ≤ x.t.readTs ∧ e.ts ∉ s.doneCommits := by
  have hI := h.inv
  have hL := h.live
  apply Classical.byContradiction
  intro hno
  have hall : ∀ e ∈ s.hist, e.ts ≤ x.t.readTs → e.ts ∈ s.doneCommits :=
    fun e he hle => Classical.byContradiction fun hnd => hno ⟨e, he, hle, hnd⟩
  obtain ⟨pre, epre, hwm⟩ := hI.tmTracks
  rw [hq, List.append_nil] at epre
  -- the waiter was registered …
  have hsent := hL.parkedSent tid x hx hp
  have hnf : (WM.init.run pre).failed = false := by rw [← hwm]; exact hI.tmTracks.live true hI.tmOK
  have hreg : Mark.wait x.t.readTs tid ∈ pre := by rw [← epre]; exact List.mem_cons_of_mem _ hsent
  rcases (WM.runW_trans _ WM.init_inv pre).registered hnf ⟨tid, x.t.readTs⟩ hreg with hst | hem
  · -- … still stored: then doneUntil < readTs, but progress says readTs ≤ doneUntil
    have hlt : (WM.init.run pre).doneUntil < x.t.readTs := (WM.run_inv pre).flat_ahead hst
    have hvirt : WM.init.run pre = (WM.opened n).run s.tmSent := by rw [← epre, WM.opened_run]
    have hprog := hL.txnMark_reaches hI (List.mem_of_getElem? hx) hall
    rw [hvirt] at hlt
    omega
  · -- … or already released: then the transaction is not parked
    exact hL.emitted pre (by rw [hq, List.append_nil]; exact epre) _ hem x hx hp

/-- **`txnMark` never reports a timestamp done that has not been handed out yet** (nor `readMark` a
    read timestamp that could not have been handed out): `DoneUntil() < nextTxnTs` for both marks in
    every reachable state — also in the states right after a commit was rejected by
    `sendToWriteCh` (its timestamp stays consumed: `doneCommit`). If the timestamp were handed back
    (`nextTxnTs = cts` with `txnMark.Done(cts)`, seeded/C03-abort-commit-ts-reuse) the next commit would
    be considered applied before it is written and `C34_readTs_sees_applied` would fail. -/
theorem C34_marks_below_next {d : Bool} {n : Nat} {s : Sys} (h : OReach false d n s) :
    s.o.txnMark.doneUntil < s.o.nextTxnTs ∧ s.o.readMark.doneUntil < s.o.nextTxnTs := by
  have hI := h.inv
  refine ⟨?_, hI.readDoneUntil_lt⟩
  have h1 := hI.tmTracks.le_virt
  have h2 := hI.tmVirt.duLe
  have h3 := hI.tmMax
  simp only [AWM.doneUntil]
  omega

-- non-vacuity: a reader that starts while commit 1 is in flight parks, and is released by doneCommit
example : (((Sys.opened false true 0).runLabels
    [.procTxnMark, .begin true, .waitCheck 0, .write 0 1, .commit 0, .begin false, .waitCheck 1,
     .procTxnMark, .procTxnMark]).map (fun s => (s.txns.map (·.phase), s.o.txnMark.doneUntil))) =
    some ([.closed, .parked], 0) := by decide
example : (((Sys.opened false true 0).runLabels
    [.procTxnMark, .begin true, .waitCheck 0, .write 0 1, .commit 0, .begin false, .waitCheck 1,
     .procTxnMark, .procTxnMark, .doneCommit 1, .procTxnMark]).map
      (fun s => (s.txns.map (·.phase), s.o.txnMark.doneUntil, s.doneCommits))) =
    some ([.closed, .active], 1, [1]) := by decide

end Badger
