import BadgerProofs.Props.C29State
/-!
# C29 — a DropPrefix same-level rewrite leaves the reads of all other keys unchanged

The compactions `dropPrefixes` runs on the levels `≥ 1` have a shape of their own
(`thisLevel = nextLevel`, `top = nil`, `bot` = a run of consecutive tables, on *any* level, with
`dropPrefixes ≠ []`), which `CompactOk` of `Lemmas/LsmCompact.lean` does not cover. This file
proves read preservation for that shape (`C29_group_step_reads`): for every key without a dropped
prefix, every `ts ≥ discardTs` and every clock `now ≥` the compaction's clock, the specified read
result `visible now (newestLE allEntries k ts)` is the same before and after. Such a rewrite also
keeps the invariants (`C29_group_step_inv`, given the cut condition; `_verBound`, `_layeredX`) and
only removes entries (`C29_group_step_subset`).
-/
namespace Badger

/-- the shape of a `dropPrefixes` rewrite of one table group -/
structure IsDropGroup (s : Lsm) (cd : CompactDef) : Prop where
  lvl1 : 1 ≤ cd.thisLevel
  lt : cd.thisLevel < s.levels.length
  same : cd.nextLevel = cd.thisLevel
  top : cd.top = []
  /-- `bot` lists positions in increasing order … -/
  incr : cd.bot.Pairwise (· < ·)
  /-- … that form a contiguous block: every other position is left or right of all of them -/
  convex : ∀ j, j ∉ cd.bot → (∀ j' ∈ cd.bot, j < j') ∨ (∀ j' ∈ cd.bot, j' < j)

/-! `DG.*`: what `LL.botEnts_sorted`, `LL.out_sorted`, `LL.entry_origin`, `LL.newNext_level`, … (Lemmas/LsmCompact)
say under `CompactOk`, for a compaction without top tables, which `CdBase` (`cd.top ≠ []`) excludes -/
namespace DG

variable {s : Lsm} {cd : CompactDef}

theorem tops_nil (g : IsDropGroup s cd) : cdTops s cd = [] := by
  unfold cdTops; rw [g.top]; rfl

theorem next_lt (g : IsDropGroup s cd) : cd.nextLevel < s.levels.length := g.same ▸ g.lt

theorem level (h : LsmInv s) (g : IsDropGroup s cd) :
    s.levels[cd.nextLevel]? = some (cdNextT s cd) ∧ LevelOk cd.nextLevel (cdNextT s cd) := by
  have := LL.levels_getD (next_lt g)
  exact ⟨this, h.level this⟩

theorem takenIdx_eq (g : IsDropGroup s cd) : LL.takenIdx cd = cd.bot := by
  unfold LL.takenIdx; rw [if_pos g.same.symm, g.top]; rfl

theorem botEnts_sorted (h : LsmInv s) (g : IsDropGroup s cd) : SortedEnts (LL.botEnts s cd) :=
  LL.botEnts_sorted_of h (next_lt g) (g.same ▸ g.lvl1) g.incr

theorem bot_kept_key_ne (h : LsmInv s) (g : IsDropGroup s cd) {x y : Ent} (hx : x ∈ LL.botEnts s cd)
    (hy : y ∈ LL.keptEnts s cd) : x.key ≠ y.key := by
  obtain ⟨t1, ht1, hx1⟩ := LL.mem_botEnts.mp hx
  obtain ⟨t2, ht2, hy2⟩ := LL.mem_keptEnts.mp hy
  rw [takenIdx_eq g] at ht2
  exact LL.picked_removed_key_ne ((level h g).2.2 (g.same ▸ g.lvl1)) ht1 ht2 hx1 hy2

theorem output_eq (g : IsDropGroup s cd) (d n now : Nat) :
    (compactOutput s cd d n now).1 = subcompact (params s cd d n now) (validEnts s cd) := by
  rw [PF.output_eq, PF.mergedV, tops_nil g]
  simp only [List.reverse_nil, List.map_nil, ite_self, List.nil_append, mergeAll, List.foldr_cons,
    List.foldr_nil, merge2_nil_right]

theorem validEnts_sorted (h : LsmInv s) (g : IsDropGroup s cd) : SortedEnts (validEnts s cd) :=
  (botEnts_sorted h g).sublist validEnts_sublist

theorem out_sorted (h : LsmInv s) (g : IsDropGroup s cd) (d n now : Nat) :
    SortedEnts (compactOutput s cd d n now).1 := by
  rw [output_eq g]
  exact C12_filter_sorted _ (validEnts_sorted h g)

end DG

/-- **C29** — one `dropPrefixes` rewrite of a table group (`IsDropGroup`) on a well-formed state
    leaves the specified read of every key *without* a dropped prefix unchanged, at every
    `ts ≥ discardTs` and on every clock `now ≥` the compaction's clock. (`LayeredX`: recency across
    sources; `VerBound`: `uint64` versions.) -/
theorem C29_group_step_reads {s s' : Lsm} {cd : CompactDef} {d n now' now ts : Nat} {k : Bytes}
    (h : LsmInv s) (hv : VerBound s) (hl : LayeredX s) (g : IsDropGroup s cd)
    (hs : s.compact cd d n now' = some s') (hk : hasAnyPrefix k cd.dropPrefixes = false)
    (hts : d ≤ ts) (hnow : now' ≤ now) :
    s'.specGet k ts now = s.specGet k ts now := by
  obtain ⟨e1, e2⟩ := LL.view_same hs (DG.next_lt g) g.same
    (LL.kvFun_of_sorted (LL.lvlChunk_sorted (DG.level h g).2 (g.same ▸ g.lvl1))) k ts
  -- no top tables, and `keepTable` skips only tables that hold nothing of `k`
  have hI : ∀ W, newestLE (LL.upperEnts s cd ++ (LL.inputEnts s cd ++ W)) k ts =
      newestLE (LL.upperEnts s cd ++ (DG.validEnts s cd ++ W)) k ts := fun W => by
    simp only [LL.newestLE_append, LL.inputEnts, DG.tops_nil g, LL.lvlChunk, List.reverse_nil, List.map_nil,
      List.flatten_nil, ite_self, LL.newestLE_nil, LL.pick_none_left,
      DG.nl_validEnts (fun t ht => ((DG.level h g).2.1 t (LL.bots_mem ht)).2) hk]
  unfold Lsm.specGet
  rw [e1, e2, hI, DG.output_eq g]
  refine LL.filter_reads_core (p := DG.params s cd d n now') (DG.validEnts_sorted h g) hk hts hnow ?_ ?_
  · intro hov e he x hx
    rcases List.mem_append.mp hx with h1 | h1
    · exact (DG.bot_kept_key_ne h g (DG.mem_validEnts he) h1).symm
    · obtain ⟨i, hi, hxi⟩ := LL.mem_lchunks_drop h1
      obtain ⟨t0, ht0, het0⟩ := LL.mem_botEnts.mp (DG.mem_validEnts he)
      exact LL.no_key_of_checkOverlap h hv
        (fun t ht => (DG.level h g).2.1 t (LL.bots_mem (by rwa [DG.tops_nil g, List.nil_append] at ht)))
        (LL.cdHasOverlap_false hov).2 (List.mem_append_right _ ht0) het0 hi hxi
  · intro _ x hx e he hke
    obtain ⟨t0, ht0, het0⟩ := LL.mem_botEnts.mp (DG.mem_validEnts he)
    have hlv : LL.InLevel s cd.nextLevel e := ⟨_, t0, (DG.level h g).1, LL.bots_mem ht0, het0⟩
    rcases List.mem_append.mp hx with h1 | h1
    · exact LL.layeredX_mem_level hl h1 hlv hke
    rcases List.mem_append.mp h1 with h1 | h1
    · obtain ⟨i, hi, f⟩ := LL.mem_lchunks_take.mp h1
      exact LL.layeredX_levels hl (g.same ▸ hi) f hlv hke
    · unfold LL.remThis at h1
      rw [if_pos g.same.symm] at h1
      simp [LL.lvlChunk] at h1

/-- the same for the model's read path, given that the state after the rewrite is well formed
    (`LsmInvW`: every level `≥ 1` sorted by internal key — which holds when the implementation
    cuts its output tables in key order, as it does) -/
theorem C29_group_step_get {s s' : Lsm} {cd : CompactDef} {d n now' now ts : Nat} {k : Bytes}
    (h : LsmInv s) (hv : VerBound s) (hl : LayeredX s) (g : IsDropGroup s cd)
    (hs : s.compact cd d n now' = some s') (hinv' : LsmInvW s')
    (hk : hasAnyPrefix k cd.dropPrefixes = false) (hts : d ≤ ts) (hnow : now' ≤ now) :
    visible now (s'.get k ts) = visible now (s.get k ts) := by
  rw [C01_get_spec_weak hinv', C01_read_spec h]
  exact C29_group_step_reads h hv hl g hs hk hts hnow

namespace DG

variable {s : Lsm} {cd : CompactDef}

theorem new_from_block (g : IsDropGroup s cd) {d n now : Nat} {new0 : List Tbl}
    (hsp : splitSizes cd.outSizes (compactOutput s cd d n now).1 = some new0) {t : Tbl} {e : Ent}
    (ht : t ∈ withIds new0 cd.outIds) (he : e ∈ t.ents) :
    ∃ j t0, j ∈ cd.bot ∧ (cdNextT s cd)[j]? = some t0 ∧ e ∈ t0.ents := by
  obtain ⟨t0, ht0, he0⟩ := LL.mem_botEnts.mp
    (mem_validEnts (C12_filter_mem (output_eq g d n now ▸ (LL.mem_output_iff hsp).mpr ⟨t, ht, he⟩)))
  obtain ⟨j, hjm, hj⟩ := LL.mem_pickIdx.mp ht0
  exact ⟨j, t0, hjm, hj, he0⟩

theorem entry_origin (g : IsDropGroup s cd) {s' : Lsm} {d n now : Nat} (hs : s.compact cd d n now = some s')
    {i : Nat} {tbls : List Tbl} {t : Tbl} {e : Ent}
    (hi : s'.levels[i]? = some tbls) (ht : t ∈ tbls) (he : e ∈ t.ents) :
    ∃ tb t0, s.levels[i]? = some tb ∧ t0 ∈ tb ∧ e ∈ t0.ents := by
  obtain ⟨new0, hsp, rfl⟩ := LL.compact_some hs
  rcases LL.entry_origin_level g.lt (next_lt g) hsp hi ht he with h1 | ⟨rfl, _, h1⟩
  · exact h1
  · rw [g.same]
    exact h1

/-- the rewritten level is well formed again, provided the output tables are cut where the user key
    changes: the new tables lie key-wise where the block was -/
theorem newNext_ok {d n now : Nat} {new0 : List Tbl} (h : LsmInv s)
    (g : IsDropGroup s cd) (hsp : splitSizes cd.outSizes (compactOutput s cd d n now).1 = some new0)
    (hcut : CutsAtKeyChange (withIds new0 cd.outIds)) : LevelOk cd.nextLevel (LL.newNext s cd new0) := by
  obtain ⟨_, hok, hkd⟩ := level h g
  obtain ⟨hnew, hnewp⟩ := LL.new_tables_of (ids := cd.outIds) (out_sorted h g d n now) hsp
  replace hnew := fun t ht => (hnew t ht).1
  have hallok : ∀ t ∈ removeIdx (cdNextT s cd) cd.bot ++ withIds new0 cd.outIds, TblOk t := by
    intro t ht
    rcases List.mem_append.mp ht with h1 | h1
    · obtain ⟨j, hj, _⟩ := LL.mem_removeIdx.mp h1
      exact hok t (List.mem_of_getElem? hj)
    · exact hnew t h1
  refine ⟨fun t ht => hallok t (List.mem_append.mpr ((mem_newNext_same g.same g.top).mp ht)), fun hn1 => ?_⟩
  unfold LL.newNext
  rw [takenIdx_eq g]
  apply LL.sortBySmallest_pairwise .inl (fun t ht => (hallok t ht).1)
  have hT := hkd hn1
  rw [List.pairwise_append]
  refine ⟨(List.Pairwise.sublist (LL.removeIdx_sublist _ _) hT).imp .inl,
    (LL.cuts_pairwise hnew hnewp hcut).imp .inl, ?_⟩
  intro a ha b hb
  obtain ⟨j, hj, hjb⟩ := LL.mem_removeIdx.mp ha
  have hfrom := fun (y : Ent) (hy : y ∈ b.ents) => new_from_block g hsp hb hy
  rcases g.convex j hjb with hl | hr
  · left
    intro x hx y hy
    obtain ⟨j', t0, h1, hj', hy'⟩ := hfrom y hy
    exact keyDisjoint_sep hT hj hj' (hl j' h1) x hx y hy'
  · right
    intro y hy x hx
    obtain ⟨j', t0, h1, hj', hy'⟩ := hfrom y hy
    exact keyDisjoint_sep hT hj' hj (hr j' h1) y hy' x hx

end DG

/-- a drop-group rewrite only removes entries -/
theorem C29_group_step_subset {s s' : Lsm} {cd : CompactDef} {d n now : Nat}
    (g : IsDropGroup s cd) (hs : s.compact cd d n now = some s') :
    ∀ e ∈ s'.allEntries, e ∈ s.allEntries :=
  fun _ => LL.mem_allEntries_compact g.lt (DG.next_lt g) hs

/-- **C29** — a drop-group rewrite preserves the structural invariant (tables non-empty and
    sorted, levels `≥ 1` key-disjoint, positive versions), provided the implementation cuts its
    output tables where the user key changes (as `addKeys` does; checked by the harness). -/
theorem C29_group_step_inv {s s' : Lsm} {cd : CompactDef} {d n now : Nat} (h : LsmInv s)
    (g : IsDropGroup s cd) (hs : s.compact cd d n now = some s')
    (hcut : ∀ new0, splitSizes cd.outSizes (compactOutput s cd d n now).1 = some new0 →
      CutsAtKeyChange (withIds new0 cd.outIds)) : LsmInv s' := by
  have hsub := C29_group_step_subset g hs
  obtain ⟨new0, hsp, rfl⟩ := LL.compact_some hs
  refine ⟨h.1, h.2.1, fun p hp => ?_, fun e he => h.2.2.2 e (hsub e he)⟩
  rcases LL.newLevels_cases g.lt (DG.next_lt g) ((LL.mem_zipIdx _ _ _).mp hp) with
    ⟨_, hne, _⟩ | ⟨hi, hp2⟩ | ⟨_, _, hi⟩
  · exact absurd g.same.symm hne
  · rw [hi, hp2]
    exact DG.newNext_ok h g hsp (hcut new0 hsp)
  · exact h.level hi

theorem C29_group_step_verBound {s s' : Lsm} {cd : CompactDef} {d n now : Nat}
    (hv : VerBound s) (g : IsDropGroup s cd) (hs : s.compact cd d n now = some s') : VerBound s' :=
  fun e he => hv e (C29_group_step_subset g hs e he)

/-- recency across sources survives: nothing moves to another level -/
theorem C29_group_step_layeredX {s s' : Lsm} {cd : CompactDef} {d n now : Nat}
    (hl : LayeredX s) (g : IsDropGroup s cd) (hs : s.compact cd d n now = some s') : LayeredX s' := by
  have f := sameLevel_frame g.same hs
  exact LL.layeredX_of_origin f.mem f.imm hl fun ⟨tbls, t, hj, ht, hx⟩ =>
    ⟨_, Nat.le_refl _, DG.entry_origin g hs hj ht hx, fun i' y h2 h3 => by omega⟩

/-- a run of consecutive positions is such a block (`C29_dropGroups_consecutive`) -/
theorem isDropGroup_of_run {s : Lsm} {lvl a m : Nat} {outS outI : List Nat} {ps : List Bytes}
    (h1 : 1 ≤ lvl) (hlt : lvl < s.levels.length) :
    IsDropGroup s { thisLevel := lvl, nextLevel := lvl, top := [], bot := List.range' a m,
                    outSizes := outS, outIds := outI, dropPrefixes := ps } where
  lvl1 := h1
  lt := hlt
  same := rfl
  top := rfl
  incr := by
    simp only
    exact List.pairwise_lt_range'
  convex := by
    intro j hj
    simp only [List.mem_range'_1] at hj ⊢
    by_cases h : j < a
    · exact .inl (fun j' hj' => by omega)
    · exact .inr (fun j' hj' => by omega)

end Badger
