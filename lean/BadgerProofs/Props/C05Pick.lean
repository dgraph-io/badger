import BadgerModel.IterPick
import BadgerProofs.Props.C05
import BadgerProofs.Lemmas.LsmCompact
import BadgerProofs.Lemmas.BlockSeek
/-!
# C05 (table picking) — `pickTable`/`pickTables` drop only tables that cannot matter

Model: `BadgerModel/IterPick.lean`. The file also holds the characterisation of `scanOut` (what `Db.iterate`
makes of a merged stream) in every mode, on which the database-level scan theorems (`DbL.Tree.scan`,
Props/C05Db.lean) rest: `scanOut_char` (the result is sorted in the direction of iteration, and its members are
`scanMem` of the `relevant` part of the stream: inside the window and acceptable to `Valid()`, `vpOk`) under the
side conditions `PickOk`, and `scanOut_congr` (two streams with the same relevant part give the same scan).
`sortSearch` (the `sort.Search` of `pickTables`) is bridged to `Tbl.searchM` of Lemmas/BlockSeek by
`searchM_pure`, `sortSearch_cut`. Results:

* `C05_pickTable_complete`: a level-0 table that is not picked contains no *relevant* entry
  (inside the window `since < ver ≤ readTs`, acceptable to `Valid()`: has the prefix, or for a
  key iterator *is* the key) — entries with `ver = SinceTs` stay in a picked table but are
  hidden by `parseItem` anyway;
* `C05_pickTables_eq_filter`: on a well-formed level (non-empty tables, disjoint ascending key
  ranges — `LevelOk`, C14) the two `sort.Search` binary searches, the bloom loop and the
  `SinceTs` filter select exactly `tables.filter pickTable` — in particular
  `C05_pickTables_complete`; `compareToPrefix`'s truncation is monotone in the key
  (`cmpBytes_take_mono`), also for keys shorter than the prefix, so the searches never skip a
  table holding a prefixed key;
* `C05_iteratePicked_eq`: under `LsmInv`, a sound bloom answer and the side conditions below,
  `Db.iteratePicked = Db.iterate`, for forward, reverse, `AllVersions` and key iterators.

Side conditions of the equality (`PickOk`): the seek key has the prefix (always true for
`Rewind` and for an empty prefix), and for a REVERSE key iterator the seek key is the key
itself. Outside them the two really differ, because a non-picked table can hold the entry the
unfiltered scan would stop at (`Valid()` false) or pass over:
* forward, `Seek(k)` with `k` below the prefix range: the full scan stops at once at a
  non-prefixed visible key (no prefix ⇒ `parseItem` returns), the picked one may not contain
  that key and continue into the prefix range;
* reverse, `Seek(k)` with `k` above the prefix range (and not of the form `prefix…`): the full
  scan yields a non-prefixed key first and `Valid()` fails, the picked one may start inside
  the prefix range;
* reverse key iterator seeking above the key: a table the bloom filter excludes may hold
  `key ++ suffix`, which the full scan yields first.
The real code is `iteratePicked`; these cases are model-vs-model differences, not defects.
-/
namespace Badger

theorem compareToPrefix_of_prefix {p k : Bytes} (h : p.isPrefixOf k = true) :
    compareToPrefix p k = .eq := by
  unfold compareToPrefix; rw [take_of_isPrefixOf h, cmpBytes_refl]

theorem compareToPrefix_gt_mono {p a b : Bytes} (hab : cmpBytes a b ≠ .gt)
    (ha : compareToPrefix p a = .gt) : compareToPrefix p b = .gt :=
  (cmpBytes_gt_iff_lt _ _).mpr
    (cmpBytes_lt_of_lt_of_le ((cmpBytes_gt_iff_lt _ _).mp ha) (cmpBytes_take_mono p.length a b hab))

theorem compareToPrefix_lt_mono {p a b : Bytes} (hab : cmpBytes a b ≠ .gt)
    (hb : compareToPrefix p b = .lt) : compareToPrefix p a = .lt :=
  cmpBytes_lt_of_le_of_lt (cmpBytes_take_mono p.length a b hab) hb

theorem le_maxVersion (t : Tbl) : ∀ e ∈ t.ents, e.ver ≤ t.maxVersion := by
  unfold Tbl.maxVersion
  exact (foldl_max_ge (·.ver) t.ents 0).2

/-- what `Valid()` requires of a key -/
def vpOk (o : IterOpts) (k : Bytes) : Bool :=
  if o.prefixIsKey then k == o.prefix_ else o.prefix_.isPrefixOf k

/-- the entries a scan with options `o` at `readTs` can yield or be influenced by: inside the
    version window and acceptable to `Valid()` -/
def relevant (o : IterOpts) (readTs : Nat) (e : Ent) : Bool :=
  inWindow readTs o.sinceTs e && vpOk o e.key

theorem vpOk_prefix {o : IterOpts} {k : Bytes} (h : vpOk o k = true) : o.prefix_.isPrefixOf k = true := by
  unfold vpOk at h
  split at h
  · rw [beq_iff_eq.mp h]; exact isPrefixOf_self _
  · exact h

/-- `dnh` has no false negatives for the key `o.prefix_` -/
def BloomSound (o : IterOpts) (dnh : Tbl → Bool) : Prop :=
  ∀ t, dnh t = true → ∀ e ∈ t.ents, e.key ≠ o.prefix_

/-- **`pickTable` is complete**: a table that is not picked holds no relevant entry. -/
theorem C05_pickTable_complete (o : IterOpts) (dnh : Tbl → Bool) (readTs : Nat) (t : Tbl)
    (hs : SortedEnts t.ents) (hb : BloomSound o dnh) (hp : pickTable o dnh t = false) :
    ∀ e ∈ t.ents, relevant o readTs e = false := by
  intro e he
  -- a key that `compareToPrefix` does not find equal to the prefix has not the prefix
  have hno : compareToPrefix o.prefix_ e.key ≠ .eq → relevant o readTs e = false := fun h => by
    have hv : vpOk o e.key = false := Bool.eq_false_iff.mpr fun hv => h (compareToPrefix_of_prefix (vpOk_prefix hv))
    rw [relevant, hv, Bool.and_false]
  have hlo : cmpBytes t.smallestKey e.key ≠ .gt := LL.key_ge_smallest hs he
  have hhi : cmpBytes e.key t.biggestKey ≠ .gt := LL.key_le_biggest hs he
  revert hp
  fun_cases pickTable o dnh t <;> intro hp
  case case1 hlt => -- `MaxVersion < SinceTs`
    have hw : inWindow readTs o.sinceTs e = false :=
      Bool.eq_false_iff.mpr fun h => by have := inWindow_iff.mp h; have := le_maxVersion t e he; omega
    rw [relevant, hw, Bool.false_and]
  case case2 | case6 => cases hp   -- picked
  case case3 h =>  -- `Smallest` above the prefix
    exact hno (by rw [compareToPrefix_gt_mono hlo (beq_iff_eq.mp h)]; nofun)
  case case4 h =>  -- `Biggest` below the prefix
    exact hno (by rw [compareToPrefix_lt_mono hhi (beq_iff_eq.mp h)]; nofun)
  case case5 h =>  -- key iterator, the bloom filter excludes the key
    simp only [Bool.and_eq_true] at h
    rw [relevant, vpOk, h.1, if_pos rfl, beq_eq_false_iff_ne.mpr (hb t h.2 e he), Bool.and_false]

/-- `sortSearch` is the stateless instance of the `sort.Search` loop `searchM` -/
theorem searchM_pure (f : Nat → Bool) (fuel i j : Nat) (h : j - i ≤ fuel) :
    Tbl.searchM (fun h (u : Unit) => some (f h, u)) i j () = some (sortSearch.go f fuel i j, ()) := by
  fun_induction sortSearch.go f fuel i j <;> rw [Tbl.searchM]
  case case1 => rw [dif_neg (by omega)]   -- out of fuel: the interval is empty
  case case2 hlt m hf ih => rw [dif_pos hlt]; dsimp only; rw [if_pos hf]; exact ih (by omega)   -- go right
  case case3 hlt m hf ih => rw [dif_pos hlt]; dsimp only; rw [if_neg hf]; exact ih (by omega)   -- go left
  case case4 hlt => rw [dif_neg hlt]   -- the interval is empty

/-- along a list on which `F` is monotone, `sort.Search` cuts between the entries without and with `F` -/
theorem sortSearch_cut {α : Type} (l : List α) (d : α) (F : α → Bool)
    (hF : l.Pairwise (fun a b => F a = true → F b = true)) :
    l.take (sortSearch l.length (fun i => F (l.getD i d))) = l.filter (fun t => !F t) ∧
    l.drop (sortSearch l.length (fun i => F (l.getD i d))) = l.filter F := by
  -- the search ends at `findIdx F`, where `takeWhile (!F ·)` ends; on a monotone list that cut is the filter
  obtain ⟨r, hr, rfl, -⟩ := Tbl.searchM_list_pure (fun h u => some (F (l.getD h d), u)) l F
    (fun h x hx => by rw [List.getD_eq_getElem?_getD, hx]; rfl) hF
  rw [searchM_pure _ l.length 0 l.length (Nat.le_refl _)] at hr
  have hn : l.Pairwise (fun a b => (!F b) = true → (!F a) = true) := hF.imp fun {a b} h hb => by
    cases ha : F a
    · rfl
    · rw [h ha] at hb; exact hb
  have e : (fun a => !!F a) = F := funext fun a => Bool.not_not _
  rw [show sortSearch l.length (fun i => F (l.getD i d)) = l.findIdx F from (Prod.mk.inj (Option.some.inj hr)).1,
    ← e, ← List.takeWhile_eq_take_findIdx_not, ← List.dropWhile_eq_drop_findIdx_not,
    takeWhile_eq_filter _ _ hn, dropWhile_eq_filter _ _ hn, e]
  exact ⟨rfl, rfl⟩

theorem filterSince_eq (o : IterOpts) (l : List Tbl) :
    filterSince o l = l.filter (fun t => !decide (t.maxVersion < o.sinceTs)) := by
  unfold filterSince
  split
  · rfl
  · rename_i h
    have h0 : o.sinceTs = 0 := by omega
    symm; rw [List.filter_eq_self]
    intro t _; simp [h0]

theorem filterSince_sublist (o : IterOpts) (l : List Tbl) : (filterSince o l).Sublist l := by
  rw [filterSince_eq]; exact List.filter_sublist

/-- `pickTables` (two binary searches or a loop, then the `SinceTs` filter) selects exactly the tables
    `pickTable` accepts, on a level with non-empty tables and disjoint ascending key ranges -/
theorem C05_pickTables_eq_filter (o : IterOpts) (dnh : Tbl → Bool) (tbls : List Tbl)
    (hne : ∀ t ∈ tbls, t.ents ≠ []) (hd : KeyDisjoint tbls) :
    pickTables o dnh tbls = tbls.filter (pickTable o dnh) := by
  have hkey : ∀ f : Tbl → Bytes, (∀ t ∈ tbls, ∃ e ∈ t.ents, e.key = f t) →
      tbls.Pairwise (fun a b => cmpBytes (f a) (f b) ≠ .gt) := by
    intro f hf
    refine List.Pairwise.imp_of_mem ?_ hd
    intro a b ha hb hab
    obtain ⟨x, hx, hxk⟩ := hf a ha
    obtain ⟨y, hy, hyk⟩ := hf b hb
    rw [← hxk, ← hyk, hab x hx y hy]; simp
  unfold pickTables
  by_cases hpe : o.prefix_.isEmpty = true
  · simp only [hpe, if_true, filterSince_eq]
    apply List.filter_congr
    intro t _
    unfold pickTable
    by_cases hlt : t.maxVersion < o.sinceTs <;> simp [hlt, hpe]
  · -- `Biggest` not below the prefix, `Smallest` above it: both monotone along the level
    have hB : tbls.Pairwise (fun a b => (compareToPrefix o.prefix_ a.biggestKey != .lt) = true →
        (compareToPrefix o.prefix_ b.biggestKey != .lt) = true) :=
      (hkey Tbl.biggestKey fun t ht => LL.biggest_key_mem (hne t ht)).imp fun hab ha => by
        simp only [bne_iff_ne, ne_eq] at ha ⊢
        exact fun hb => ha (compareToPrefix_lt_mono hab hb)
    have hS : (tbls.filter (fun t => compareToPrefix o.prefix_ t.biggestKey != .lt)).Pairwise (fun a b =>
        (compareToPrefix o.prefix_ a.smallestKey == .gt) = true →
        (compareToPrefix o.prefix_ b.smallestKey == .gt) = true) :=
      ((hkey Tbl.smallestKey fun t ht => LL.smallest_key_mem (hne t ht)).sublist List.filter_sublist).imp
        fun hab ha => by
          simp only [beq_iff_eq] at ha ⊢
          exact compareToPrefix_gt_mono hab ha
    have hpick : ∀ t, pickTable o dnh t =
        ((compareToPrefix o.prefix_ t.biggestKey != .lt) && !(compareToPrefix o.prefix_ t.smallestKey == .gt) &&
         !(o.prefixIsKey && dnh t) && !decide (t.maxVersion < o.sinceTs)) := by
      intro t
      unfold pickTable
      by_cases hlt : t.maxVersion < o.sinceTs
      · simp [hlt]
      · simp only [hlt, if_false, hpe, Bool.false_eq_true, decide_false, Bool.not_false, Bool.and_true]
        -- the `if` chain of `pickTable` against the formula, by the outcomes of its three remaining tests
        cases compareToPrefix o.prefix_ t.smallestKey <;> cases compareToPrefix o.prefix_ t.biggestKey <;>
          cases (o.prefixIsKey && dnh t) <;> rfl
    obtain ⟨-, hdrop⟩ := sortSearch_cut tbls { ents := [] } _ hB
    simp only [hpe, Bool.false_eq_true, if_false, hdrop, filterSince_eq]
    split
    · -- no table reaches the prefix
      rename_i hall
      rw [beq_iff_eq.mp hall, List.drop_length] at hdrop
      symm
      rw [List.filter_eq_nil_iff]
      intro t ht
      have := List.filter_eq_nil_iff.mp hdrop.symm t ht
      rw [hpick]; simp only [Bool.not_eq_true] at this; simp [this]
    · have hSn : List.Pairwise (fun a b : Tbl => (compareToPrefix o.prefix_ b.smallestKey != .gt) = true →
          (compareToPrefix o.prefix_ a.smallestKey != .gt) = true) _ := hS.imp fun {a _} hab hb => by
        cases ha : (compareToPrefix o.prefix_ a.smallestKey == .gt) with
        | false => simp [bne, ha]
        | true => have := hab ha; simp [bne, this] at hb
      -- the binary search (prefix iterator) and the loop (key iterator) both cut at `Smallest` above the prefix
      cases hik : o.prefixIsKey <;>
        simp only [Bool.not_false, Bool.not_true, if_true, Bool.false_eq_true, if_false,
          (sortSearch_cut _ { ents := [] } _ hS).1, takeWhile_eq_filter _ _ hSn, List.filter_filter] <;>
        (apply List.filter_congr
         intro t _
         -- both sides are Boolean formulas in the four tests of `hpick`: enumerate their values
         rw [hpick, hik]
         cases (compareToPrefix o.prefix_ t.biggestKey != .lt) <;>
           cases (compareToPrefix o.prefix_ t.smallestKey) <;> cases dnh t <;>
           cases (decide (t.maxVersion < o.sinceTs)) <;> rfl)

theorem relevant_slot (o : IterOpts) (readTs : Nat) : SlotPred (relevant o readTs) := by
  intro a b hk hv
  simp only [relevant, inWindow, hk, hv]

theorem nonempty_filter_pick (pick : Tbl → Bool) (g : Tbl → List Ent) (L : List Tbl)
    (h : ∀ t ∈ L, pick t = false → g t = []) :
    ((L.filter pick).map g).filter (fun s => !s.isEmpty) = (L.map g).filter (fun s => !s.isEmpty) := by
  rw [List.filter_map, List.filter_map, List.filter_filter]
  congr 1
  apply List.filter_congr
  intro t ht
  cases hp : pick t with
  | true => simp
  | false => simp [h t ht hp]

theorem flatten_filter_pick (pick : Tbl → Bool) (g : Tbl → List Ent) (L : List Tbl)
    (h : ∀ t ∈ L, pick t = false → g t = []) :
    ((L.filter pick).map g).flatten = (L.map g).flatten := by
  rw [← List.flatten_filter_not_isEmpty, nonempty_filter_pick pick g L h, List.flatten_filter_not_isEmpty]

theorem pickTables_sublist (o : IterOpts) (dnh : Tbl → Bool) (all : List Tbl) :
    (pickTables o dnh all).Sublist all := by
  unfold pickTables
  split
  · exact filterSince_sublist o all
  · dsimp only
    split
    · exact List.nil_sublist _
    · split
      · exact (filterSince_sublist o _).trans ((List.take_sublist _ _).trans (List.drop_sublist _ _))
      · exact (filterSince_sublist o _).trans
          (List.filter_sublist.trans ((List.takeWhile_sublist _).trans (List.drop_sublist _ _)))

theorem pickedSources_sublist {s : Lsm} {o : IterOpts} {dnh : Tbl → Bool} {src : List Ent}
    (h : src ∈ s.pickedSources o dnh) : ∃ src' ∈ s.sources, src.Sublist src' := by
  unfold Lsm.pickedSources at h
  unfold Lsm.sources
  rcases List.mem_append.mp h with h | h
  · exact ⟨src, List.mem_append_left _ h, List.Sublist.refl _⟩
  · cases hl : s.levels with
    | nil => rw [hl] at h; cases h
    | cons l0 rest =>
      rw [hl] at h
      simp only
      rcases List.mem_append.mp h with h | h
      · obtain ⟨t, ht, rfl⟩ := List.mem_map.mp h
        have ht' := (List.mem_filter.mp (List.mem_reverse.mp ht)).1
        exact ⟨t.ents, List.mem_append_right _ (List.mem_append_left _
          (List.mem_map.mpr ⟨t, List.mem_reverse.mpr ht', rfl⟩)), List.Sublist.refl _⟩
      · obtain ⟨tbls, ht, rfl⟩ := List.mem_map.mp h
        exact ⟨(tbls.map (·.ents)).flatten, List.mem_append_right _ (List.mem_append_right _
          (List.mem_map.mpr ⟨tbls, ht, rfl⟩)),
          flatten_sublist ((pickTables_sublist o dnh tbls).map _)⟩

theorem pickedSources_sorted {s : Lsm} (hinv : LsmInv s) (o : IterOpts) (dnh : Tbl → Bool) :
    ∀ src ∈ s.pickedSources o dnh, SortedEnts src := by
  intro src hsrc
  obtain ⟨src', hs', hsub⟩ := pickedSources_sublist hsrc
  exact (sources_sorted hinv src' hs').sublist hsub

/-- **the picked stream and the full stream have the same relevant entries** -/
theorem relevant_stream_eq {s : Lsm} (hinv : LsmInv s) (o : IterOpts) (dnh : Tbl → Bool) (readTs : Nat)
    (hb : BloomSound o dnh) (P : List Ent) (hP : SortedEnts P) :
    (mergeAll (P :: s.pickedSources o dnh)).filter (relevant o readTs) =
      (mergeAll (P :: s.sources)).filter (relevant o readTs) := by
  have hs1 : ∀ src ∈ P :: s.sources, SortedEnts src :=
    List.forall_mem_cons.mpr ⟨hP, sources_sorted hinv⟩
  have hs2 : ∀ src ∈ P :: s.pickedSources o dnh, SortedEnts src :=
    List.forall_mem_cons.mpr ⟨hP, pickedSources_sorted hinv o dnh⟩
  -- a table that is not picked contributes nothing relevant
  have hg : ∀ t : Tbl, SortedEnts t.ents → pickTable o dnh t = false →
      t.ents.filter (relevant o readTs) = [] := fun t ht hp =>
    List.filter_eq_nil_iff.mpr fun e he => by
      simp [C05_pickTable_complete o dnh readTs t ht hb hp e he]
  rw [filter_mergeAll _ (relevant_slot o readTs) _ hs1, filter_mergeAll _ (relevant_slot o readTs) _ hs2,
    ← mergeAll_filter_nonempty, ← mergeAll_filter_nonempty ((P :: s.sources).map _)]
  congr 1
  unfold Lsm.pickedSources Lsm.sources
  cases hl : s.levels with
  | nil => rfl
  | cons l0 rest =>
    obtain ⟨h0, hr⟩ := mem_rest_levelOk hinv hl
    have hL0 : (((l0.filter (pickTable o dnh)).reverse.map (·.ents)).map
          (·.filter (relevant o readTs))).filter (fun s => !s.isEmpty) =
        ((l0.reverse.map (·.ents)).map (·.filter (relevant o readTs))).filter (fun s => !s.isEmpty) := by
      have := nonempty_filter_pick (pickTable o dnh) (fun t => t.ents.filter (relevant o readTs))
        l0.reverse fun t ht => hg t (h0.1 t (List.mem_reverse.mp ht)).2
      rw [← List.filter_reverse, List.map_map, List.map_map]
      exact this
    have hLv : (rest.map (fun tbls => ((pickTables o dnh tbls).map (·.ents)).flatten)).map
          (·.filter (relevant o readTs)) =
        (rest.map (fun tbls => (tbls.map (·.ents)).flatten)).map (·.filter (relevant o readTs)) := by
      rw [List.map_map, List.map_map]
      apply List.map_congr_left
      intro tbls ht
      obtain ⟨i, hi, hok⟩ := hr tbls ht
      simp only [Function.comp]
      rw [C05_pickTables_eq_filter o dnh tbls (fun t ht => (hok.1 t ht).1) (hok.2 hi),
        List.filter_flatten, List.filter_flatten, List.map_map, List.map_map]
      apply flatten_filter_pick
      exact fun t ht => hg t (hok.1 t ht).2
    simp only [List.map_cons, List.map_append, List.filter_append, List.filter_cons]
    rw [hL0, hLv]

/-- the side of the seek key an entry must lie on -/
def seekSide (o : IterOpts) (sk : Bytes) (x : Ent) : Prop :=
  if o.reverse then (sk.isEmpty = true ∨ cmpBytes x.key sk ≠ .gt) else cmpBytes x.key sk ≠ .lt

/-- side conditions under which table picking is invisible -/
def PickOk (o : IterOpts) (seek : Option Bytes) : Prop :=
  o.prefix_.isPrefixOf (seekKeyOf o seek) = true ∧
  (o.prefixIsKey = true → o.reverse = true → seekKeyOf o seek = o.prefix_ ∧ o.prefix_ ≠ [])

theorem validPrefix_eq (o : IterOpts) (items : List Ent) :
    validPrefix o items = items.takeWhile (fun e => vpOk o e.key) := rfl

theorem newestVisible_relevant (o : IterOpts) (readTs : Nat) (M : List Ent) (k : Bytes)
    (hk : vpOk o k = true) :
    newestVisible M readTs o.sinceTs k = newestLE (M.filter (relevant o readTs)) k readTs := by
  unfold newestVisible
  apply newestLE_congr_filter
  rw [List.filter_filter, List.filter_filter]
  apply List.filter_congr
  intro x _
  unfold relevant
  by_cases hx : x.key = k
  · simp [hx, hk]
  · simp [hx]

theorem closure_fwd (o : IterOpts) (a b : Ent) (ha : o.prefix_.isPrefixOf a.key = true)
    (hab : entCmp a b = .lt) (hb : vpOk o b.key = true) : vpOk o a.key = true := by
  unfold vpOk at *
  split at hb
  · rename_i hik
    simp only [hik, if_true, beq_iff_eq] at hb ⊢
    have h1 := entCmp_lt_key_le hab
    rw [hb] at h1
    exact cmpBytes_antisymm h1 (cmpBytes_of_isPrefixOf ha)
  · rename_i hik
    simp only [hik, Bool.false_eq_true, if_false]; exact ha

theorem closure_rev (o : IterOpts) (seek : Option Bytes) (hok : PickOk o seek) (hrev : o.reverse = true)
    (a b : Ent) (ha : (seekKeyOf o seek).isEmpty = true ∨ cmpBytes a.key (seekKeyOf o seek) ≠ .gt)
    (hba : entCmp b a = .lt) (hb : vpOk o b.key = true) : vpOk o a.key = true := by
  have hle := entCmp_lt_key_le hba
  unfold vpOk at *
  split at hb
  · rename_i hik
    obtain ⟨hsk, hne⟩ := hok.2 hik hrev
    simp only [hik, if_true, beq_iff_eq] at hb ⊢
    rcases ha with ha | ha
    · rw [hsk] at ha; exact absurd (by simpa using ha) hne
    · rw [hsk] at ha; rw [hb] at hle
      exact cmpBytes_antisymm ha hle
  · rename_i hik
    simp only [hik, Bool.false_eq_true, if_false]
    rcases ha with ha | ha
    · have : seekKeyOf o seek = [] := by simpa using ha
      have h2 := hok.1
      rw [this] at h2
      have : o.prefix_ = [] := List.prefix_nil.mp (List.isPrefixOf_iff_prefix.mp h2)
      rw [this]; simp
    · exact prefix_convex o.prefix_ b.key a.key (seekKeyOf o seek) hb hok.1 hle ha

/-- membership in the result of a scan, as a property of the relevant part of the stream -/
def scanMem (o : IterOpts) (readTs now : Nat) (seek : Option Bytes) (W : List Ent) (x : Ent) : Prop :=
  x ∈ W ∧ seekSide o (seekKeyOf o seek) x ∧
  (o.allVersions = true ∨
    (newestLE W x.key readTs = some x ∧ deletedOrExpired x.emeta x.exp now = false))

/-- the newest in-window version of an acceptable key, read off the relevant part of the stream -/
theorem relevant_newest {o : IterOpts} {readTs : Nat} {M : List Ent} {x : Ent} {side live : Prop} :
    (x ∈ M ∧ side ∧ newestVisible M readTs o.sinceTs x.key = some x ∧ live) ∧ vpOk o x.key = true ↔
      x ∈ M.filter (relevant o readTs) ∧ side ∧
        newestLE (M.filter (relevant o readTs)) x.key readTs = some x ∧ live := by
  constructor
  · rintro ⟨⟨hm, hside, hnew, hlive⟩, hvp⟩
    have hw : inWindow readTs o.sinceTs x = true := (List.mem_filter.mp (newestLE_some_mem hnew).1).2
    rw [newestVisible_relevant o readTs M x.key hvp] at hnew
    exact ⟨List.mem_filter.mpr ⟨hm, by simp [relevant, hw, hvp]⟩, hside, hnew, hlive⟩
  · rintro ⟨hW, hside, hnew, hlive⟩
    obtain ⟨hm, hrel⟩ := List.mem_filter.mp hW
    simp only [relevant, Bool.and_eq_true] at hrel
    exact ⟨⟨hm, hside, by rwa [newestVisible_relevant o readTs M x.key hrel.2], hlive⟩, hrel.2⟩

/-- the shape common to all modes: the loop yields a list `S` sorted in the direction of iteration, on
    which `Valid()` is closed towards the start, so `validPrefix` only filters `S` -/
theorem scanOut_of_spec {o : IterOpts} {readTs now : Nat} {seek : Option Bytes} {M S : List Ent}
    {R : Ent → Ent → Prop} (hS : scanOut o readTs now seek M = validPrefix o S) (hsp : S.Pairwise R)
    (hcl : ∀ a ∈ S, ∀ b, R a b → vpOk o b.key = true → vpOk o a.key = true)
    (hmem : ∀ x, x ∈ S ∧ vpOk o x.key = true ↔ scanMem o readTs now seek (M.filter (relevant o readTs)) x) :
    (scanOut o readTs now seek M).Pairwise R ∧
    ∀ x, x ∈ scanOut o readTs now seek M ↔ scanMem o readTs now seek (M.filter (relevant o readTs)) x := by
  rw [hS, validPrefix_eq, takeWhile_eq_filter _ _ (hsp.imp_of_mem fun {a b} ha _ hab hb => hcl a ha b hab hb)]
  exact ⟨hsp.filter _, fun x => List.mem_filter.trans (hmem x)⟩

/-- the result of a scan in every mode: sorted in the direction of iteration, and its members -/
theorem scanOut_char (o : IterOpts) (readTs now : Nat) (seek : Option Bytes) (M : List Ent)
    (hs : SortedEnts M) (hn : NoHidden o M) (hok : PickOk o seek) :
    (if o.reverse then SortedDesc (scanOut o readTs now seek M) else SortedEnts (scanOut o readTs now seek M)) ∧
    ∀ x, x ∈ scanOut o readTs now seek M ↔ scanMem o readTs now seek (M.filter (relevant o readTs)) x := by
  have hnS : NoHidden o (seekList M o readTs seek) :=
    hn.of_mem fun x hx => mem_of_mem_seekFrom (seekList_eq .. ▸ hx)
  cases hrev : o.reverse with
  | false =>
    simp only [Bool.false_eq_true, if_false]
    cases hall : o.allVersions with
    | false =>
      have hmem := mem_specScanFwd_iff hs readTs o.sinceTs now hok.1
      refine scanOut_of_spec (R := fun a b => entCmp a b = .lt)
        (by unfold scanOut; rw [C05_forward M o readTs now _ seek hs hrev hall hn hok.1 (by omega)])
        (hs.sublist (specScanFwd_sublist ..))
        (fun a ha b hab hb => closure_fwd o a b ((hmem a).mp ha).2.2.1 hab hb) fun x => ?_
      rw [hmem]
      simp only [scanMem, seekSide, hrev, hall, Bool.false_eq_true, if_false, false_or]
      constructor
      · rintro ⟨⟨hm, hge, -, h⟩, hvp⟩
        exact relevant_newest.mp ⟨⟨hm, hge, h⟩, hvp⟩
      · intro h
        obtain ⟨⟨hm, hge, h'⟩, hvp⟩ := relevant_newest.mpr h
        exact ⟨⟨hm, hge, vpOk_prefix hvp, h'⟩, hvp⟩
    | true =>
      have hcore := mem_seekPrefix_window hs readTs o.sinceTs hok.1
      refine scanOut_of_spec (R := fun a b => entCmp a b = .lt)
        (S := ((seekFrom M false readTs (seekKeyOf o seek)).takeWhile
          (fun e => o.prefix_.isPrefixOf e.key)).filter (inWindow readTs o.sinceTs))
        (by unfold scanOut; rw [C05_allversions M o readTs now _ seek hall hnS (by omega), seekList_eq, hrev]; rfl)
        (hs.sublist (List.filter_sublist.trans ((List.takeWhile_sublist _).trans (seekFrom_sublist M false _ _))))
        (fun a ha b hab hb => closure_fwd o a b ((hcore a).mp ha).1.2.2 hab hb) fun x => ?_
      rw [hcore]
      simp only [scanMem, seekSide, hrev, hall, Bool.false_eq_true, if_false, true_or, and_true,
        List.mem_filter, relevant, Bool.and_eq_true]
      constructor
      · rintro ⟨⟨⟨hm, hge, _⟩, hw⟩, hvp⟩; exact ⟨⟨hm, hw, hvp⟩, hge⟩
      · rintro ⟨⟨hm, hw, hvp⟩, hge⟩; exact ⟨⟨⟨hm, hge, vpOk_prefix hvp⟩, hw⟩, hvp⟩
  | true =>
    simp only [if_true]
    have hside := mem_seekFrom_rev hs readTs (seekKeyOf o seek)
    cases hall : o.allVersions with
    | false =>
      have hmem := mem_specScanRev hs readTs o.sinceTs now (seekKeyOf o seek)
      refine scanOut_of_spec (R := fun a b => entCmp b a = .lt)
        (by unfold scanOut
            rw [C05_reverse M o readTs now _ seek hs hrev hall (hn.of_mem fun x hx => List.mem_reverse.mp hx)
              (by omega)])
        ((sortedDesc_reverse hs).sublist (specScanRev_sublist ..))
        (fun a ha b hab hb => closure_rev o seek hok hrev a b ((hmem a).mp ha).2.1 hab hb) fun x => ?_
      rw [hmem]
      simp only [scanMem, seekSide, hrev, hall, Bool.false_eq_true, if_true, false_or]
      exact relevant_newest
    | true =>
      refine scanOut_of_spec (R := fun a b => entCmp b a = .lt)
        (S := (seekFrom M true readTs (seekKeyOf o seek)).filter (inWindow readTs o.sinceTs))
        (by unfold scanOut; rw [C05_allversions M o readTs now _ seek hall hnS (by omega), seekList_eq, hrev]; rfl)
        ((sortedDesc_reverse hs).sublist (List.filter_sublist.trans (seekFrom_sublist M true _ _)))
        (fun a ha b hab hb => closure_rev o seek hok hrev a b ((hside a).mp (List.mem_filter.mp ha).1).2 hab hb)
        fun x => ?_
      simp only [List.mem_filter, hside, scanMem, seekSide, hrev, hall, if_true, true_or, and_true, relevant,
        Bool.and_eq_true]
      constructor
      · rintro ⟨⟨⟨hm, hle⟩, hw⟩, hvp⟩; exact ⟨⟨hm, hw, hvp⟩, hle⟩
      · rintro ⟨⟨hm, hw, hvp⟩, hle⟩; exact ⟨⟨⟨hm, hle⟩, hw⟩, hvp⟩

/-- **the result of a scan is a function of the relevant part of the stream** -/
theorem scanOut_congr (o : IterOpts) (readTs now : Nat) (seek : Option Bytes) (M1 M2 : List Ent)
    (hs1 : SortedEnts M1) (hs2 : SortedEnts M2) (hn1 : NoHidden o M1) (hn2 : NoHidden o M2)
    (hok : PickOk o seek) (hW : M1.filter (relevant o readTs) = M2.filter (relevant o readTs)) :
    scanOut o readTs now seek M1 = scanOut o readTs now seek M2 := by
  obtain ⟨p1, m1⟩ := scanOut_char o readTs now seek M1 hs1 hn1 hok
  obtain ⟨p2, m2⟩ := scanOut_char o readTs now seek M2 hs2 hn2 hok
  have hm : ∀ x, x ∈ scanOut o readTs now seek M1 ↔ x ∈ scanOut o readTs now seek M2 := by
    intro x; rw [m1, m2, hW]
  cases hrev : o.reverse with
  | false =>
    simp only [hrev, Bool.false_eq_true, if_false] at p1 p2
    exact pairwise_ext (R := fun a b => entCmp a b = .lt) (fun _ _ => entCmp_lt_asymm) p1 p2 hm
  | true =>
    simp only [hrev, if_true] at p1 p2
    exact pairwise_ext (R := fun a b => entCmp b a = .lt) (fun _ _ => entCmp_lt_asymm) p1 p2 hm

/-- no source holds an entry hidden as internal -/
def NoHiddenSrc (o : IterOpts) (srcs : List (List Ent)) : Prop :=
  o.internalAccess = true ∨ ∀ src ∈ srcs, ∀ e ∈ src, badgerPrefix.isPrefixOf e.ikey = false

theorem NoHiddenSrc.merged {o : IterOpts} {srcs : List (List Ent)} (h : NoHiddenSrc o srcs) :
    NoHidden o (mergeAll srcs) := by
  rcases h with h | h
  · exact .inl h
  · right
    intro e he
    obtain ⟨src, hsrc, hes⟩ := mem_mergeAll_imp he
    exact h src hsrc e hes

/-- **Table picking is invisible**: under `LsmInv`, a bloom answer without false negatives and
    the side conditions `PickOk` (seek key has the prefix; reverse key iterator seeks the key
    itself), the iterator over the picked tables yields exactly what the iterator over all
    sources yields — forward, reverse, `AllVersions`, key iterators, any `SinceTs`. -/
theorem C05_iteratePicked_eq (d : Db) (id : Nat) (o : IterOpts) (seek : Option Bytes) (dnh : Tbl → Bool)
    (hinv : LsmInv d.lsm) (hb : BloomSound o dnh) (hok : PickOk o seek)
    (hn : ∀ t, d.findTxn id = some t → NoHiddenSrc o (pendingSource t :: d.lsm.sources)) :
    d.iteratePicked id o seek dnh = d.iterate id o seek := by
  cases ht : d.findTxn id with
  | none => simp only [Db.iteratePicked, Db.iterate, ht]
  | some t =>
    rw [iterate_eq o seek ht, show d.iteratePicked id o seek dnh = some (scanOut o t.readTs d.now seek
      (mergeAll (pendingSource t :: d.lsm.pickedSources o dnh))) by simp only [Db.iteratePicked, ht, scanOut]]
    congr 1
    have hn1 := hn t ht
    have hn2 : NoHiddenSrc o (pendingSource t :: d.lsm.pickedSources o dnh) := by
      rcases hn1 with h | h
      · exact .inl h
      · right
        intro src hsrc e he
        rcases List.mem_cons.mp hsrc with rfl | hsrc
        · exact h _ (List.mem_cons_self ..) e he
        · obtain ⟨src', hs', hsub⟩ := pickedSources_sublist hsrc
          exact h src' (List.mem_cons_of_mem _ hs') e (hsub.subset he)
    exact scanOut_congr o t.readTs d.now seek _ _ (iterStream_sorted t (pickedSources_sorted hinv o dnh))
      (iterStream_sorted t (sources_sorted hinv)) hn2.merged hn1.merged hok
      (relevant_stream_eq hinv o dnh t.readTs hb _ (pendingSource_sorted t))

/-- `pickTables` is complete: a table of a well-formed level that is not picked holds no
    relevant entry. -/
theorem C05_pickTables_complete (o : IterOpts) (dnh : Tbl → Bool) (readTs : Nat) (i : Nat)
    (tbls : List Tbl) (hi : 1 ≤ i) (hok : LevelOk i tbls) (hb : BloomSound o dnh) (t : Tbl)
    (ht : t ∈ tbls) (hnp : t ∉ pickTables o dnh tbls) :
    ∀ e ∈ t.ents, relevant o readTs e = false := by
  rw [C05_pickTables_eq_filter o dnh tbls (fun t ht => (hok.1 t ht).1) (hok.2 hi)] at hnp
  have hp : pickTable o dnh t = false := by
    cases h : pickTable o dnh t with
    | false => rfl
    | true => exact absurd (List.mem_filter.mpr ⟨ht, h⟩) hnp
  exact C05_pickTable_complete o dnh readTs t (hok.1 t ht).2 hb hp

/-- `Rewind` (and `Seek` with an empty key) always satisfies the side conditions, except for a
    reverse key iterator on the empty key. -/
theorem C05_pickOk_rewind (o : IterOpts) (seek : Option Bytes) (h : seek = none ∨ seek = some [])
    (hk : o.prefixIsKey = true → o.reverse = true → o.prefix_ ≠ []) : PickOk o seek := by
  refine ⟨C05_rewind_key o seek h, fun h1 h2 => ⟨?_, hk h1 h2⟩⟩
  rcases h with rfl | rfl <;> simp [seekKeyOf]

/-- a state with two level-0 tables `{a@1}` (older) and `{b@1}` (newer) and a read-only
    transaction at read timestamp 1 -/
def pickExDb : Db :=
  { opts := {}, nextTs := 2,
    lsm := { mem := [], imm := [],
             levels := [[{ ents := [⟨[0x61], 1, 0, 0, 0, [1]⟩], id := 1 },
                         { ents := [⟨[0x62], 1, 0, 0, 0, [2]⟩], id := 2 }], []] },
    txns := [{ id := 1, readTs := 1, update := false }] }

example : LsmInv pickExDb.lsm := by decide

theorem pickEx_streams :
    mergeAll ([] :: pickExDb.lsm.sources) =
      [⟨[0x61], 1, 0, 0, 0, [1]⟩, ⟨[0x62], 1, 0, 0, 0, [2]⟩] ∧
    mergeAll ([] :: pickExDb.lsm.pickedSources { prefix_ := [0x62] } (fun _ => false)) =
      [⟨[0x62], 1, 0, 0, 0, [2]⟩] := by
  have h1 : pickExDb.lsm.sources =
      [[], [⟨[0x62], 1, 0, 0, 0, [2]⟩], [⟨[0x61], 1, 0, 0, 0, [1]⟩], []] := by decide
  have h2 : pickExDb.lsm.pickedSources { prefix_ := [0x62] } (fun _ => false) =
      [[], [⟨[0x62], 1, 0, 0, 0, [2]⟩], []] := by decide
  rw [h1, h2]
  constructor <;> simp [mergeAll, merge2, entCmp, kvCmp, cmpBytes]

/-- **Outside the side conditions the two scans differ** (forward `Seek("a")` with prefix `"b"`):
    the unfiltered scan stops at once at `a` (no prefix), the picked scan never sees table `{a}`
    and yields `b`. The code behaves like `iteratePicked`. -/
theorem C05_pick_differs_outside :
    pickExDb.iterate 1 { prefix_ := [0x62] } (some [0x61]) = some [] ∧
    pickExDb.iteratePicked 1 { prefix_ := [0x62] } (some [0x61]) (fun _ => false) =
      some [⟨[0x62], 1, 0, 0, 0, [2]⟩] ∧
    ¬ PickOk { prefix_ := [0x62] } (some [0x61]) := by
  have e1 : pickExDb.iterate 1 { prefix_ := [0x62] } (some [0x61]) =
      some (scanOut { prefix_ := [0x62] } 1 0 (some [0x61]) (mergeAll ([] :: pickExDb.lsm.sources))) := rfl
  have e2 : pickExDb.iteratePicked 1 { prefix_ := [0x62] } (some [0x61]) (fun _ => false) =
      some (scanOut { prefix_ := [0x62] } 1 0 (some [0x61])
        (mergeAll ([] :: pickExDb.lsm.pickedSources { prefix_ := [0x62] } (fun _ => false)))) := rfl
  rw [e1, e2, pickEx_streams.1, pickEx_streams.2]
  refine ⟨by decide, by decide, ?_⟩
  simp [PickOk, seekKeyOf]

-- non-vacuity of `C05_iteratePicked_eq`: the same state, `Rewind` with prefix "b" — every
-- hypothesis holds (table `{a}` is not picked), so the two iterators agree.
example :
    pickExDb.iteratePicked 1 { prefix_ := [0x62] } none (fun _ => false) =
      pickExDb.iterate 1 { prefix_ := [0x62] } none :=
  C05_iteratePicked_eq pickExDb 1 { prefix_ := [0x62] } none (fun _ => false) (by decide)
    (fun _ h => by cases h) (C05_pickOk_rewind _ none (.inl rfl) (fun h => by cases h))
    (fun t ht => .inr (by
      have : t = { id := 1, readTs := 1, update := false } := by
        have h : pickExDb.findTxn 1 = some { id := 1, readTs := 1, update := false } := rfl
        rw [h] at ht; exact (Option.some.inj ht).symm
      subst this; decide))

example : pickTable { prefix_ := [0x62] } (fun _ => false) { ents := [⟨[0x61], 1, 0, 0, 0, [1]⟩] } = false ∧
    pickTable { prefix_ := [0x62] } (fun _ => false) { ents := [⟨[0x62, 0x00], 1, 0, 0, 0, [1]⟩] } = true ∧
    pickTable { sinceTs := 5 } (fun _ => false) { ents := [⟨[0x62], 4, 0, 0, 0, [1]⟩] } = false ∧
    pickTable { sinceTs := 5 } (fun _ => false) { ents := [⟨[0x62], 5, 0, 0, 0, [1]⟩] } = true := by decide

end Badger
