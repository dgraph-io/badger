import BadgerProofs.Props.C08
/-!
# C11 — commits after any re-open get timestamps above every stored version

`Open` sets `nextTxnTs` to one more than the largest version it finds: in the tables of the
MANIFEST (`Table.MaxVersion`) and in the replayed WALs, where only *complete* transactions
count (`memTable.maxVersion` is raised by the replay function, which `logFile.iterate` calls
for complete transactions only).

* `C11_open_ts` — for every directory image whatsoever (clean close, kill, power loss, read-only
  or read-write): if `Open` succeeds, every entry it finds has a version below `nextTxnTs`.
* `C11_after_crash` — in particular after a kill at any point of any history (with C08).
* `C11_shadow` — the first transaction committed after the re-open is stamped with a version
  above every stored version of every key (the statement is this inequality of versions; that the
  newest version is the one a read returns is C01).
-/
namespace Badger

theorem C11_open_ts (ro : Bool) (img : Image) (r : RState) (h : recover ro img = .ok r) :
    ∀ e ∈ r.entries, e.ver < r.nextTxnTs := by
  intro e he
  rw [recover_ok_nextTs h]
  rcases List.mem_append.mp he with he | he
  · exact Nat.lt_succ_of_le (Nat.le_trans (maxVer_ge _ e he) (Nat.le_max_left _ _))
  · exact Nat.lt_succ_of_le (Nat.le_trans (maxVer_ge _ e he) (Nat.le_max_right _ _))

theorem C11_after_crash (R : ViewRel) (c : Cfg) (h : List Sched) (hok : SchedHistOk R (MState.init c).p h) :
    ∃ r, recover false (crashKill ((MState.init c).exec h).fs) = .ok r ∧ ∀ e ∈ r.entries, e.ver < r.nextTxnTs := by
  obtain ⟨r, hr, _⟩ := C08_kill_safe R c h hok
  exact ⟨r, hr, C11_open_ts false _ r hr⟩

/-- the logical state `Open` starts from (`db.orc.nextTxnTs`, the new memtable, the tables), as far as
    `stamp` reads it: `nextTs` and `vfid`. The rest is a sketch: each replayed memtable is one
    transaction with `ts := 0`, and `commits` is empty. -/
def stateAfterOpen (c : Cfg) (r : RState) : PState :=
  { cfg := c, nextTs := r.nextTxnTs, cur := r.nextMemFid, nextMem := r.nextMemFid + 1,
    imm := r.imms.map (·.1),
    mtxns := r.imms.map (fun x => (x.1, [{ ts := 0, ents := x.2 }])),
    nextSst := r.nextSstId,
    tset := r.tables.map (fun t => (t.id, t.level)),
    tcont := r.tables.map (fun t => (t.id, t.ents)),
    vfid := r.vlogFid }

theorem C11_shadow (ro : Bool) (img : Image) (r : RState) (c : Cfg) (h : recover ro img = .ok r)
    (ents : List CEnt) :
    ∀ n ∈ stamp (stateAfterOpen c r) ents, ∀ e ∈ r.entries, e.ver < n.ver := by
  intro n hn e he
  have := C11_open_ts ro img r h e he
  simp only [stamp, List.mem_map] at hn
  obtain ⟨x, _, hx⟩ := hn
  subst hx
  exact this

/-- non-vacuity: a directory holding a table with version 7 and a WAL with one complete
    (version 9) and one incomplete (version 12) transaction re-opens with `nextTxnTs = 10` -/
def demoImage : Image :=
  [(.manifest, { chunks := [.mhdr, .mset [.create 1 0]], size := .tight }),
   (.sst 1, { chunks := [.table [{ key := [1], ver := 7, del := false, val := [1] }]], size := .alloc }),
   (.mem 3, { chunks := [.hdr, .walEnt 9 { key := [2], ver := 9, del := false, val := [2] }, .walFin 9,
                         .walEnt 12 { key := [3], ver := 12, del := false, val := [3] }], size := .alloc }),
   (.vlog 1, { chunks := [.hdr], size := .alloc })]

example : (match recover false demoImage with
    | .ok r => (r.nextTxnTs, r.entries.map (·.ver))
    | .error _ => (0, [])) = (10, [9, 7]) := by decide

end Badger
