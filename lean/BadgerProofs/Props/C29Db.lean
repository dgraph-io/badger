import BadgerProofs.Props.C01Db
import BadgerProofs.Props.C29
/-!
# C29 at database level: `DropAll` as a step of every history

`DbReach.dropall` (Props/C01Db.lean) makes `DB.DropAll` (`Db.dropAll`, the function the mvcc driver
runs for the `dropall` op) a step of the composed reachability relation: the tree is emptied, the
oracle / watermarks / open transactions stay, and the committed history starts afresh.  Hence every
theorem over `DbReach` holds for histories that contain any number of DropAll calls anywhere.  The
corollaries below are the C29 clauses "after DropAll the database is empty" and "the database keeps
accepting writes afterwards".
-/
namespace Badger

/-- **after DropAll the database is empty**: nothing is stored -/
theorem C29_db_dropall_nothing_stored (d : Db) : d.dropAll.lsm.allEntries = [] :=
  C29_dropAll_empty d.lsm

/-- **after DropAll the database is empty**: every `Get` of every transaction (open before the drop or begun after it) that has no
    pending write of the key answers "not found" in the state right after the drop (`C01_db_snapshot` over
    the history that starts afresh). -/
theorem C29_db_dropall_reads_empty {o : Opts} {hist : List Ent} {d : Db} (hm : o.managed = false)
    (hmem : o.inMemory = false) (r : DbReach o hist d) {id : Nat} {t : TxnM} {k : Bytes}
    (hf : d.dropAll.findTxn id = some t) (hk : k.isEmpty = false) (hdisc : t.discarded = false)
    (hpend : (if t.update then t.pending.find? (·.key == k) else none) = none) :
    (d.dropAll.txnGet id k).2 = .notfound := by
  rw [C01_db_snapshot hm (DbReach.dropall r hmem) hf hk hdisc hpend]
  rfl

/-- **the database keeps accepting writes**: the commit after a DropAll gets a timestamp above every
    version committed before the drop as well (timestamps do not restart). -/
theorem C29_db_dropall_commit_fresh {o : Opts} {hist : List Ent} {d : Db} (hm : o.managed = false)
    (hmem : o.inMemory = false) (r : DbReach o hist d) (id : Nat) :
    ∀ e ∈ d.dropAll.commitHist id, (∀ x ∈ hist, x.ver < e.ver) ∧ e.ver = d.nextTs := by
  intro e he
  have hv : e.ver = d.nextTs := (C03_db_commit_fresh hm (DbReach.dropall r hmem) id e he).1
  exact ⟨fun x hx => hv ▸ (DbL.inv_of_reach hm r).l.histLt x hx, hv⟩

end Badger
