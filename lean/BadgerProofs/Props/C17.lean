import BadgerProofs.Lemmas.AuxManifest
import BadgerProofs.Lemmas.AuxPb
/-!
# C17 — MANIFEST replay reconstructs the table map exactly (`manifest.go`).

Parameters of the theorems (except those about the concrete `pbCodec`: `C17_pbCodec_valid`,
`…_pb`, the F16 witness): a `Codec` (`crc`, protobuf `enc`/`dec`, Go map order `ord`) with
the contracts `Codec.Valid` (`crc < 2^32`, `dec (enc cs) = some cs` for sets whose fields fit
their Go types, `ord` permutes). The concrete codec of the driver (real protobuf wire format,
bit-level CRC32-C) satisfies them: `C17_pbCodec_valid`.

The model compares a frame's length field with the bytes left in the file: a longer record is a
torn tail. `C17_F16_regression_witness` is an input on which comparing it with `uint32(file size)`
instead (finding F16) reports an error where there is only a truncation.

The theorems about cuts and bad checksums are `replay_frames_tail` (header ++ complete frames ++ `t`
replays like `t` from the manifest of the frames) followed by one step; the exactness theorems are
`MFile.Inv` kept along `runSteps` (appends, rewrites, crashes with reopen).
-/
namespace Badger

def manifestFileOf (cd : Codec) (ext : Nat) (sets : List ChangeSet) : Bytes :=
  manifestHeader ext ++ framesOf cd sets

theorem manifestFileOf_snoc (cd : Codec) (ext : Nat) (pre : List ChangeSet) (last : ChangeSet) :
    manifestFileOf cd ext (pre ++ [last]) = manifestFileOf cd ext pre ++ frame cd (cd.enc last) := by
  simp [manifestFileOf, framesOf_append, framesOf_cons]

theorem enc_last_lt (cd : Codec) (ext : Nat) (pre : List ChangeSet) (last : ChangeSet)
    (hsz : (manifestFileOf cd ext (pre ++ [last])).length < 2 ^ 32) : (cd.enc last).length < 2 ^ 32 := by
  rw [manifestFileOf_snoc, List.length_append, frame_length] at hsz
  omega

theorem replay_frames_tail (cd : Codec) (hv : cd.Valid) (ext : Nat) (hext : ext < 2 ^ 16)
    (pre : List ChangeSet) (t : Bytes) (m : Manifest)
    (hall : applyAll Manifest.empty pre = some m) (hrange : ∀ s, s ∈ pre → ChangeSet.InRange s)
    (hsize : (manifestFileOf cd ext pre ++ t).length < 2 ^ 32) :
    replay cd (manifestFileOf cd ext pre ++ t) ext =
      replayRest cd t (manifestFileOf cd ext pre).length m := by
  unfold manifestFileOf at *
  rw [List.append_assoc, replay_header cd ext hext, List.length_append, manifestHeader_length]
  apply replayRest_frames cd hv pre t 8 Manifest.empty m hall hrange
  simp only [List.length_append] at hsize
  omega

/-- What `C17_atomic_sets`, `C17_trunc` and reopening after a crash have in common: whatever torn
    tail follows the complete frames is dropped. -/
theorem replay_torn (cd : Codec) (hv : cd.Valid) (ext : Nat) (hext : ext < 2 ^ 16)
    (sets : List ChangeSet) (t : Bytes) (m : Manifest)
    (hall : applyAll Manifest.empty sets = some m) (hrange : ∀ s, s ∈ sets → ChangeSet.InRange s)
    (ht : TornTail t) (hsize : (manifestFileOf cd ext sets ++ t).length < 2 ^ 32) :
    replay cd (manifestFileOf cd ext sets ++ t) ext = .ok (m, (manifestFileOf cd ext sets).length) := by
  rw [replay_frames_tail cd hv ext hext sets t m hall hrange hsize, replayRest_torn cd t _ m ht]

/-- **Atomicity of change sets.** Take the file of `pre ++ [cs] ++ …` and cut it `k` bytes into
    the frame of `cs` (`k = 0`: exactly at a frame boundary; `k` strictly less than the frame
    length). Replay succeeds with exactly the sets `pre` applied — nothing of `cs` — and the
    truncation offset is the end of the last complete frame. (`hl32`: the length field is a
    `uint32`.) -/
theorem C17_atomic_sets (cd : Codec) (hv : cd.Valid) (ext : Nat) (hext : ext < 2 ^ 16)
    (pre : List ChangeSet) (cs : ChangeSet) (k : Nat) (m : Manifest)
    (hall : applyAll Manifest.empty pre = some m) (hrange : ∀ s, s ∈ pre → ChangeSet.InRange s)
    (hk : k < (frame cd (cd.enc cs)).length)
    (hsize : (manifestFileOf cd ext pre ++ (frame cd (cd.enc cs)).take k).length < 2 ^ 32)
    (hl32 : (cd.enc cs).length < 2 ^ 32) :
    replay cd (manifestFileOf cd ext pre ++ (frame cd (cd.enc cs)).take k) ext =
      .ok (m, (manifestFileOf cd ext pre).length) :=
  replay_torn cd hv ext hext pre _ m hall hrange (tornTail_take_frame cd _ k hk hl32) hsize

/-- **Truncated tail.** The file of `pre ++ [last]` cut anywhere inside the frame of `last`:
    replay returns the manifest of `pre` and the end of the last complete frame. -/
theorem C17_trunc (cd : Codec) (hv : cd.Valid) (ext : Nat) (hext : ext < 2 ^ 16)
    (pre : List ChangeSet) (last : ChangeSet) (c : Nat) (m : Manifest)
    (hall : applyAll Manifest.empty pre = some m) (hrange : ∀ s, s ∈ pre → ChangeSet.InRange s)
    (hc1 : (manifestFileOf cd ext pre).length ≤ c)
    (hc2 : c < (manifestFileOf cd ext (pre ++ [last])).length)
    (hsize : c < 2 ^ 32) (hl32 : (cd.enc last).length < 2 ^ 32) :
    replay cd ((manifestFileOf cd ext (pre ++ [last])).take c) ext =
      .ok (m, (manifestFileOf cd ext pre).length) := by
  rw [manifestFileOf_snoc] at hc2 ⊢
  rw [List.take_append, List.take_of_length_le hc1]
  rw [List.length_append] at hc2
  exact C17_atomic_sets cd hv ext hext pre last _ m hall hrange (by omega)
    (by rw [List.length_append, List.length_take]; omega) hl32

/-- **Every** cut inside the last frame is a truncation (the only hypothesis beyond
    well-formedness is that the MANIFEST is smaller than 4 GiB, the range of the `uint32` length
    field). False for the length check of finding F16. -/
def C17_truncStatement (cd : Codec) : Prop :=
  ∀ (ext : Nat) (pre : List ChangeSet) (last : ChangeSet) (c : Nat) (m : Manifest),
    ext < 2 ^ 16 → applyAll Manifest.empty pre = some m →
    (∀ s, s ∈ pre → ChangeSet.InRange s) → ChangeSet.InRange last →
    (manifestFileOf cd ext (pre ++ [last])).length < 2 ^ 32 →
    (manifestFileOf cd ext pre).length ≤ c → c < (manifestFileOf cd ext (pre ++ [last])).length →
    replay cd ((manifestFileOf cd ext (pre ++ [last])).take c) ext =
      .ok (m, (manifestFileOf cd ext pre).length)

theorem C17_trunc_all (cd : Codec) (hv : cd.Valid) : C17_truncStatement cd := by
  intro ext pre last c m hext hall hrange _ hsz hc1 hc2
  exact C17_trunc cd hv ext hext pre last c m hall hrange hc1 hc2 (by omega)
    (enc_last_lt cd ext pre last hsz)

/-- **Checksum mismatch.** After any complete frames, a frame whose stored CRC differs from the
    CRC of its payload (e.g. because payload bytes were altered) makes replay return the
    checksum error; no manifest is returned, so nothing of that set (or of the earlier ones)
    is applied. Whatever follows the frame is irrelevant. -/
theorem C17_checksum_error (cd : Codec) (hv : cd.Valid) (ext : Nat) (hext : ext < 2 ^ 16)
    (pre : List ChangeSet) (payload rest : Bytes) (storedCrc : Nat) (m : Manifest)
    (hall : applyAll Manifest.empty pre = some m) (hrange : ∀ s, s ∈ pre → ChangeSet.InRange s)
    (hc32 : storedCrc < 2 ^ 32)
    (hsize : (manifestFileOf cd ext pre ++ (rawFrame payload.length storedCrc payload ++ rest)).length < 2 ^ 32)
    (hbad : cd.crc payload ≠ storedCrc) :
    replay cd (manifestFileOf cd ext pre ++ (rawFrame payload.length storedCrc payload ++ rest)) ext =
      .error .badChecksum := by
  rw [replay_frames_tail cd hv ext hext pre _ m hall hrange hsize]
  have hp : payload.length < 2 ^ 32 := by
    simp only [List.length_append, rawFrame_length] at hsize
    omega
  rw [replayRest_rawFrame cd _ _ _ _ _ _ rfl hp hc32, if_pos hbad]

/-- A sequence of `addChanges` calls none of which returns an error. -/
def runAdds (cd : Codec) (mf : MFile) : List ChangeSet → Option MFile
  | [] => some mf
  | cs :: rest =>
    match mf.addChanges cd cs with
    | (mf', none) => runAdds cd mf' rest
    | (_, some _) => none

/-- Invariant of a `manifestFile` with external magic `ext`: the file is a header followed by
    frames of change sets that replay (from the empty manifest) to the in-memory manifest.
    `lv`: the per-level id sets are kept too (needs creates with small levels); `cn`: the counters
    are compared too (lost at a reopen). -/
def MFile.Inv (cd : Codec) (ext : Nat) (lv cn : Bool) (mf : MFile) : Prop :=
  mf.ext = ext ∧ ext < 2 ^ 16 ∧
  ∃ fsets m', mf.file = manifestFileOf cd ext fsets ∧
    applyAll Manifest.empty fsets = some m' ∧ (∀ s, s ∈ fsets → ChangeSet.InRange s) ∧
    m'.EquivC cn mf.manifest ∧ mf.manifest.WF ∧
    (lv = true → m'.LevelsOK ∧ mf.manifest.LevelsOK) ∧
    mf.pos = mf.file.length      -- the descriptor is at the end of the file: the next write appends

theorem MFile.create_manifest (cd : Codec) (hv : cd.Valid) (ext : Nat) (t : Int) :
    (MFile.create cd ext t).manifest = Manifest.empty := by
  simp only [MFile.create, Manifest.clone, asChanges_empty cd hv, applyChangeSet]

theorem MFile.create_inv (cd : Codec) (hv : cd.Valid) (lv cn : Bool) (ext : Nat) (hext : ext < 2 ^ 16) (t : Int) :
    (MFile.create cd ext t).Inv cd ext lv cn := by
  refine ⟨rfl, hext, [[]], Manifest.empty, ?_, rfl, List.forall_mem_singleton.mpr (fun _ hc => nomatch hc),
    ?_, ?_, ?_, rfl⟩
  · simp [MFile.create, rewriteFile, manifestFileOf, framesOf, asChanges_empty cd hv]
  all_goals rw [MFile.create_manifest cd hv]
  · exact (Manifest.Equiv.refl _).toC cn
  · exact Manifest.WF_empty
  · exact fun _ => ⟨Manifest.LevelsOK_empty, Manifest.LevelsOK_empty⟩

theorem MFile.addChanges_inv (cd : Codec) (hv : cd.Valid) (ext : Nat) (lv cn : Bool) (mf mf' : MFile)
    (cs : ChangeSet) (hcs : ChangeSet.InRange cs) (hsl : lv = true → ∀ c, c ∈ cs → c.SmallLevel)
    (hinv : mf.Inv cd ext lv cn) (hadd : mf.addChanges cd cs = (mf', none)) : mf'.Inv cd ext lv cn := by
  obtain ⟨rfl, hext, fsets, m', hfile, hall, hfr, heq, hw, hlv, hpos⟩ := hinv
  revert hadd
  fun_cases MFile.addChanges cd mf cs <;> intro hadd <;> cases hadd  -- case1, the set is rejected: not `hadd`
  case case2 m1 happ _ =>  -- rewrite
    have hw1 : m1.WF := applyChangeSet_WF cs hcs hw happ
    obtain ⟨m2, h2, _, hl2, heq2⟩ := applyChangeSet_asChanges cd hv m1 hw1
    refine ⟨rfl, hext, [asChanges cd m1], m2, ?_, ?_, List.forall_mem_singleton.mpr (asChanges_inRange cd hv m1 hw1),
      heq2.toC cn, ⟨hw1.nodup, hw1.level_lt, hw1.range⟩, fun hl =>
        ⟨hl2, (applyChangeSet_LevelsOK cs (hsl hl) (hlv hl).2 happ : m1.LevelsOK)⟩, rfl⟩
    · simp [rewriteFile, manifestFileOf, framesOf]
    · simp [applyAll, h2]
  case case3 m1 happ _ =>  -- append
    obtain ⟨m1', happ', heq1⟩ := applyChangeSet_congrC cs cn heq.symm happ
    refine ⟨rfl, hext, fsets ++ [cs], m1', ?_, ?_, List.forall_mem_append.mpr ⟨hfr, List.forall_mem_singleton.mpr hcs⟩,
      heq1.symm, applyChangeSet_WF cs hcs hw happ, fun hl => ⟨applyChangeSet_LevelsOK cs (hsl hl) (hlv hl).1 happ',
        applyChangeSet_LevelsOK cs (hsl hl) (hlv hl).2 happ⟩, ?_⟩
    · rw [hpos, writeAt_end, hfile, manifestFileOf_snoc]
    · rw [applyAll_append, hall]
      simp [applyAll, happ']
    · rw [hpos, writeAt_end, List.length_append]

instance (t : Bytes) : Decidable (TornTail t) := by unfold TornTail; infer_instance

/-- A step of a longer history: an accepted `addChanges`, or a crash that leaves `tail` (a torn
    record: `TornTail`) behind the last complete frame, followed by a reopen
    (`helpOpenOrCreateManifestFile`: replay, truncate, seek to the end, clone). -/
inductive MStep where
  | add (cs : ChangeSet)
  | crashReopen (tail : Bytes)

def runSteps (cd : Codec) (mf : MFile) : List MStep → Option MFile
  | [] => some mf
  | .add cs :: rest =>
    match mf.addChanges cd cs with
    | (mf', none) => runSteps cd mf' rest
    | (_, some _) => none
  | .crashReopen tail :: rest =>
    if TornTail tail ∧ (mf.file ++ tail).length < 2 ^ 32 then
      match MFile.openExisting cd (mf.file ++ tail) mf.ext mf.threshold with
      | .ok (mf', _) => runSteps cd mf' rest
      | .error _ => none
    else none

theorem runAdds_eq_runSteps (cd : Codec) (mf : MFile) (sets : List ChangeSet) :
    runAdds cd mf sets = runSteps cd mf (sets.map .add) := by
  induction sets generalizing mf with
  | nil => rfl
  | cons cs sets ih =>
    simp only [runAdds, List.map_cons, runSteps]
    rcases mf.addChanges cd cs with ⟨mf1, _ | e⟩
    · exact ih mf1
    · rfl

theorem MFile.reopen_inv (cd : Codec) (hv : cd.Valid) (ext : Nat) (lv cn : Bool) (mf : MFile) (tail : Bytes)
    (hinv : mf.Inv cd ext lv cn) (htorn : TornTail tail) (hsize : (mf.file ++ tail).length < 2 ^ 32) :
    ∃ mf' m, MFile.openExisting cd (mf.file ++ tail) mf.ext mf.threshold = .ok (mf', m) ∧
      mf'.Inv cd ext lv false := by
  obtain ⟨rfl, hext, fsets, m', hfile, hall, hfr, heq, _, hlv, hpos⟩ := hinv
  have hw' := applyAll_WF fsets hfr Manifest.WF_empty hall
  have hrep : replay cd (mf.file ++ tail) mf.ext = .ok (m', mf.file.length) := by
    rw [hfile] at hsize ⊢
    exact replay_torn cd hv mf.ext hext fsets tail m' hall hfr htorn hsize
  obtain ⟨m1, h1, hw1, hl1, heq1⟩ := applyChangeSet_asChanges cd hv m' hw'
  have hclone : m'.clone cd = m1 := by unfold Manifest.clone; rw [h1]
  refine ⟨{ file := mf.file, manifest := m1, threshold := mf.threshold, ext := mf.ext, pos := mf.file.length },
    m', ?_, rfl, hext, fsets, m', hfile, hall, hfr, ?_, hw1, ?_, rfl⟩
  · unfold MFile.openExisting
    rw [hrep]
    simp only [List.take_left' rfl, hclone]
  · exact ⟨fun id => (heq1.1 id).symm, fun hc => by cases hc⟩
  · exact fun hl => ⟨(hlv hl).1, hl1⟩

theorem runSteps_inv (cd : Codec) (hv : cd.Valid) (ext : Nat) (lv cn : Bool) (mf mf' : MFile) (steps : List MStep)
    (hsets : ∀ cs, MStep.add cs ∈ steps → ChangeSet.InRange cs)
    (hsl : lv = true → ∀ cs, MStep.add cs ∈ steps → ∀ c, c ∈ cs → c.SmallLevel)
    (hcn : cn = true → ∀ t, MStep.crashReopen t ∉ steps)
    (hinv : mf.Inv cd ext lv cn) (hrun : runSteps cd mf steps = some mf') : mf'.Inv cd ext lv cn := by
  fun_induction runSteps cd mf steps with
  | case1 mf =>  -- no step left
    cases hrun
    exact hinv
  | case2 mf cs rest mf1 hadd ih =>  -- `addChanges` accepts
    exact ih (fun s hs => hsets s (by simp [hs])) (fun hl s hs => hsl hl s (by simp [hs]))
      (fun hc t ht => hcn hc t (by simp [ht]))
      (MFile.addChanges_inv cd hv ext lv cn mf mf1 cs (hsets cs (by simp)) (fun hl => hsl hl cs (by simp)) hinv hadd)
      hrun
  | case4 mf tail rest hc mf1 m hopen ih =>  -- crash and reopen
    -- a reopened handle restarts its counters: only for `cn = false`
    obtain rfl : cn = false := by
      cases cn
      · rfl
      · exact absurd (List.mem_cons_self ..) (hcn rfl tail)
    obtain ⟨mf2, m2, hopen2, h1⟩ := MFile.reopen_inv cd hv ext lv false mf tail hinv hc.1 hc.2
    cases hopen.symm.trans hopen2
    exact ih (fun s hs => hsets s (by simp [hs])) (fun hl s hs => hsl hl s (by simp [hs])) nofun h1 hrun
  | case3 | case5 | case6 => cases hrun  -- the run stops: `addChanges` rejects, the reopen fails, the tail is not torn

/-- The `C17_replay_exact*` theorems at once (`lv`, `cn` as in `MFile.Inv`). -/
theorem runSteps_replay_exact (cd : Codec) (hv : cd.Valid) (lv cn : Bool) (ext : Nat) (hext : ext < 2 ^ 16)
    (threshold : Int) (steps : List MStep) (mf : MFile)
    (hsets : ∀ cs, MStep.add cs ∈ steps → ChangeSet.InRange cs)
    (hsl : lv = true → ∀ cs, MStep.add cs ∈ steps → ∀ c, c ∈ cs → c.SmallLevel)
    (hcn : cn = true → ∀ t, MStep.crashReopen t ∉ steps)
    (hrun : runSteps cd (MFile.create cd ext threshold) steps = some mf)
    (hsize : mf.file.length < 2 ^ 32) :
    ∃ m, replay cd mf.file ext = .ok (m, mf.file.length) ∧ m.EquivC cn mf.manifest ∧
      (lv = true → m.LevelsOK ∧ mf.manifest.LevelsOK) ∧ mf.pos = mf.file.length := by
  obtain ⟨_, _, fsets, m', hfile, hall, hfr, heq, _, hlv, hpos⟩ :=
    runSteps_inv cd hv ext lv cn _ mf steps hsets hsl hcn (MFile.create_inv cd hv lv cn ext hext threshold) hrun
  refine ⟨m', ?_, heq, hlv, hpos⟩
  have h := replay_torn cd hv ext hext fsets [] m' hall hfr (Or.inl (by decide))
  rw [List.append_nil, ← hfile] at h
  exact h hsize

/-- **Replay is exact.** Start from a fresh MANIFEST (any external magic, any rewrite
    threshold), perform any sequence of `addChanges` calls that the code accepts (creates of
    fresh ids; deletes of known or unknown ids), with automatic rewrites wherever the rule
    fires. Then `ReplayManifestFile` on the resulting file succeeds, its truncation offset is
    the file size, and the manifest it returns has exactly the in-memory table map
    (id ↦ level, key id, compression) and the same `Creations` / `Deletions` counters. -/
theorem C17_replay_exact (cd : Codec) (hv : cd.Valid) (ext : Nat) (hext : ext < 2 ^ 16)
    (threshold : Int) (sets : List ChangeSet) (mf : MFile)
    (hsets : ∀ s, s ∈ sets → ChangeSet.InRange s)
    (hrun : runAdds cd (MFile.create cd ext threshold) sets = some mf)
    (hsize : mf.file.length < 2 ^ 32) :
    ∃ m, replay cd mf.file ext = .ok (m, mf.file.length) ∧
      (∀ id, m.lookup id = mf.manifest.lookup id) ∧
      m.creations = mf.manifest.creations ∧ m.deletions = mf.manifest.deletions := by
  rw [runAdds_eq_runSteps] at hrun
  obtain ⟨m, hrep, heq, _, _⟩ := runSteps_replay_exact cd hv false true ext hext threshold _ mf
    (by simpa using hsets) nofun (by simp) hrun hsize
  exact ⟨m, hrep, heq.1, heq.2 rfl⟩

/-- **Level sets.** If moreover every CREATE uses a level below 256 (badger's `MaxLevels` is far
    smaller; `TableManifest.Level` is a `uint8` while `Levels` is indexed with the `uint32`),
    the replayed manifest also has exactly the in-memory per-level id sets — `Levels` may differ
    only in trailing empty levels (`levelAt` is `[]` beyond the end). -/
theorem C17_replay_exact_levels (cd : Codec) (hv : cd.Valid) (ext : Nat) (hext : ext < 2 ^ 16)
    (threshold : Int) (sets : List ChangeSet) (mf : MFile)
    (hsets : ∀ s, s ∈ sets → ChangeSet.InRange s)
    (hsl : ∀ s, s ∈ sets → ∀ c, c ∈ s → c.SmallLevel)
    (hrun : runAdds cd (MFile.create cd ext threshold) sets = some mf)
    (hsize : mf.file.length < 2 ^ 32) :
    ∃ m, replay cd mf.file ext = .ok (m, mf.file.length) ∧
      (∀ id, m.lookup id = mf.manifest.lookup id) ∧
      (∀ l id, id ∈ levelAt m.levels l ↔ id ∈ levelAt mf.manifest.levels l) ∧
      m.LevelsOK ∧ mf.manifest.LevelsOK := by
  rw [runAdds_eq_runSteps] at hrun
  obtain ⟨m, hrep, heq, hlv, _⟩ := runSteps_replay_exact cd hv true true ext hext threshold _ mf
    (by simpa using hsets) (fun _ => by simpa using hsl) (by simp) hrun hsize
  obtain ⟨hl1, hl2⟩ := hlv rfl
  exact ⟨m, hrep, heq.1, fun l id => by rw [hl1 l id, hl2 l id, heq.1 id], hl1, hl2⟩

/-- **Replay is exact across crashes.** Start from a fresh MANIFEST; any sequence of accepted
    `addChanges` calls (rewrites included) and of crashes that tear the record being appended
    (any torn tail), each followed by a reopen and by further appends **on the reopened handle**.
    Then `ReplayManifestFile` on the final file succeeds with truncation offset = file size and
    returns exactly the in-memory table map. (The `Creations`/`Deletions` counters of a reopened
    `manifestFile` restart from its clone, so they are not compared here; see `C17_replay_exact`.)
    This is where the position of the file descriptor matters: `openExisting` seeks to the end of
    the truncated file, so the next append is contiguous (`writeAt` at `pos = len`). -/
theorem C17_replay_exact_reopen (cd : Codec) (hv : cd.Valid) (ext : Nat) (hext : ext < 2 ^ 16)
    (threshold : Int) (steps : List MStep) (mf : MFile)
    (hsets : ∀ cs, MStep.add cs ∈ steps → ChangeSet.InRange cs)
    (hrun : runSteps cd (MFile.create cd ext threshold) steps = some mf)
    (hsize : mf.file.length < 2 ^ 32) :
    ∃ m, replay cd mf.file ext = .ok (m, mf.file.length) ∧
      (∀ id, m.lookup id = mf.manifest.lookup id) ∧ mf.pos = mf.file.length := by
  obtain ⟨m, hrep, heq, _, hpos⟩ := runSteps_replay_exact cd hv false false ext hext threshold steps mf
    hsets nofun nofun hrun hsize
  exact ⟨m, hrep, heq.1, hpos⟩

/-- The contracts of the parameters hold for the concrete codec: `proto.Unmarshal ∘ proto.Marshal`
    is the identity on change sets whose fields fit their Go types (proved on the wire-format
    model of `BadgerModel/ManifestPb.lean`), CRC32-C is below `2^32`, sorting permutes. -/
theorem C17_pbCodec_valid : pbCodec.Valid := pbCodec_valid

/-- `C17_replay_exact` for the protobuf / CRC32-C instance (no abstract parameter left). -/
theorem C17_replay_exact_pb (ext : Nat) (hext : ext < 2 ^ 16) (threshold : Int)
    (sets : List ChangeSet) (mf : MFile)
    (hsets : ∀ s, s ∈ sets → ChangeSet.InRange s)
    (hrun : runAdds pbCodec (MFile.create pbCodec ext threshold) sets = some mf)
    (hsize : mf.file.length < 2 ^ 32) :
    ∃ m, replay pbCodec mf.file ext = .ok (m, mf.file.length) ∧
      (∀ id, m.lookup id = mf.manifest.lookup id) ∧
      m.creations = mf.manifest.creations ∧ m.deletions = mf.manifest.deletions :=
  C17_replay_exact pbCodec pbCodec_valid ext hext threshold sets mf hsets hrun hsize

instance (c : Change) : Decidable c.InRange := by unfold Change.InRange; infer_instance

instance (cs : ChangeSet) : Decidable (ChangeSet.InRange cs) := by
  unfold ChangeSet.InRange
  infer_instance

/-- Three creates: a 30-byte payload. -/
def c17Witness : ChangeSet :=
  [Change.create 1 1 1 1, Change.create 2 1 1 1, Change.create 3 1 1 1]

/-- The length check of `ReplayManifestFile` that finding F16 is about: the length field of
    the frame at `frameStart` against `uint32(stat.Size())`. -/
def oldLengthCheckRejects (file : Bytes) (frameStart : Nat) : Bool :=
  decide (beNat ((file.drop frameStart).take 4) > file.length % 2 ^ 32)

/-- Witness for finding F16: a fresh MANIFEST (16 bytes) followed by the frame of `c17Witness`
    (8 + 30 bytes), cut at byte 25 (one byte into the payload). The check against
    `uint32(stat.Size())` rejects the file — the length field (30) exceeds the size of the torn
    file (25), Open fails —; the check against the bytes left sees a torn tail and replay
    truncates at byte 16. -/
theorem C17_F16_regression_witness :
    oldLengthCheckRejects ((manifestFileOf pbCodec 0 ([[]] ++ [c17Witness])).take 25) 16 = true ∧
    replay pbCodec ((manifestFileOf pbCodec 0 ([[]] ++ [c17Witness])).take 25) 0 =
      .ok (Manifest.empty, 16) := by decide +kernel

theorem C17_trunc_all_pb : C17_truncStatement pbCodec := C17_trunc_all pbCodec pbCodec_valid

-- the same file cut inside the 8-byte frame header, or later in the payload
example : replay pbCodec ((manifestFileOf pbCodec 0 ([[]] ++ [c17Witness])).take 23) 0 =
    .ok (Manifest.empty, 16) := by decide +kernel
example : replay pbCodec ((manifestFileOf pbCodec 0 ([[]] ++ [c17Witness])).take 31) 0 =
    .ok (Manifest.empty, 16) := by decide +kernel

/-- Non-vacuity of `C17_replay_exact`'s hypotheses and a run through the rewrite rule:
    threshold 0, creates 1 2 3, then deletes of 1 2 3 and an unknown id: the third call rewrites
    the file (deletions 4 > 0 and 4 > 10·(3−4)); a further set is appended after the rewrite. -/
def c17History : List ChangeSet :=
  [[Change.create 1 0 0 1, Change.create 2 1 7 2], [Change.create 3 6 0 0],
   [Change.delete 1, Change.delete 2, Change.delete 9, Change.delete 3],
   [Change.create 4 2 5 1]]

example : ∀ s, s ∈ c17History → ChangeSet.InRange s := by decide +kernel

set_option maxRecDepth 20000 in
example : (runAdds pbCodec (MFile.create pbCodec 0 0) c17History).map
    (fun mf => (mf.file.length, mf.manifest.tables, mf.manifest.creations, mf.manifest.deletions,
      replay pbCodec mf.file 0)) =
    some (34, [(4, ⟨2, 5, 1⟩)], 1, 0,
      .ok (⟨[[], [], [4]], [(4, ⟨2, 5, 1⟩)], 1, 0⟩, 34)) := by decide +kernel

-- why `C17_replay_exact_levels` needs levels < 256: a CREATE at level 300 is stored as
-- `TableManifest.Level = 44` but kept in `Levels[300]`; after a rewrite the file says level 44.
def c17Level300 : Option MFile :=
  runAdds pbCodec (MFile.create pbCodec 0 0) [[Change.create 1 300 0 0], [Change.delete 9]]

set_option maxRecDepth 40000 in
example : c17Level300.map (fun mf => (levelAt mf.manifest.levels 300, levelAt mf.manifest.levels 44)) =
    some ([1], []) := by decide +kernel
set_option maxRecDepth 40000 in
example : c17Level300.map (fun mf => mf.manifest.lookup 1) = some (some ⟨44, 0, 0⟩) := by decide +kernel
set_option maxRecDepth 40000 in
example : c17Level300.map (fun mf => match replay pbCodec mf.file 0 with
      | .ok r => (levelAt r.1.levels 300, levelAt r.1.levels 44)
      | .error _ => ([], [])) = some ([], [1]) := by decide +kernel

-- a crash history on the concrete codec: one set, a crash leaving 5 bytes of the next frame header,
-- reopen, one more set on the reopened handle: the file is contiguous and replays to both tables
set_option maxRecDepth 20000 in
example : (runSteps pbCodec (MFile.create pbCodec 0 10) [.add [Change.create 1 0 0 1],
      .crashReopen [0x00, 0x00, 0x00, 0x2a, 0xde], .add [Change.create 2 1 0 1]]).map
    (fun mf => (mf.file.length, mf.pos, (replay pbCodec mf.file 0).toOption.map (fun r => (r.1.tables.map (·.1), r.2)))) =
    some (46, 46, some ([2, 1], 46)) := by decide +kernel

-- checksum error on the concrete codec: one payload byte of the last frame altered
example : replay pbCodec
    (let f := manifestFileOf pbCodec 0 [[], [Change.create 1 0 0 1]]
     f.set 25 (f.getD 25 0 ^^^ 1)) 0 = .error .badChecksum := by decide +kernel

end Badger
