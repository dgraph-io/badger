import BadgerProofs.Lemmas.Txn
import BadgerProofs.Props.C20
/-!
# C28 — writes validate keys and sizes deterministically; accepted transactions fit

`Txn.modify` (txn.go:355) is a `switch` over the validation conditions (txn.go:358-376) followed by
the banned-namespace test (txn.go:378; not in `Db.modify`: `Db.modifyNs`, Props/C28Ns.lean) and
`checkSize` (txn.go:382); the model is `Db.modify`, whose decision list is `modCheck`
(`modify_eq`, Lemmas/Txn.lean).

The second half of the property ("once all writes were accepted, Commit never fails with
ErrTxnTooBig") compares two size computations of the code:

* `checkSize` (txn.go:335): `txn.size` starts at the reserve for the end-of-transaction marker
  (`finReserve`; `len(txnKey)+30` in /repo and in `Db.begin`, `len(txnKey)+10` before the fix of F6) and
  grows by `estimateSizeAndSetThreshold(e) + 10` (`perEntryPad = 10`) per accepted entry; `txn.count`
  starts at 1 and grows by 1;
* `sendToWriteCh` (db.go:902), called by `commitAndSend`: sums `estimateSizeAndSetThreshold`
  over the entries *with the 8 timestamp bytes appended to every key* plus the end-of-transaction
  marker (`key = txnKey ++ 8 bytes`, `value = decimal commitTs`), and fails with `ErrTxnTooBig`
  when `count ≥ maxBatchCount ∨ size ≥ maxBatchSize`.

`C28_fits` is stated over these parameters. Its side condition `finReserve ≥ finMax` fails for the
constants badger had before finding F6 (`len(txnKey)+10 = 21 < 41`: `C28_fits_counterexample`) and holds
since the fix in /repo (`size: len(txnKey)+30`, mirrored by `Db.begin`): `C28_side_condition_today`,
`C28_fits_today`. The reserve is read off the model (`beginReserve`).

`Db.commit` has no `ErrTxnTooBig` branch (`sendToWriteCh` is not modelled), so the commit-side computation
is defined here (`sendTooBig`), mirroring db.go:906-914.
-/
namespace Badger

/-- The verdict of `Db.modify` is the first failing test of the `switch` in txn.go:358-376, in
    this order: read-only, discarded, empty key, reserved `!badger!` prefix, key > 65000 bytes,
    value > ValueLogFileSize, (in memory) value > ValueThreshold, then `checkSize` (txn.go:382).
    The banned-namespace test between the two (txn.go:378) is in `Db.modifyNs`
    (`C28_banned_order`, Props/C28Ns.lean). -/
theorem C28_validation_order (d : Db) (id : Nat) (t : TxnM) (e : Ent) (h : d.findTxn id = some t) :
    (d.modify id e).2 =
      (if t.update = false then some .readonly
       else if t.discarded = true then some .discarded
       else if e.key = [] then some .emptykey
       else if badgerPrefix <+: e.key then some .invalidkey
       else if 65000 < e.key.length then some .keytoobig
       else if d.opts.vlogFileSize < e.val.length then some .valtoobig
       else if d.opts.inMemory = true ∧ d.opts.threshold < e.val.length then some .valtoobig
       else if d.opts.maxBatchCount ≤ t.count + 1 ∨
           d.opts.maxBatchSize ≤ t.size + estimateSize d.opts.threshold e + 10 then some .txntoobig
       else none) := by
  rw [modify_verdict e h]
  unfold modCheck
  simp only [Bool.not_eq_true', List.isEmpty_iff, List.isPrefixOf_iff_prefix, Bool.and_eq_true,
    Bool.or_eq_true, decide_eq_true_eq, gt_iff_lt, ge_iff_le]

theorem C28_verdict_iff (d : Db) (id : Nat) (t : TxnM) (e : Ent) (h : d.findTxn id = some t) :
    ((d.modify id e).2 = some .readonly ↔ t.update = false) ∧
    ((d.modify id e).2 = some .discarded ↔ t.update = true ∧ t.discarded = true) ∧
    ((d.modify id e).2 = some .emptykey ↔ t.update = true ∧ t.discarded = false ∧ e.key = []) ∧
    ((d.modify id e).2 = some .invalidkey ↔
      t.update = true ∧ t.discarded = false ∧ e.key ≠ [] ∧ badgerPrefix <+: e.key) ∧
    ((d.modify id e).2 = some .keytoobig ↔
      t.update = true ∧ t.discarded = false ∧ e.key ≠ [] ∧ ¬ badgerPrefix <+: e.key ∧
      65000 < e.key.length) ∧
    ((d.modify id e).2 = some .valtoobig ↔
      t.update = true ∧ t.discarded = false ∧ e.key ≠ [] ∧ ¬ badgerPrefix <+: e.key ∧
      e.key.length ≤ 65000 ∧
      (d.opts.vlogFileSize < e.val.length ∨ (d.opts.inMemory = true ∧ d.opts.threshold < e.val.length))) ∧
    ((d.modify id e).2 = some .txntoobig ↔
      t.update = true ∧ t.discarded = false ∧ e.key ≠ [] ∧ ¬ badgerPrefix <+: e.key ∧
      e.key.length ≤ 65000 ∧ e.val.length ≤ d.opts.vlogFileSize ∧
      ¬ (d.opts.inMemory = true ∧ d.opts.threshold < e.val.length) ∧
      (d.opts.maxBatchCount ≤ t.count + 1 ∨
        d.opts.maxBatchSize ≤ t.size + estimateSize d.opts.threshold e + 10)) ∧
    ((d.modify id e).2 = none ↔
      t.update = true ∧ t.discarded = false ∧ e.key ≠ [] ∧ ¬ badgerPrefix <+: e.key ∧
      e.key.length ≤ 65000 ∧ e.val.length ≤ d.opts.vlogFileSize ∧
      ¬ (d.opts.inMemory = true ∧ d.opts.threshold < e.val.length) ∧
      t.count + 1 < d.opts.maxBatchCount ∧
      t.size + estimateSize d.opts.threshold e + 10 < d.opts.maxBatchSize) := by
  rw [C28_validation_order d id t e h]
  -- each `if` of the decision list is unrolled once; the value-log test then occurs as `A ∨ ¬A ∧ B`
  have hor : ∀ (a b : Nat) (B : Prop), (a < b ∨ b ≤ a ∧ B) ↔ (a < b ∨ B) := fun a b B =>
    ⟨fun h => h.imp_right And.right, fun h => h.elim .inl fun hB => (Nat.lt_or_ge a b).imp_right fun hle => ⟨hle, hB⟩⟩
  simp only [ite_eq_iff, Option.some.injEq, reduceCtorEq, and_false, false_or, and_true, or_false,
    Bool.not_eq_false, Bool.not_eq_true, Nat.not_lt, Nat.not_le, not_or, ne_eq, hor]

theorem modify_accepted_iff {d : Db} {id : Nat} {t : TxnM} (e : Ent) (h : d.findTxn id = some t) :
    (d.modify id e).2 = none ↔
      t.update = true ∧ t.discarded = false ∧ e.key ≠ [] ∧ ¬ badgerPrefix <+: e.key ∧
      e.key.length ≤ 65000 ∧ e.val.length ≤ d.opts.vlogFileSize ∧
      ¬ (d.opts.inMemory = true ∧ d.opts.threshold < e.val.length) ∧
      t.count + 1 < d.opts.maxBatchCount ∧
      t.size + estimateSize d.opts.threshold e + 10 < d.opts.maxBatchSize :=
  (C28_verdict_iff d id t e h).2.2.2.2.2.2.2

theorem C28_unknown_txn (d : Db) (id : Nat) (e : Ent) (h : d.findTxn id = none) :
    d.modify id e = (d, some .discarded) := modify_none e h

theorem C28_reject_no_effect (d : Db) (id : Nat) (e : Ent) (err : ModErr)
    (h : (d.modify id e).2 = some err) : (d.modify id e).1 = d :=
  modify_refused e h

/-- An accepted write is the pending write of its key afterwards, and `Txn.Get` returns it
    (at version `readTs`), or "not found" when it is a delete / already expired. -/
theorem C28_accept_pending (d : Db) (id : Nat) (t : TxnM) (e : Ent) (hf : d.findTxn id = some t)
    (h : (d.modify id e).2 = none) :
    ∃ t', (d.modify id e).1.findTxn id = some t' ∧ e ∈ t'.pending ∧
      t'.pending.find? (·.key == e.key) = some e ∧ t'.readTs = t.readTs ∧
      (∀ x ∈ t.pending, x.key ≠ e.key → x ∈ t'.pending) ∧
      ((d.modify id e).1.txnGet id e.key).2 =
        (if deletedOrExpired e.emeta e.exp d.now then GetRes.notfound else .found e t.readTs) := by
  obtain ⟨hu, hd, hk, -⟩ := (modify_accepted_iff e hf).mp h
  obtain ⟨hmod, hfind⟩ := modify_accepted e hf h
  rw [hmod]
  have hp : (modTxn d t e).pending.find? (·.key == e.key) = some e := by
    simp [modTxn, List.find?_append, find?_filter_key_self Ent.key]
  refine ⟨modTxn d t e, hfind, by simp [modTxn], hp, rfl, ?_, ?_⟩
  · intro x hx hne
    simp [modTxn, hx, hne]
  · rw [txnGet_pending hfind hk hu hd hp]
    rfl

/-- Determinism: the verdict is a function of the transaction's flags and counters, the key,
    the value length and the options — not of the LSM tree, other transactions, or time. -/
theorem C28_deterministic (d1 d2 : Db) (id : Nat) (t1 t2 : TxnM) (e1 e2 : Ent)
    (h1 : d1.findTxn id = some t1) (h2 : d2.findTxn id = some t2) (ho : d1.opts = d2.opts)
    (hu : t1.update = t2.update) (hd : t1.discarded = t2.discarded) (hc : t1.count = t2.count)
    (hs : t1.size = t2.size) (hk : e1.key = e2.key) (hv : e1.val.length = e2.val.length) :
    (d1.modify id e1).2 = (d2.modify id e2).2 := by
  rw [C28_validation_order d1 id t1 e1 h1, C28_validation_order d2 id t2 e2 h2]
  have he : estimateSize d2.opts.threshold e1 = estimateSize d2.opts.threshold e2 := by
    simp only [estimateSize, hk, hv]
  simp only [ho, hu, hd, hc, hs, hk, hv, he]

/-- parameters of the two size computations; badger's values: `realParams`, `estimateSize_keyWithTs` -/
structure SizeParams where
  finReserve : Nat        -- initial `txn.size`: room reserved for the end-of-transaction marker
  perEntryPad : Nat       -- what `checkSize` adds per entry on top of the estimate
  tsLen : Nat             -- bytes `commitAndSend` appends to every key (`KeyWithTs`)
  finCost : Nat → Nat     -- `estimateSize` of the end-of-transaction marker, by commit timestamp
  finMax : Nat            -- an upper bound of `finCost`

/-- `txn.size` after the entries `es` were accepted one by one (`checkSize`). -/
def runSize (P : SizeParams) (thr : Nat) (es : List Ent) : Nat :=
  es.foldl (fun s e => s + estimateSize thr e + P.perEntryPad) P.finReserve

/-- every `checkSize` along the way passed (count starts at 1). -/
def acceptedAll (P : SizeParams) (thr maxCount maxSize : Nat) : Nat → Nat → List Ent → Prop
  | _, _, [] => True
  | count, size, e :: es =>
    count + 1 < maxCount ∧ size + estimateSize thr e + P.perEntryPad < maxSize ∧
      acceptedAll P thr maxCount maxSize (count + 1) (size + estimateSize thr e + P.perEntryPad) es

/-- the sum `sendToWriteCh` computes over the request of `commitAndSend`: every entry with the
    timestamp appended to its key, then the marker. -/
def sentSize (P : SizeParams) (thr : Nat) (es : List Ent) (cts : Nat) : Nat :=
  (es.map (fun e => estimateSize thr e + P.tsLen)).sum + P.finCost cts

/-- `count >= maxBatchCount || size >= maxBatchSize` in `sendToWriteCh`. -/
def sendTooBig (P : SizeParams) (thr maxCount maxSize : Nat) (es : List Ent) (cts : Nat) : Prop :=
  es.length + 1 ≥ maxCount ∨ sentSize P thr es cts ≥ maxSize

theorem sum_map_add_le (f : Ent → Nat) {a b : Nat} (h : a ≤ b) (l : List Ent) :
    (l.map (fun e => f e + a)).sum ≤ (l.map (fun e => f e + b)).sum := by
  induction l with
  | nil => simp
  | cons e es ih => simp only [List.map_cons, List.sum_cons]; omega

theorem acceptedAll_bounds (P : SizeParams) (thr maxCount maxSize : Nat) (count size : Nat)
    (es : List Ent) (h : acceptedAll P thr maxCount maxSize count size es) (hne : es ≠ []) :
    count + es.length < maxCount ∧
    size + (es.map (fun e => estimateSize thr e + P.perEntryPad)).sum < maxSize := by
  induction es generalizing count size with
  | nil => exact absurd rfl hne
  | cons e es ih =>
    obtain ⟨h1, h2, h3⟩ := h
    cases es with
    | nil => simp; omega
    | cons e' es' =>
      have := ih (count + 1) _ h3 (by simp)
      simp only [List.length_cons, List.map_cons, List.sum_cons] at this ⊢
      omega

/-- GENERIC fit theorem: if the reserve covers the marker and the per-entry padding covers the
    timestamp suffix, a transaction all of whose writes passed `checkSize` is not rejected by
    `sendToWriteCh`. (`es` = the entries sent, i.e. at most the accepted ones.) -/
theorem C28_fits (P : SizeParams) (thr maxCount maxSize : Nat) (es : List Ent) (cts : Nat)
    (hres : P.finReserve ≥ P.finMax) (hpad : P.perEntryPad ≥ P.tsLen)
    (hfin : P.finCost cts ≤ P.finMax) (hne : es ≠ [])
    (hacc : acceptedAll P thr maxCount maxSize 1 P.finReserve es) :
    ¬ sendTooBig P thr maxCount maxSize es cts := by
  have ⟨hc, hs⟩ := acceptedAll_bounds P thr maxCount maxSize 1 P.finReserve es hacc hne
  have hle := sum_map_add_le (estimateSize thr) hpad es
  unfold sendTooBig sentSize
  omega

theorem estimateSize_keyWithTs (thr : Nat) (e : Ent) (ts : Nat) :
    estimateSize thr { e with key := keyWithTs e.key ts } = estimateSize thr e + 8 := by
  unfold estimateSize
  simp only [keyWithTs_length]
  split <;> omega

/-- `txn.size`/`txn.count` dominate what the entries still held by the transaction
    (pending + duplicate writes, i.e. exactly the request of `commitAndSend`) need. -/
def SizeInv (R : Nat) (d : Db) (t : TxnM) : Prop :=
  R + ((t.pending ++ t.dups).map (fun e => estimateSize d.opts.threshold e + 10)).sum ≤ t.size ∧
  (t.pending ++ t.dups).length + 1 ≤ t.count

/-- the reserve `newTransaction` puts into `txn.size`, read off the model -/
def beginReserve : Nat :=
  match ((Db.init {} 0).begin 0 true 0).1.txns with
  | t :: _ => t.size
  | [] => 0

theorem sizeInv_begin (d : Db) (id : Nat) (u : Bool) (mts : Nat) :
    ∃ t, (d.begin id u mts).1.findTxn id = some t ∧ SizeInv beginReserve (d.begin id u mts).1 t := by
  unfold Db.begin
  refine ⟨_, findTxn_setTxn_self _ _, ?_⟩
  simp only [SizeInv, List.append_nil, List.map_nil, List.sum_nil, List.length_nil]
  decide

theorem sum_filter_split {α : Type} (w : α → Nat) (p : α → Bool) (l : List α) :
    (l.map w).sum = ((l.filter p).map w).sum + ((l.filter (fun x => !p x)).map w).sum := by
  rw [← List.sum_append_nat, ← List.map_append]
  exact ((List.filter_append_perm p l).map w).sum_nat.symm

theorem le_sum_of_mem {α : Type} (w : α → Nat) {l : List α} {o : α} (h : o ∈ l) : w o ≤ (l.map w).sum := by
  induction h with
  | head => simp only [List.map_cons, List.sum_cons]; omega
  | tail _ _ ih => simp only [List.map_cons, List.sum_cons]; omega

/-- whatever the weight, an accepted write adds at most its own to what the transaction holds: the pending write of
    the same key is replaced (and kept as a duplicate only under another version) -/
theorem modTxn_weight (w : Ent → Nat) (d : Db) (t : TxnM) (e : Ent) :
    (((modTxn d t e).pending ++ (modTxn d t e).dups).map w).sum ≤ ((t.pending ++ t.dups).map w).sum + w e := by
  have hs := sum_filter_split w (·.key != e.key) t.pending
  simp only [modTxn, List.map_append, List.sum_append_nat, List.map_cons, List.map_nil, List.sum_cons, List.sum_nil]
  cases ho : t.pending.find? (·.key == e.key) with
  | none => dsimp only; omega
  | some o =>
    have := le_sum_of_mem w (l := t.pending.filter (fun x => !(x.key != e.key)))
      (List.mem_filter.mpr ⟨List.mem_of_find?_eq_some ho, by simpa using List.find?_some ho⟩)
    dsimp only
    split
    · simp only [List.map_append, List.sum_append_nat, List.map_cons, List.map_nil, List.sum_cons, List.sum_nil]
      omega
    · omega

theorem sizeInv_modify (R : Nat) (d : Db) (id : Nat) (t : TxnM) (e : Ent) (hf : d.findTxn id = some t)
    (hi : SizeInv R d t) (h : (d.modify id e).2 = none) :
    (d.modify id e).1.findTxn id = some (modTxn d t e) ∧ SizeInv R (d.modify id e).1 (modTxn d t e) ∧
    (modTxn d t e).size < d.opts.maxBatchSize ∧ (modTxn d t e).count < d.opts.maxBatchCount := by
  obtain ⟨-, -, -, -, -, -, -, hcount, hsize⟩ := (modify_accepted_iff e hf).mp h
  obtain ⟨hmod, hfind⟩ := modify_accepted e hf h
  rw [hmod]
  refine ⟨hfind, ?_, hsize, hcount⟩
  have h1 := modTxn_weight (fun e => estimateSize d.opts.threshold e + 10) d t e
  have h2 := modTxn_weight (fun _ => 1) d t e   -- the count is the weight 1
  simp only [List.map_const', List.sum_replicate_nat, Nat.mul_one] at h2
  obtain ⟨hs, hn⟩ := hi
  rw [SizeInv, setTxn_opts]
  exact ⟨show _ ≤ t.size + _ + 10 by omega, show _ ≤ t.count + 1 by omega⟩

/-- the parameters of the code for a reserve `R`, over an arbitrary marker cost -/
def realParams (R : Nat) (finCost : Nat → Nat) (finMax : Nat) : SizeParams :=
  { finReserve := R, perEntryPad := 10, tsLen := 8, finCost := finCost, finMax := finMax }

/-- Model-level fit theorem with the hypothesis explicit: a model transaction that satisfies the
    bookkeeping invariant for reserve `R` and whose last write was accepted (so
    `size < maxBatchSize`, `count < maxBatchCount`) fits into `sendToWriteCh` **provided the
    marker costs no more than the reserve**. -/
theorem C28_fits_model (R : Nat) (d : Db) (t : TxnM) (finCost : Nat → Nat) (cts : Nat)
    (hi : SizeInv R d t) (hs : t.size < d.opts.maxBatchSize) (hc : t.count < d.opts.maxBatchCount)
    (hfin : finCost cts ≤ R) :
    ¬ sendTooBig (realParams R finCost R) d.opts.threshold d.opts.maxBatchCount
        d.opts.maxBatchSize (t.pending ++ t.dups) cts := by
  obtain ⟨h1, h2⟩ := hi
  have hle := sum_map_add_le (estimateSize d.opts.threshold) (by decide : 8 ≤ 10) (t.pending ++ t.dups)
  unfold sendTooBig sentSize realParams
  simp only
  omega

/-- number of decimal digits (fuel 19 covers every `uint64`) -/
def decLenF : Nat → Nat → Nat
  | 0, _ => 1
  | f + 1, n => if n < 10 then 1 else 1 + decLenF f (n / 10)

def decLen (n : Nat) : Nat := decLenF 19 n

theorem decLenF_le (f n : Nat) : decLenF f n ≤ f + 1 := by
  induction f generalizing n with
  | zero => simp [decLenF]
  | succ f ih =>
    unfold decLenF
    split
    · omega
    · have := ih (n / 10); omega

/-- `estimateSize` of the marker entry `{Key: KeyWithTs(txnKey, cts), Value: strconv(cts)}`. -/
def finCostReal (thr : Nat) (cts : Nat) : Nat :=
  estimateSize thr { key := keyWithTs (List.replicate txnKeyLen 0) cts, ver := 0, emeta := bitFinTxn,
                     umeta := 0, exp := 0, val := List.replicate (decLen cts) 0x30 }

theorem finCostReal_le (thr cts : Nat) : finCostReal thr cts ≤ txnKeyLen + 8 + 20 + 2 := by
  unfold finCostReal estimateSize
  have := decLenF_le 19 cts
  simp only [keyWithTs_length, List.length_replicate, decLen] at *
  split <;> omega

/-- today's reserve (after the F6 `fix:` commit): `len(txnKey) + 30 = 41` -/
theorem C28_reserve_today : beginReserve = txnKeyLen + 8 + 20 + 2 := by decide

theorem C28_side_condition_today :
    (realParams beginReserve (finCostReal 1024) (txnKeyLen + 8 + 20 + 2)).finReserve ≥
      (realParams beginReserve (finCostReal 1024) (txnKeyLen + 8 + 20 + 2)).finMax := by decide

/-- **Accepted transactions fit** (today's code, unconditional): for every model transaction
    satisfying the bookkeeping invariant (`sizeInv_begin`, `sizeInv_modify`) whose last write
    was accepted, `sendToWriteCh` does not answer `ErrTxnTooBig`, whatever the commit
    timestamp and the threshold. -/
theorem C28_fits_today (d : Db) (t : TxnM) (cts : Nat)
    (hi : SizeInv beginReserve d t) (hs : t.size < d.opts.maxBatchSize)
    (hc : t.count < d.opts.maxBatchCount) :
    ¬ sendTooBig (realParams beginReserve (finCostReal d.opts.threshold) beginReserve) d.opts.threshold
        d.opts.maxBatchCount d.opts.maxBatchSize (t.pending ++ t.dups) cts :=
  C28_fits_model beginReserve d t _ cts hi hs hc
    (by rw [C28_reserve_today]; exact finCostReal_le _ _)

theorem C28_side_condition_false_before_fix :
    ¬ ((realParams (txnKeyLen + 10) (finCostReal 1024) (txnKeyLen + 8 + 20 + 2)).finReserve ≥
        (realParams (txnKeyLen + 10) (finCostReal 1024) (txnKeyLen + 8 + 20 + 2)).finMax) := by decide

/-- F6 on a small instance, over the ORIGINAL parameters (reserve 21): `maxBatchSize = 35`; one
    entry `a ↦ ""` passes every `checkSize` (`21 + 3 + 10 = 34 < 35`), and at commit timestamp
    1000 `sendToWriteCh` computes `(3 + 8) + (11 + 8 + 4 + 2) = 36 ≥ 35`: `ErrTxnTooBig`.
    (On the real code before the fix this is finding F6, `known_findings.d/mvcc.json`; the model
    has the reserve of /repo (41), so the same instance fits: second part.) -/
theorem C28_fits_counterexample :
    let e : Ent := { key := [0x61], ver := 0, emeta := 0, umeta := 0, exp := 0, val := [] }
    let Pold := realParams (txnKeyLen + 10) (finCostReal 1024) 41
    let Pnew := realParams beginReserve (finCostReal 1024) 41
    (acceptedAll Pold 1024 100 35 1 Pold.finReserve [e] ∧ sendTooBig Pold 1024 100 35 [e] 1000) ∧
    (acceptedAll Pnew 1024 100 55 1 Pnew.finReserve [e] ∧ ¬ sendTooBig Pnew 1024 100 55 [e] 1000) := by
  refine ⟨⟨⟨by decide, by decide, trivial⟩, .inr (by decide)⟩, ⟨⟨by decide, by decide, trivial⟩, ?_⟩⟩
  exact fun h => h.elim (by decide) (by decide)

-- non-vacuity of `C28_fits`: parameters with a sufficient reserve (41) and an accepted entry
example :
    let P : SizeParams := realParams 21 (finCostReal 1024) 41
    let P' : SizeParams := { P with finReserve := 41 }
    let e : Ent := { key := [0x61], ver := 0, emeta := 0, umeta := 0, exp := 0, val := [] }
    P'.finReserve ≥ P'.finMax ∧ P'.perEntryPad ≥ P'.tsLen ∧ acceptedAll P' 1024 100 60 1 P'.finReserve [e] := by
  refine ⟨by decide, by decide, by decide, by decide, trivial⟩

-- non-vacuity of the validation theorems: an accepted and a rejected write
example :
    let d0 := Db.init { maxBatchCount := 100, maxBatchSize := 100000 } 0
    let d1 := (d0.begin 1 true 0).1
    (d1.modify 1 { key := [0x61], ver := 0, emeta := 0, umeta := 7, exp := 0, val := [1, 2] }).2 = none ∧
    (d1.modify 1 { key := badgerPrefix ++ [0x61], ver := 0, emeta := 0, umeta := 7, exp := 0, val := [] }).2
      = some .invalidkey ∧
    (d1.modify 1 { key := [], ver := 0, emeta := 0, umeta := 7, exp := 0, val := [] }).2 = some .emptykey := by
  decide

end Badger
