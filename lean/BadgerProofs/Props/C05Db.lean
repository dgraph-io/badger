import BadgerProofs.Props.C01Db
import BadgerProofs.Props.C05
import BadgerProofs.Props.C05Pick
/-!
# C05 / C04 composed with the reachability theorem: what a transaction's iterator yields

In every state whose tree is reached from the commit history (`DbL.Tree`: every state of `DbReach`
and of `MDbReach`) an iterator opened at a read timestamp at or above the discard watermark yields,
one version per key with `SinceTs = 0`, exactly the entries the transaction sees (`DbL.Seen`): its
own live pending write of a key, and otherwise the live newest committed write `≤ readTs` of the key
over the whole commit HISTORY — within the `Prefix`, forward from the seek key in strictly increasing key
order or in reverse from the seek key down (`Tree.scan`: the direction is a variable).
`C05_db_scan` is the full forward scan of a read-only transaction in normal mode.
-/
namespace Badger

namespace DbL

variable {o : Opts} {hist : List Ent} {d : Db}

/-- `x` is what transaction `t` sees for the key of `x`: its own pending write if that is live, or,
    if it has none for the key, the newest committed write `≤ readTs` if that is live -/
def Seen (d : Db) (hist : List Ent) (t : TxnM) (x : Ent) : Prop :=
  (x ∈ pendingSource t ∧ deletedOrExpired x.emeta x.exp d.now = false) ∨
  ((∀ p ∈ pendingSource t, p.key ≠ x.key) ∧ visible d.now (newestLE hist x.key t.readTs) = some x)

theorem seen_readonly {t : TxnM} (hupd : t.update = false) (x : Ent) :
    Seen d hist t x ↔ visible d.now (newestLE hist x.key t.readTs) = some x := by
  have hps : pendingSource t = [] := by simp [pendingSource, hupd]
  simp [Seen, hps]

theorem Tree.merged (h : Tree o hist d) (t : TxnM) (hts : d.discardAtOrBelow ≤ t.readTs) :
    SortedEnts (mergeAll (pendingSource t :: d.lsm.sources)) ∧
    (∀ e ∈ mergeAll (pendingSource t :: d.lsm.sources), e ∈ pendingSource t ∨ e ∈ hist) ∧
    ∀ x, (newestLE (mergeAll (pendingSource t :: d.lsm.sources)) x.key t.readTs = some x ∧
      deletedOrExpired x.emeta x.exp d.now = false) ↔ Seen d hist t x := by
  have hsrc := sources_sorted h.tracks.good.1
  have hsrcs : ∀ s ∈ pendingSource t :: d.lsm.sources, SortedEnts s :=
    List.forall_mem_cons.mpr ⟨pendingSource_sorted t, hsrc⟩
  have hflat : (pendingSource t :: d.lsm.sources).flatten = pendingSource t ++ d.lsm.allEntries :=
    List.flatten_cons
  refine ⟨mergeAll_sorted hsrcs, fun e he => ?_, fun x => ?_⟩
  · have := C12_merge_mem_flatten he
    rw [hflat] at this
    exact (List.mem_append.mp this).imp_right (h.tracks.stored e)
  · -- a pending write is the newest version `≤ readTs` of its key in the merged stream
    have hpend : ∀ p ∈ pendingSource t,
        newestLE (mergeAll (pendingSource t :: d.lsm.sources)) p.key t.readTs = some p := fun p hpm => by
      obtain ⟨-, -, -, hnew, -⟩ := C04_iter_pending_first d t p hsrc hpm
      exact hnew
    have hother : (∀ p ∈ pendingSource t, p.key ≠ x.key) →
        newestLE (mergeAll (pendingSource t :: d.lsm.sources)) x.key t.readTs = d.lsm.get x.key t.readTs := by
      intro hk
      rw [newestLE_mergeAll hsrcs, hflat, newestLE_append,
        newestLE_eq_none_iff.mpr (fun p hp hc => hk p hp hc.1), pick_none_left, ← C01_get_spec h.tracks.good.1]
    have hvis := h.tracks.reads hts (Nat.le_refl d.now) x.key
    constructor
    · rintro ⟨hnew, hlive⟩
      by_cases hp : ∃ p ∈ pendingSource t, p.key = x.key
      · obtain ⟨p, hpm, hpk⟩ := hp
        have := hpend p hpm
        rw [hpk, hnew] at this
        cases this
        exact .inl ⟨hpm, hlive⟩
      · have hp' : ∀ p ∈ pendingSource t, p.key ≠ x.key := fun p hpm hc => hp ⟨p, hpm, hc⟩
        rw [hother hp'] at hnew
        exact .inr ⟨hp', by rw [← hvis]; exact visible_some_iff.mpr ⟨hnew, hlive⟩⟩
    · rintro (⟨hpm, hlive⟩ | ⟨hp', hv⟩)
      · exact ⟨hpend x hpm, hlive⟩
      · rw [← hvis] at hv
        obtain ⟨hg, hlive⟩ := visible_some_iff.mp hv
        exact ⟨(hother hp').trans hg, hlive⟩

/-- forward or reverse: `scanOut_char` over the merged stream, read through `Tree.merged` -/
theorem Tree.scan (h : Tree o hist d) {id : Nat} {t : TxnM} (hf : d.findTxn id = some t)
    (hts : d.discardAtOrBelow ≤ t.readTs) (io : IterOpts) (seek : Option Bytes)
    (hall : io.allVersions = false) (hsince : io.sinceTs = 0) (hpk : io.prefixIsKey = false)
    (hsk : io.prefix_.isPrefixOf (seekKeyOf io seek) = true)
    (hh : io.internalAccess = true ∨ ((∀ e ∈ hist, badgerPrefix.isPrefixOf e.ikey = false) ∧
      ∀ e ∈ pendingSource t, badgerPrefix.isPrefixOf e.ikey = false)) :
    ∃ L, d.iterate id io seek = some L ∧
      (∀ x, x ∈ L ↔ (Seen d hist t x ∧ seekSide io (seekKeyOf io seek) x ∧ io.prefix_.isPrefixOf x.key = true)) ∧
      if io.reverse then L.Pairwise (fun a b => cmpBytes b.key a.key = .lt)
      else L.Pairwise (fun a b => cmpBytes a.key b.key = .lt) := by
  obtain ⟨hmerged, hmh, hseen⟩ := h.merged t hts
  rw [iterate_eq io seek hf]
  generalize mergeAll (pendingSource t :: d.lsm.sources) = M at *
  obtain ⟨hsorted, hmem⟩ := scanOut_char io t.readTs d.now seek M hmerged
    (hh.imp_right fun hh e he => (hmh e he).elim (hh.2 e) (hh.1 e)) ⟨hsk, fun hk => by rw [hpk] at hk; cases hk⟩
  generalize scanOut io t.readTs d.now seek M = L at *
  refine ⟨L, rfl, fun x => ?_, ?_⟩
  · rw [hmem, ← hseen, scanMem, hall, or_iff_right Bool.false_ne_true, ← relevant_newest, hsince,
      C05_newestVisible_since_zero, vpOk, hpk, if_neg Bool.false_ne_true]
    exact ⟨fun ⟨⟨_, hside, hnew⟩, hp⟩ => ⟨hnew, hside, hp⟩,
      fun ⟨hnew, hside, hp⟩ => ⟨⟨(newestLE_some_mem hnew.1).1, hside, hnew⟩, hp⟩⟩
  · -- one version per key: the order of the stream is strict on the keys of what is yielded
    have hnew := fun a ha => (((hmem a).mp ha).2.2.resolve_left (hall ▸ Bool.false_ne_true)).1
    cases hrev : io.reverse <;> rw [hrev] at hsorted
    · exact hsorted.imp_of_mem fun ha hb => newestLE_key_lt (hnew _ ha) (hnew _ hb)
    · exact hsorted.imp_of_mem fun ha hb => newestLE_key_lt (hnew _ hb) (hnew _ ha)

/-- with the default options (`Rewind`, no prefix) no key is cut off -/
theorem rewind_all {io : IterOpts} (hpfx : io.prefix_ = []) (k : Bytes) :
    cmpBytes k (seekKeyOf io none) ≠ .lt ∧ io.prefix_.isPrefixOf k = true := by
  simp only [seekKeyOf, hpfx]
  cases k <;> simp [cmpBytes]

end DbL

theorem C05_db_scan {o : Opts} {hist : List Ent} {d : Db} (hm : o.managed = false)
    (r : DbReach o hist d) {id : Nat} {t : TxnM} (hf : d.findTxn id = some t)
    (hupd : t.update = false) (hdisc : t.discarded = false)
    (io : IterOpts) (hrev : io.reverse = false) (hall : io.allVersions = false)
    (hsince : io.sinceTs = 0) (hpfx : io.prefix_ = []) (hpk : io.prefixIsKey = false)
    (hh : io.internalAccess = true ∨ ∀ e ∈ hist, badgerPrefix.isPrefixOf e.ikey = false) :
    ∃ L, d.iterate id io none = some L ∧
      (∀ x, x ∈ L ↔ visible d.now (newestLE hist x.key t.readTs) = some x) ∧
      L.Pairwise (fun a b => cmpBytes a.key b.key = .lt) := by
  obtain ⟨L, hit, hmem, hsorted⟩ := (DbL.tree_of_reach hm r).scan hf (C34_db_discard_below_open hm r hf hdisc)
    io none hall hsince hpk (C05_rewind_key io none (.inl rfl))
    (hh.imp_right fun hh => ⟨hh, by simp [pendingSource, hupd]⟩)
  refine ⟨L, hit, fun x => ?_, by rw [hrev] at hsorted; exact hsorted⟩
  rw [hmem, DbL.seen_readonly hupd, seekSide, hrev]
  exact and_iff_left (DbL.rewind_all hpfx x.key)

end Badger
