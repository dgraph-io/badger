import BadgerProofs.Props.C29Reads
import BadgerProofs.Lemmas.LsmChoice
/-!
# C29 — "every other key is unchanged" for the whole `DropPrefix` run

Composition of the per-step results of `C29Reads.lean` along `Lsm.dropPrefixRun`:

1. `flushAll` (all memtables become L0 tables, oldest first) keeps the read-precedence order of
   the sources: `allEntries` is literally unchanged, and so are the invariants;
2. the groups of one level are rewritten one after the other; each rewrite has the shape
   `IsDropGroup` in the state it runs in (the positions of the group's tables form a contiguous
   block, because everything written so far lies key-wise before the group);
3. the final L0 → base compaction is an ordinary L0 → Lbase compaction carrying `dropPrefixes`
   (`LL.compact_reads_pfx`).

What a part of the run establishes is a `RunOut` (the invariants again, nothing added, undropped
keys read as before); parts compose by `RunOut.trans`. `StepCuts` (Lemmas/LsmCompact.lean) … `DropCuts` say that the
implementation cut the output tables of the same-level rewrites where the user key changes, which
the model cannot know.
-/
namespace Badger

theorem allEntries_flushAll {s : Lsm} {l0 : List Tbl} {rest : List (List Tbl)} (hl : s.levels = l0 :: rest)
    (ids : List Nat) : (s.flushAll ids).allEntries = s.allEntries := by
  obtain ⟨e1, e2⟩ := chunks_flushAll hl ids
  rw [← LL.chunks_flatten, ← LL.chunks_flatten, e1, e2]
  simp [LL.memEnts]

theorem mem_flushTables {s : Lsm} {ids : List Nat} {t : Tbl} (ht : t ∈ flushTables s ids) :
    t.ents ≠ [] ∧ (t.ents = s.mem ∨ t.ents ∈ s.imm) := by
  have : t.ents ∈ (flushTables s ids).map (·.ents) := List.mem_map.mpr ⟨t, ht, rfl⟩
  rw [flushTables_ents, List.mem_filter, List.mem_append] at this
  obtain ⟨hm, hne⟩ := this
  refine ⟨?_, ?_⟩
  · intro h; rw [h] at hne; simp at hne
  · rcases hm with h | h
    · exact .inr h
    · exact .inl (by simpa using h)

theorem flushAll_inv {s : Lsm} {l0 : List Tbl} {rest : List (List Tbl)} (h : LsmInv s)
    (hl : s.levels = l0 :: rest) (ids : List Nat) : LsmInv (s.flushAll ids) := by
  have hpos : PosVer (s.flushAll ids) := fun e he => h.2.2.2 e (allEntries_flushAll hl ids ▸ he)
  rw [flushAll_eq hl] at hpos ⊢
  refine ⟨sortedEnts_nil, fun m hm => (by cases hm), LL.levels_ok_of_l0 h hl fun t ht => ?_, hpos⟩
  rcases List.mem_append.mp ht with h1 | h1
  · exact (h.level (i := 0) (by rw [hl]; rfl)).1 t h1
  · obtain ⟨hne, hsrc⟩ := mem_flushTables h1
    exact ⟨hne, hsrc.elim (fun h2 => h2 ▸ h.1) (h.2.1 _)⟩

/-- where the tables of the level come from during the pass over the original level `T`, with
    everything before index `c` already handled: original tables, or new tables made of entries of
    original tables before `c` -/
def RunInv (T : List Tbl) (c : Nat) (cur : List Tbl) : Prop :=
  ∀ u ∈ cur, (∃ j : Nat, T[j]? = some u) ∨
    (∀ y ∈ u.ents, ∃ (j : Nat) (t : Tbl), j < c ∧ T[j]? = some t ∧ y ∈ t.ents)

private theorem lt_of_sep {L : List Tbl} (hok : ∀ t ∈ L, TblOk t) (hkd : KeyDisjoint L) {j j' : Nat} {u v : Tbl}
    (hj : L[j]? = some u) (hj' : L[j']? = some v) (hne : j ≠ j') (hs : LL.Sep LL.keyLt u v) : j < j' := by
  rcases Nat.lt_or_gt_of_ne hne with h | h
  · exact h
  · obtain ⟨x, hx⟩ := List.exists_mem_of_ne_nil _ (hok _ (List.mem_of_getElem? hj)).1
    obtain ⟨y, hy⟩ := List.exists_mem_of_ne_nil _ (hok _ (List.mem_of_getElem? hj')).1
    exact absurd (keyDisjoint_sep hkd hj' hj h y hy x hx) (LL.klt_asymm (hs x hx y hy))

/-- `StepCuts` for every group rewrite of a pass over one level -/
def groupsCuts (lvl : Nat) (ps : List Bytes) (numKeep : Nat) : List (List Tbl) → Lsm → List DropStep → Prop
  | g :: gs, s, st :: steps =>
    StepCuts s (groupCd s lvl ps g st) st.discardTs numKeep st.now ∧
      (match s.dropGroupStep lvl ps numKeep g st with
       | some s' => groupsCuts lvl ps numKeep gs s' steps
       | none => True)
  | _, _, _ => True

/-- what a part of the run establishes: the invariants hold again, nothing was added, and a key
    without a dropped prefix reads as before above the watermarks and clocks of `steps` -/
structure RunOut (ps : List Bytes) (steps : List DropStep) (s s' : Lsm) : Prop where
  inv : LsmInv s'
  ver : VerBound s'
  lay : LayeredX s'
  reads : ∀ (k : Bytes) (ts now : Nat), hasAnyPrefix k ps = false →
    (∀ st ∈ steps, st.discardTs ≤ ts ∧ st.now ≤ now) → s'.specGet k ts now = s.specGet k ts now
  sub : ∀ e ∈ s'.allEntries, e ∈ s.allEntries

theorem RunOut.trans {ps : List Bytes} {steps steps1 : List DropStep} {s s1 s2 : Lsm}
    (o1 : RunOut ps steps s s1) (o2 : RunOut ps steps1 s1 s2) (hsub : ∀ st ∈ steps1, st ∈ steps) :
    RunOut ps steps s s2 :=
  ⟨o2.inv, o2.ver, o2.lay,
    fun k ts now hk hb => (o2.reads k ts now hk (fun st h => hb st (hsub st h))).trans (o1.reads k ts now hk hb),
    fun e he => o1.sub e (o2.sub e he)⟩

theorem flushAll_out {s : Lsm} (h : LsmInv s) (hv : VerBound s) (hl : LayeredX s) (h0 : 0 < s.levels.length)
    (ids : List Nat) (ps : List Bytes) (steps : List DropStep) : RunOut ps steps s (s.flushAll ids) := by
  obtain ⟨l0, rest, hlv⟩ := List.exists_cons_of_length_pos h0
  exact ⟨flushAll_inv h hlv ids, fun e he => hv e (allEntries_flushAll hlv ids ▸ he), flushAll_layeredX hl hlv ids,
    fun k ts now _ _ => by unfold Lsm.specGet; rw [allEntries_flushAll hlv],
    fun e he => allEntries_flushAll hlv ids ▸ he⟩

/-- the cut condition (`groupsCuts`) for the pass over one level -/
def levelCuts (s : Lsm) (lvl : Nat) (ps : List Bytes) (numKeep : Nat) (steps : List DropStep) : Prop :=
  groupsCuts lvl ps numKeep
    ((dropGroups (s.levels.getD lvl []) ps).map (fun g => pickIdx (s.levels.getD lvl []) g)) s steps

/-- the cut condition (`levelCuts`) for the passes over the given levels, each in the state the earlier passes left -/
def levelsCuts (ps : List Bytes) (numKeep : Nat) : List Nat → Lsm → List DropStep → Prop
  | [], _, _ => True
  | l :: ls, s, steps =>
    levelCuts s l ps numKeep steps ∧
      (match s.dropLevelRun l ps numKeep steps with
       | some (s', steps') => levelsCuts ps numKeep ls s' steps'
       | none => True)

section Passes

variable {s s' : Lsm} {lvl numKeep : Nat} {ps : List Bytes} {steps steps' : List DropStep} {T : List Tbl}
  {c a m : Nat} {st : DropStep}

/-- a table outside the group `[a, a+m)` lies key-wise before the whole group (an original table
    before `a`, or made of entries of such tables) or after it -/
theorem runInv_side {cur : List Tbl} (hTkd : KeyDisjoint T) (hinv : RunInv T c cur) (hca : c ≤ a) {u : Tbl}
    (hu : u ∈ cur) (hug : u ∉ pickIdx T (List.range' a m)) :
    (∀ v ∈ pickIdx T (List.range' a m), LL.Sep LL.keyLt u v) ∨
      (∀ v ∈ pickIdx T (List.range' a m), LL.Sep LL.keyLt v u) := by
  have hgrp : ∀ v ∈ pickIdx T (List.range' a m), ∃ i', a ≤ i' ∧ i' < a + m ∧ T[i']? = some v :=
    fun v hv => (LL.mem_pickIdx.mp hv).imp
      (fun i' h => ⟨(List.mem_range'_1.mp h.1).1, (List.mem_range'_1.mp h.1).2, h.2⟩)
  rcases hinv u hu with ⟨i, hi⟩ | hnew
  · have hnotin : ¬ (a ≤ i ∧ i < a + m) :=
      fun hin => hug (LL.mem_pickIdx.mpr ⟨i, List.mem_range'_1.mpr hin, hi⟩)
    by_cases hia : i < a
    · left
      intro v hv
      obtain ⟨i', ha, _, hi'⟩ := hgrp v hv
      exact keyDisjoint_sep hTkd hi hi' (Nat.lt_of_lt_of_le hia ha)
    · right
      intro v hv
      obtain ⟨i', _, hb, hi'⟩ := hgrp v hv
      exact keyDisjoint_sep hTkd hi' hi
        (Nat.lt_of_lt_of_le hb (Nat.le_of_not_lt (fun h => hnotin ⟨Nat.le_of_not_lt hia, h⟩)))
  · left
    intro v hv y hy z hz
    obtain ⟨i', ha, _, hi'⟩ := hgrp v hv
    obtain ⟨i, t, hic, hit, hyt⟩ := hnew y hy
    exact keyDisjoint_sep hTkd hit hi' (Nat.lt_of_lt_of_le hic (Nat.le_trans hca ha)) y hyt z hz

/-- the step of the pass on the group `[a, a+m)` of the original level has the shape
    `IsDropGroup` in the current state: on a key-disjoint level, lying key-wise before (after) the
    group means standing before (after) it -/
theorem group_isDropGroup (h : LsmInv s) (h1 : 1 ≤ lvl) (hlt : lvl < s.levels.length) (hTkd : KeyDisjoint T)
    (hinv : RunInv T c (s.levels.getD lvl [])) (hca : c ≤ a) :
    IsDropGroup s (groupCd s lvl ps (pickIdx T (List.range' a m)) st) where
  lvl1 := h1
  lt := hlt
  same := rfl
  top := rfl
  incr := groupPos_incr _ _
  convex := by
    intro j hj
    simp only [groupCd] at hj ⊢
    obtain ⟨hok, hkd⟩ := h.level (LL.levels_getD hlt)
    by_cases hjl : j < (s.levels.getD lvl []).length
    · have hju := List.getElem?_eq_getElem hjl
      have hu : (s.levels.getD lvl [])[j] ∉ pickIdx T (List.range' a m) :=
        fun hmem => hj (mem_groupPos.mpr ⟨_, hju, hmem⟩)
      have hpos : ∀ j' ∈ groupPos (s.levels.getD lvl []) (pickIdx T (List.range' a m)),
          ∃ v ∈ pickIdx T (List.range' a m), (s.levels.getD lvl [])[j']? = some v ∧ j ≠ j' := by
        intro j' hj'
        obtain ⟨v, hjv, hvg⟩ := mem_groupPos.mp hj'
        refine ⟨v, hvg, hjv, fun e => hu ?_⟩
        subst e
        exact Option.some.inj (hju.symm.trans hjv) ▸ hvg
      rcases runInv_side hTkd hinv hca (List.getElem_mem hjl) hu with hs | hs
      · left
        intro j' hj'
        obtain ⟨v, hvg, hjv, hne⟩ := hpos j' hj'
        exact lt_of_sep hok (hkd h1) hju hjv hne (hs v hvg)
      · right
        intro j' hj'
        obtain ⟨v, hvg, hjv, hne⟩ := hpos j' hj'
        exact lt_of_sep hok (hkd h1) hjv hju (Ne.symm hne) (hs v hvg)
    · right
      intro j' hj'
      obtain ⟨v, hjv, _⟩ := mem_groupPos.mp hj'
      exact Nat.lt_of_lt_of_le (List.getElem?_eq_some_iff.mp hjv).1 (Nat.le_of_not_lt hjl)

theorem runInv_step {s1 : Lsm} (g : IsDropGroup s (groupCd s lvl ps (pickIdx T (List.range' a m)) st))
    (hinv : RunInv T c (s.levels.getD lvl [])) (hca : c ≤ a)
    (hc : s.compact (groupCd s lvl ps (pickIdx T (List.range' a m)) st) st.discardTs numKeep st.now = some s1) :
    RunInv T (a + m) (s1.levels.getD lvl []) := by
  obtain ⟨new0, hsp, hmem⟩ := sameLevel_level rfl rfl hc
  intro u hu
  rcases hmem u hu with hkept | hnew
  · obtain ⟨j, hj, _⟩ := LL.mem_removeIdx.mp hkept
    rcases hinv u (List.mem_of_getElem? hj) with ho | hn
    · exact .inl ho
    · right
      intro y hy
      obtain ⟨i, t, hic, hit, hyt⟩ := hn y hy
      exact ⟨i, t, by omega, hit, hyt⟩
  · right
    intro y hy
    obtain ⟨j', t0, hj'm, hj', hyt0⟩ := DG.new_from_block g hsp hnew hy
    obtain ⟨t, hjt, htg⟩ := mem_groupPos.mp hj'm
    obtain ⟨i, him, hit⟩ := LL.mem_pickIdx.mp htg
    have : t0 = t := Option.some.inj (hj'.symm.trans hjt)
    exact ⟨i, t0, (List.mem_range'_1.mp him).2, this ▸ hit, hyt0⟩

theorem groupsRun_reads (hTkd : KeyDisjoint T) (h1 : 1 ≤ lvl) (gs : List (List Nat))
    (hch : GChain c gs) (h : LsmInv s) (hv : VerBound s) (hl : LayeredX s)
    (hlt : lvl < s.levels.length) (hinv : RunInv T c (s.levels.getD lvl []))
    (hcuts : groupsCuts lvl ps numKeep (gs.map (pickIdx T)) s steps)
    (hrun : Lsm.dropGroupsRun lvl ps numKeep (gs.map (pickIdx T)) s steps = some (s', steps')) :
    RunOut ps steps s s' := by
  induction gs generalizing c s steps with
  | nil =>
    rw [List.map_nil, Lsm.dropGroupsRun] at hrun
    cases hrun
    exact ⟨h, hv, hl, fun _ _ _ _ _ => rfl, fun _ h => h⟩
  | cons g gs ih =>
    obtain ⟨a, m, rfl, _, hca, hch'⟩ := hch
    obtain ⟨st, steps1, s1, rfl, hds, hrun'⟩ := dropGroupsRun_cons_some hrun
    simp only [List.map_cons, groupsCuts, hds] at hcuts
    have hc := dropGroupStep_some hds
    have g := group_isDropGroup (ps := ps) (st := st) (m := m) h h1 hlt hTkd hinv hca
    have o1 : RunOut ps (st :: steps1) s s1 :=
      ⟨C29_group_step_inv h g hc hcuts.1, C29_group_step_verBound hv g hc, C29_group_step_layeredX hl g hc,
        fun k ts now hk hb => C29_group_step_reads h hv hl g hc hk (hb st List.mem_cons_self).1
          (hb st List.mem_cons_self).2,
        C29_group_step_subset g hc⟩
    exact o1.trans
      (ih hch' o1.inv o1.ver o1.lay ((sameLevel_frame rfl hc).len ▸ hlt) (runInv_step g hinv hca hc) hcuts.2 hrun')
      (fun _ h => List.mem_cons_of_mem _ h)

theorem levelsRun_reads (lvls : List Nat) (hrange : ∀ l ∈ lvls, 1 ≤ l ∧ l < s.levels.length) (h : LsmInv s)
    (hv : VerBound s) (hl : LayeredX s) (hcuts : levelsCuts ps numKeep lvls s steps)
    (hrun : Lsm.dropLevelsRun ps numKeep lvls s steps = some (s', steps')) : RunOut ps steps s s' := by
  induction lvls generalizing s steps with
  | nil =>
    rw [Lsm.dropLevelsRun] at hrun
    cases hrun
    exact ⟨h, hv, hl, fun _ _ _ _ _ => rfl, fun _ h => h⟩
  | cons l ls ih =>
    obtain ⟨s1, steps1, h1, h2⟩ := dropLevelsRun_cons_some hrun
    simp only [levelsCuts, h1] at hcuts
    obtain ⟨f1, hsub1⟩ := dropGroupsRun_frame _ h1
    obtain ⟨hr1, hr2⟩ := hrange l List.mem_cons_self
    have o1 : RunOut ps steps s s1 :=
      groupsRun_reads ((h.level (LL.levels_getD hr2)).2 hr1) hr1 _ (dropGroups_chain _ _) h hv hl hr2
        (fun _ hu => .inl (List.getElem?_of_mem hu)) hcuts.1 h1
    exact o1.trans (ih (fun l' hl' => f1.len ▸ hrange l' (List.mem_cons_of_mem _ hl')) o1.inv o1.ver o1.lay
      hcuts.2 h2) hsub1

end Passes

namespace PF

variable {s : Lsm} {cd : CompactDef}

theorem mem_mergedV {e : Ent} (he : e ∈ mergedV s cd) : e ∈ LL.topEnts s cd ∨ e ∈ LL.botEnts s cd :=
  List.mem_append.mp (mergedV_subset he)

end PF

theorem l0Cd_ok {s : Lsm} (h : LsmInv s) {ps : List Bytes} {base : Nat} (st : DropStep)
    (hne : s.levels.getD 0 [] ≠ []) (hb0 : 0 < base) (hbl : base < s.levels.length)
    (hbetween : ∀ j, 0 < j → j < base → s.levels.getD j [] = []) :
    CompactOk s (l0Cd s ps base st) ∧ TopsOldest s (l0Cd s ps base st) := by
  have h0 : 0 < s.levels.length := by omega
  have hthis : cdThisT s (l0Cd s ps base st) = s.levels.getD 0 [] := rfl
  have htop : (l0Cd s ps base st).top = List.range (s.levels.getD 0 []).length := rfl
  -- L0 is not empty, so it has a key range and `bot` is the run `overlapRange` computes
  obtain ⟨lo, hi, hkr⟩ := LL.keyRangeOf_some (h.level (LL.levels_getD h0)).1 hne
  obtain ⟨hbase, hexact⟩ := LL.cdBase_of_range (cd := l0Cd s ps base st) h h0 hbl
    (fun i hi => by rw [htop] at hi; exact List.mem_range.mp hi) List.pairwise_lt_range
    (fun hnil => by
      rw [htop, List.range_eq_nil] at hnil
      exact hne (List.eq_nil_of_length_eq_zero hnil))
    hb0 (by rw [l0Cd_tops]; exact hkr) (by simp only [l0Cd, hkr]; rfl)
  refine ⟨⟨hbase, .inl ⟨rfl, hb0, by rw [htop, List.length_range], fun j hj1 hj2 => hbetween j hj2 hj1, hexact⟩⟩,
    fun t ht => ?_⟩
  rw [hthis] at ht
  simp only [l0Cd] at ht
  rw [LL.removeIdx_range, List.drop_length] at ht
  cases ht

theorem l0Run_reads {s s' : Lsm} {ps : List Bytes} {base numKeep : Nat} {steps steps' : List DropStep}
    {k : Bytes} {ts now : Nat} (h : LsmInv s) (hv : VerBound s) (hl : LayeredX s)
    (hbl : base < s.levels.length) (hbetween : ∀ j, 0 < j → j < base → s.levels.getD j [] = [])
    (hk : hasAnyPrefix k ps = false) (hb : ∀ st ∈ steps, st.discardTs ≤ ts ∧ st.now ≤ now)
    (hrun : s.dropL0Run ps base numKeep steps = some (s', steps')) :
    visible now (s'.get k ts) = visible now (s.get k ts) := by
  rcases dropL0Run_cases hrun with ⟨rfl, _⟩ | ⟨st, rfl, hne, hbpos, hc⟩
  · rfl
  · obtain ⟨hok, hto⟩ := l0Cd_ok h (ps := ps) st hne hbpos hbl hbetween
    have hbst := hb st List.mem_cons_self
    exact LL.compact_reads_pfx h hv hok (fun _ => hl) (fun _ => hto)
      (fun h0 => by have : base = 0 := h0.2.1; omega) hk hc hbst.1 hbst.2

/-- the implementation cut the output tables of every same-level rewrite of the run where the
    user key changes (`addKeys` does; the harness checks it on every real compaction). The final
    L0 → base compaction needs no such condition for the reads. -/
def DropCuts (s : Lsm) (ps : List Bytes) (flushIds : List Nat) (numKeep : Nat) (steps : List DropStep) : Prop :=
  levelsCuts ps numKeep (dropLevels (s.flushAll flushIds)) (s.flushAll flushIds) steps

theorem levelsPart_out {s s2 : Lsm} {ps : List Bytes} {flushIds : List Nat} {base numKeep : Nat}
    {steps steps2 : List DropStep} (h : LsmInv s) (hv : VerBound s) (hl : LayeredX s)
    (hbl : base < s.levels.length)
    (hbetween : ∀ j, 0 < j → j < base → s.levels.getD j [] = [])
    (hcuts : DropCuts s ps flushIds numKeep steps)
    (h2 : Lsm.dropLevelsRun ps numKeep (dropLevels (s.flushAll flushIds)) (s.flushAll flushIds) steps =
      some (s2, steps2)) :
    RunOut ps steps s s2 ∧ (∀ st ∈ steps2, st ∈ steps) ∧ s2.imm = [] ∧
      base < s2.levels.length ∧ ∀ j, 0 < j → j < base → s2.levels.getD j [] = [] := by
  have h0 : 0 < s.levels.length := Nat.zero_lt_of_lt hbl
  obtain ⟨_, fi, fl, fo⟩ := flushAll_spec h0 flushIds
  obtain ⟨f2, hsub, hemp⟩ := dropLevelsRun_frame _ h2
  have o1 := flushAll_out h hv hl h0 flushIds ps steps
  refine ⟨o1.trans (levelsRun_reads _ (fun l hl' => mem_dropLevels.mp hl') o1.inv o1.ver o1.lay hcuts h2)
    (fun _ h => h), hsub, f2.imm.trans fi, by rw [f2.len, fl]; exact hbl, fun j hj1 hj2 => hemp j ?_⟩
  rw [getD_congr (fo j hj1)]
  exact hbetween j hj1 hj2

/-- **C29 — every other key is unchanged.** After `DropPrefix(ps)` (`Lsm.dropPrefixRun`: flush of
    all memtables, same-level rewrites of the table groups of every level `≥ 1` bottom-up, L0 into
    the base level) a read of any key *without* a dropped prefix, at a timestamp at or above every
    discard watermark the compactions used and on a clock not before theirs, returns what it
    returned before. -/
theorem C29_others_unchanged {s s' : Lsm} {ps : List Bytes} {flushIds : List Nat} {base numKeep : Nat}
    {steps : List DropStep} {k : Bytes} {ts now : Nat}
    (h : LsmInv s) (hv : VerBound s) (hl : LayeredX s) (h0 : 0 < s.levels.length)
    (hbl : base < s.levels.length) (hbetween : ∀ j, 0 < j → j < base → s.levels.getD j [] = [])
    (hcuts : DropCuts s ps flushIds numKeep steps)
    (hrun : s.dropPrefixRun ps flushIds base numKeep steps = some s')
    (hk : hasAnyPrefix k ps = false) (hb : ∀ st ∈ steps, st.discardTs ≤ ts ∧ st.now ≤ now) :
    visible now (s'.get k ts) = visible now (s.get k ts) := by
  rcases dropPrefixRun_some hrun with ⟨_, rfl⟩ | ⟨s2, steps2, h2, h3⟩
  · rfl
  · obtain ⟨o2, hsub, _, hbl2, hbetween2⟩ := levelsPart_out h hv hl hbl hbetween hcuts h2
    rw [l0Run_reads o2.inv o2.ver o2.lay hbl2 hbetween2 hk (fun st hst => hb st (hsub st hst)) h3,
      C01_read_spec o2.inv, o2.reads k ts now hk hb, C01_read_spec h]

/-! ## sanity: the theorem applies to the sample run of `C29State.lean` -/

section Sanity
open C29Sample

theorem sample_cuts : DropCuts s0 [[2]] [20, 21] 1 [st1, st2] := by
  unfold DropCuts
  rw [e1, e2]
  have hg1 : (dropGroups (sA.levels.getD 1 []) [[2]]).map (fun g => pickIdx (sA.levels.getD 1 []) g) = [] := by
    decide +kernel
  simp only [levelsCuts, e3, e4, levelCuts, hg, hg1, groupsCuts, and_true]
  refine ⟨stepCuts_of_le_one (Nat.le_refl 1), ?_⟩
  split <;> trivial

-- key `[1]` (no dropped prefix), read at `ts = 3 ≥ discardTs = 0`, clock 5
example : visible 5 (sEnd.get [1] 3) = visible 5 (s0.get [1] 3) :=
  C29_others_unchanged s0_inv s0_ver (by decide +kernel) (by decide +kernel) (by decide +kernel)
    (by intro j h1 h2; have : j = 1 := by omega
        subst this; rfl)
    sample_cuts C29_sample_run (by decide +kernel) (by decide +kernel)

end Sanity

end Badger
