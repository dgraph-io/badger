import BadgerProofs.Lemmas.BackupL
import BadgerProofs.Props.C25
/-!
# C24 — Backup and Load round-trip the database, including incremental chains (backup.go)

Views are lists of entries in internal-key order (user key ascending, newest version first):
the merged view of the source (`mergeAll lsm.sources`) and the memtable of the restored DB.
-/
namespace Badger
open SO BL

/-- a read of a sorted view at `ts`: the first (= newest) version `≤ ts` of `k`. -/
def viewGet (view : List Ent) (k : Bytes) (ts : Nat) : Option Ent :=
  view.find? (fun e => e.key == k && decide (e.ver ≤ ts))

/-- the meta bits a reader can observe: the value-pointer bit (an artefact of the value
    threshold of the DB holding the entry) and the transaction bits are storage details. -/
def normMeta (m : Nat) : Nat := clearBit (clearBit (clearBit m bitValuePointer) bitTxn) bitFinTxn

/-- what a reader observes of an entry: key, version, meta (delete / discard-earlier / merge
    bits), user meta, expiry, value. -/
def userView (e : Ent) : Bytes × Nat × Nat × Nat × Nat × Bytes :=
  (e.key, e.ver, normMeta e.emeta, e.umeta, e.exp, e.val)

/-- the visible read: absent when the newest version is a delete marker or has expired. -/
def visRead (view : List Ent) (k : Bytes) (ts now : Nat) : Option (Bytes × Nat × Nat × Nat × Nat × Bytes) :=
  (visible now (viewGet view k ts)).map userView

/-- the versions of `k` a snapshot at `R` holds, newest first. -/
def versionsAt (view : List Ent) (k : Bytes) (R : Nat) : List Ent :=
  view.filter (fun e => e.key == k && decide (e.ver ≤ R))

/-- the version of the first retention boundary (deleted / expired / discard-earlier entry)
    in a version list, 0 when there is none: Backup stops there. -/
def boundaryVer (now : Nat) (g : List Ent) : Nat :=
  match g.find? (fun e => deletedOrExpired e.emeta e.exp now || hasBit e.emeta bitDiscardEarlier) with
  | some b => b.ver
  | none => 0

/-- the KVs of a backup run reading at its ONE timestamp `R` (`Stream.beginRun`; by `C25_concat`
    / `C24_split_irrelevant` the split into key ranges does not matter):
    `DB.Backup(w, since)` sets `SinceTs = since`. -/
def backupKVs (view : List Ent) (since R now : Nat) : List Ent :=
  produceRange view (backupCfg [] since since now) R now { left := [], right := [] }

/-- hypotheses under which `KVLoader` never meets `ErrTxnTooBig` -/
def LoadFits (o : Opts) (kvs : List Ent) : Prop :=
  2 ≤ o.maxBatchCount ∧ ∀ e ∈ kvs, loadEstimate o.threshold e < o.maxBatchSize

/-- a source view as the harness builds them: sorted, versions ≥ 1 (so `version - 1` does not
    wrap), no internal `!badger!` keys. -/
def GoodView (view : List Ent) : Prop :=
  SortedEnts view ∧ (∀ e ∈ view, 1 ≤ e.ver) ∧ (∀ e ∈ view, badgerPrefix.isPrefixOf e.ikey = false)

namespace C24Aux

theorem viewGet_eq_newestLE {l : List Ent} (hs : SortedEnts l) (k : Bytes) (ts : Nat) :
    viewGet l k ts = newestLE l k ts := by
  rw [newestLE_sorted_eq_find? hs]
  unfold viewGet
  congr 1
  funext e
  exact Bool.eq_iff_iff.mpr (by simp)

theorem normMeta_testBit (m j : Nat) :
    (normMeta m).testBit j = (m.testBit j && (j != 1 && j != 6 && j != 7)) := by
  unfold normMeta
  rw [bitValuePointer_eq, bitTxn_eq, bitFinTxn_eq]
  simp only [testBit_clearBit, Bool.and_assoc]

/-- meta bytes that differ in bits 1, 6 and 7 only look the same to a reader -/
theorem normMeta_congr {a b : Nat} (h : ∀ j, j ≠ 1 → j ≠ 6 → j ≠ 7 → a.testBit j = b.testBit j) :
    normMeta a = normMeta b := by
  apply Nat.eq_of_testBit_eq
  intro j
  rw [normMeta_testBit, normMeta_testBit]
  cases hk : (j != 1 && j != 6 && j != 7)
  · rw [Bool.and_false, Bool.and_false]
  · simp only [Bool.and_eq_true, bne_iff_ne] at hk
    rw [h j hk.1.1 hk.1.2 hk.2]

/-- a KV that went through `Backup` and `writeToLSM` differs from the stored version in bits 1, 6 and 7 at most -/
theorem restored_testBit (d : Db) (now : Nat) (e : Ent) {j : Nat} (h1 : j ≠ 1) (h6 : j ≠ 6) (h7 : j ≠ 7) :
    (d.lsmForm (strip now e)).emeta.testBit j = e.emeta.testBit j :=
  (lsmForm_testBit d _ h1).trans (strip_testBit now e h6 h7)

theorem visible_restored (d : Db) (now : Nat) (e : Ent) :
    (visible now (some (d.lsmForm (strip now e)))).map userView = (visible now (some e)).map userView := by
  have hd : deletedOrExpired (d.lsmForm (strip now e)).emeta (d.lsmForm (strip now e)).exp now =
      deletedOrExpired e.emeta e.exp now := by
    rw [lsmForm_exp]
    exact dead_congr (restored_testBit d now e (by decide) (by decide) (by decide)) _ _
  simp only [visible, hd]
  cases hdead : deletedOrExpired e.emeta e.exp now with
  | true => simp
  | false =>
    simp only [Bool.false_eq_true, if_false, Option.map_some]
    congr 1
    unfold userView
    rw [lsmForm_key, lsmForm_ver, lsmForm_umeta, lsmForm_exp, lsmForm_val, normMeta_congr fun _ => restored_testBit d now e]
    show (e.key, e.ver, normMeta e.emeta, e.umeta, e.exp,
      if deletedOrExpired e.emeta e.exp now then [] else e.val) = _
    rw [hdead]
    rfl

theorem maxVersionOf_le {kvs : List Ent} {B : Nat} (h : ∀ e ∈ kvs, e.ver ≤ B) : maxVersionOf kvs ≤ B := by
  rcases (foldl_max_spec (·.ver) kvs 0).2.2 with h0 | ⟨x, hx, hv⟩
  · exact Nat.le_trans (Nat.le_of_eq h0) (Nat.zero_le _)
  · exact Nat.le_trans (Nat.le_of_eq hv.symm) (h x hx)

theorem mem_snapshotView_nil {view : List Ent} (hint : ∀ e ∈ view, badgerPrefix.isPrefixOf e.ikey = false)
    {since R : Nat} {e : Ent} :
    e ∈ snapshotView view [] since R ↔ e ∈ view ∧ e.ver ≤ R ∧ (since = 0 ∨ since < e.ver) := by
  rw [C25L.mem_snapshotView, inWindow_iff]
  exact ⟨fun h => ⟨h.1, h.2.2.2⟩, fun h => ⟨h.1, rfl, hint e h.1, h.2⟩⟩

theorem backupKVs_eq (view : List Ent) (hs : SortedEnts view) (since R now : Nat) :
    backupKVs view since R now = bk now (snapshotView view [] since R) := by
  unfold backupKVs produceRange
  show produceLoop (backupCfg [] since since now) [] none (rangeItems view [] since R now []) = _
  rw [C25_rangeItems_eq view hs [] since R now [] (.inl rfl), SL.dropWhile_lt_nil]
  refine produceLoop_bk since since now _ (List.Pairwise.filter _ hs) fun e he => ?_
  have := inWindow_iff.mp (C25L.mem_snapshotView.mp he).2.2.2
  omega

theorem mem_backupKVs {view : List Ent} (hg : GoodView view) {since R now : Nat} {x : Ent}
    (hx : x ∈ backupKVs view since R now) :
    ∃ e ∈ view, e.ver ≤ R ∧ (since = 0 ∨ since < e.ver) ∧ x ∈ emit now e := by
  rw [backupKVs_eq view hg.1] at hx
  obtain ⟨e, he, _, hxe⟩ := mem_bk.mp hx
  obtain ⟨he1, a, b⟩ := (mem_snapshotView_nil hg.2.2).mp he
  exact ⟨e, he1, a, b, hxe⟩

/-- where a KV of the restored memtable comes from: a version of the source the snapshot holds,
    with the same key; the KV has that version, or lies below it and the version is a boundary -/
theorem mem_restored {view : List Ent} (hg : GoodView view) (d : Db) {since R now : Nat} {y : Ent}
    (hy : y ∈ (backupKVs view since R now).map d.lsmForm) :
    ∃ e ∈ view, e.key = y.key ∧ e.ver ≤ R ∧ (since = 0 ∨ since < e.ver) ∧ y.ver ≤ e.ver ∧
      (y.ver = e.ver ∨ bdry now e = true) := by
  obtain ⟨y', hy', rfl⟩ := List.mem_map.mp hy
  obtain ⟨e, he, heR, hsn, hye⟩ := mem_backupKVs hg hy'
  rw [lsmForm_key, lsmForm_ver]
  exact ⟨e, he, (emit_key hye).symm, heR, hsn, emit_ver_le (hg.2.1 e he) hye,
    (emit_cases hye).imp (fun h => show y'.ver = (strip now e).ver from congrArg Ent.ver h) And.left⟩

theorem strip_mem_backupKVs {view : List Ent} (hg : GoodView view) {since R now : Nat} {n : Ent}
    (hn : n ∈ view) (hR : n.ver ≤ R) (hsn : since = 0 ∨ since < n.ver)
    (hl : ∀ x ∈ view, x.key = n.key → n.ver < x.ver → x.ver ≤ R → bdry now x = false) :
    strip now n ∈ backupKVs view since R now := by
  rw [backupKVs_eq view hg.1]
  refine mem_bk.mpr ⟨n, (mem_snapshotView_nil hg.2.2).mpr ⟨hn, hR, hsn⟩, ?_, mem_emit.mpr (.inl rfl)⟩
  rw [live_iff]
  intro x hx hk hv
  obtain ⟨hx1, hx2, _⟩ := (mem_snapshotView_nil hg.2.2).mp hx
  exact hl x hx1 hk hv hx2

/-- among the versions of one key a snapshot holds, the first boundary is the newest one -/
theorem boundary_le (now : Nat) {view : List Ent} (hs : SortedEnts view) {k : Bytes} {R : Nat} {x : Ent}
    (hx : x ∈ view) (hk : x.key = k) (hR : x.ver ≤ R) (hb : bdry now x = true) :
    x.ver ≤ boundaryVer now (versionsAt view k R) := by
  have hsg : SortedEnts (versionsAt view k R) := List.Pairwise.filter _ hs
  have hxg : x ∈ versionsAt view k R := List.mem_filter.mpr ⟨hx, by simp [hk, hR]⟩
  show x.ver ≤ match (versionsAt view k R).find? (bdry now) with | some b => b.ver | none => 0
  cases hf : (versionsAt view k R).find? (bdry now) with
  | none => exact absurd hb (by simpa using List.find?_eq_none.mp hf x hxg)
  | some b =>
    obtain ⟨_, as, bs, heq, has⟩ := List.find?_eq_some_iff_append.mp hf
    have hbk : b.key = k := by
      have : b ∈ versionsAt view k R := heq ▸ by simp
      simpa using (Bool.and_eq_true_iff.mp (List.mem_filter.mp this).2).1
    rw [heq] at hxg hsg
    -- a version of `k` above `b` stands before `b`, where there is no boundary
    refine Nat.le_of_not_lt fun hlt => ?_
    simpa [hb] using has x (hsg.newer_mem_prefix hxg (hk.trans hbk.symm) hlt)

/-- the read of `k` at `ts` from a restored memtable `M` is that from the source `S` when every
    version `≤ ts` of `k` in `M` lies at or below one in `S`, and the newest version `≤ ts` of `k`
    in `S` is in `M` in its restored form -/
theorem visRead_restored {M S : List Ent} (hM : SortedEnts M) (hS : SortedEnts S) (d : Db) (now : Nat)
    (k : Bytes) (ts : Nat)
    (hsub : ∀ y ∈ M, y.key = k → y.ver ≤ ts → ∃ e ∈ S, e.key = k ∧ e.ver ≤ ts ∧ y.ver ≤ e.ver)
    (hnew : ∀ n ∈ S, n.key = k → n.ver ≤ ts → (∀ y ∈ S, y.key = k → y.ver ≤ ts → y.ver ≤ n.ver) →
      d.lsmForm (strip now n) ∈ M) :
    visRead M k ts now = visRead S k ts now := by
  unfold visRead
  rw [viewGet_eq_newestLE hM, viewGet_eq_newestLE hS]
  cases hr : newestLE S k ts with
  | none =>
    rw [newestLE_eq_none_iff.mpr]
    rintro y hy ⟨hyk, hyv⟩
    obtain ⟨e, he, hek, hev, _⟩ := hsub y hy hyk hyv
    exact newestLE_eq_none_iff.mp hr e he ⟨hek, hev⟩
  | some n =>
    obtain ⟨hn, hnk, hnv, hmax⟩ := (newestLE_sorted_some_iff hS).mp hr
    rw [(newestLE_sorted_some_iff hM).mpr ⟨hnew n hn hnk hnv hmax, (lsmForm_key _ _).trans hnk,
      Nat.le_trans (Nat.le_of_eq (lsmForm_ver _ _)) hnv, ?_⟩, visible_restored]
    intro y hy hyk hyv
    obtain ⟨e, he, hek, hev, hye⟩ := hsub y hy hyk hyv
    rw [lsmForm_ver]
    exact Nat.le_trans hye (hmax e he hek hev)

/-- a 5-entry source: key `01` has versions 5 (transaction bit set), 3 (discard-earlier), 2;
    key `02` has a delete marker at 4 above a value at 1. -/
def exView : List Ent :=
  [ { key := [1], ver := 5, emeta := 64, umeta := 7, exp := 0, val := [10] },
    { key := [1], ver := 3, emeta := 4, umeta := 0, exp := 0, val := [11] },
    { key := [1], ver := 2, emeta := 0, umeta := 0, exp := 0, val := [12] },
    { key := [2], ver := 4, emeta := 1, umeta := 0, exp := 0, val := [] },
    { key := [2], ver := 1, emeta := 0, umeta := 0, exp := 0, val := [13] } ]

/-- the same source after two more commits (versions 6 and 7) -/
def exView2 : List Ent :=
  [ { key := [1], ver := 7, emeta := 0, umeta := 0, exp := 0, val := [20] },
    { key := [1], ver := 5, emeta := 64, umeta := 7, exp := 0, val := [10] },
    { key := [1], ver := 3, emeta := 4, umeta := 0, exp := 0, val := [11] },
    { key := [1], ver := 2, emeta := 0, umeta := 0, exp := 0, val := [12] },
    { key := [2], ver := 4, emeta := 1, umeta := 0, exp := 0, val := [] },
    { key := [2], ver := 1, emeta := 0, umeta := 0, exp := 0, val := [13] },
    { key := [3], ver := 6, emeta := 0, umeta := 0, exp := 0, val := [21] } ]

/-- maxBatchCount = 3: a request holds two entries at most, so loading the 4 KVs of the backup needs two requests -/
def exOpts : Opts := { maxBatchCount := 3, maxBatchSize := 1000 }

end C24Aux
open C24Aux

/-- After `Load`, `nextTxnTs` is above every loaded version (and never lowered). -/
theorem C24_load_ts (d : Db) (kvs : List Ent) (h : (d.load kvs).2 = true) :
    d.nextTs ≤ (d.load kvs).1.nextTs ∧ ∀ e ∈ kvs, e.ver < (d.load kvs).1.nextTs := by
  rw [load_spec d kvs h]
  have h := foldl_max_spec (fun e : Ent => e.ver + 1) kvs d.nextTs
  exact ⟨h.1, h.2.1⟩

/-- non-vacuity: a load that succeeds (the 4 KVs of the backup of `exView`, in two requests) -/
example : ((Db.init exOpts 0).load (backupKVs exView 0 5 0)).2 = true := by decide

/-- a `Load` that fits: the KVs in their `writeToLSM` form put into the memtable, nothing else touched -/
theorem C24Aux.load_eq (d : Db) (kvs : List Ent) (hf : LoadFits d.opts kvs) :
    d.load kvs = (mk d (putAll (kvs.map d.lsmForm) d.lsm.mem) (kvs.foldl bump d.nextTs), true) := by
  have hok := load_ok d kvs hf.1 hf.2
  exact Prod.ext (load_spec d kvs hok) hok

/-- the restored memtable is exactly the backup's KVs in their `writeToLSM` form (batching into
    requests is irrelevant), nothing else is touched. -/
theorem C24_load_mem (o : Opts) (now : Nat) (kvs : List Ent) (hs : SortedEnts kvs) (hf : LoadFits o kvs) :
    ((Db.init o now).load kvs).2 = true ∧
    ((Db.init o now).load kvs).1.lsm.mem = kvs.map (Db.init o now).lsmForm ∧
    ((Db.init o now).load kvs).1.lsm.imm = [] ∧
    ((Db.init o now).load kvs).1.lsm.levels = (Lsm.init o.maxLevels).levels := by
  rw [load_eq _ kvs hf]
  exact ⟨rfl, putAll_nil (sorted_lsmForm _ hs), rfl, rfl⟩

/-- non-vacuity: the backup of `exView` (4 KVs, one of them the synthetic delete marker below the
    discard-earlier version) is sorted and fits. -/
example : SortedEnts (backupKVs exView 0 5 0) ∧ LoadFits exOpts (backupKVs exView 0 5 0) := by
  unfold SortedEnts LoadFits; decide

/-- the KVs of a single-snapshot backup of a good view are sorted (so the restored memtable is
    that list). -/
theorem C24_backup_sorted (view : List Ent) (hg : GoodView view) (since R now : Nat) :
    SortedEnts (backupKVs view since R now) := by
  rw [backupKVs_eq view hg.1]
  apply sorted_bk now _ (List.Pairwise.filter _ hg.1)
  intro e he
  exact hg.2.1 e (List.mem_filter.mp he).1

example : GoodView exView := by unfold GoodView SortedEnts; decide

/-- load(backup s 0) serves, for every key and every `ts` from the key's first
    retention boundary up to the backup's read timestamp, the same visible read (version, meta
    bits, user meta, expiry, value) as the source. Below the boundary the restored DB has
    nothing (DESIGN §8.7). -/
theorem C24_full (view : List Ent) (hg : GoodView view) (o : Opts) (R now : Nat)
    (hf : LoadFits o (backupKVs view 0 R now)) (k : Bytes) (ts : Nat) (hts : ts ≤ R)
    (hb : boundaryVer now (versionsAt view k R) ≤ ts) :
    ((Db.init o now).load (backupKVs view 0 R now)).2 = true ∧
    visRead ((Db.init o now).load (backupKVs view 0 R now)).1.lsm.mem k ts now = visRead view k ts now := by
  have hsb := C24_backup_sorted view hg 0 R now
  obtain ⟨hok, hmem, _, _⟩ := C24_load_mem o now _ hsb hf
  refine ⟨hok, ?_⟩
  rw [hmem]
  have hbd : ∀ x ∈ view, x.key = k → x.ver ≤ R → bdry now x = true → x.ver ≤ ts :=
    fun x hx hk hR hb' => Nat.le_trans (boundary_le now hg.1 hx hk hR hb') hb
  apply visRead_restored (sorted_lsmForm _ hsb) hg.1
  · intro y hy hyk hyv
    obtain ⟨e, he, hek, heR, _, hye, hc⟩ := mem_restored hg _ hy
    refine ⟨e, he, hek.trans hyk, ?_, hye⟩
    rcases hc with h | h
    · exact h ▸ hyv
    · exact hbd e he (hek.trans hyk) heR h
  · intro n hn hnk hnv hmax
    apply List.mem_map_of_mem
    apply strip_mem_backupKVs hg hn (by omega) (.inl rfl)
    intro x hx hk hv hxR
    cases hb' : bdry now x with
    | false => rfl
    | true =>
      have h1 := hbd x hx (hk.trans hnk) hxR hb'
      have h2 := hmax x hx (hk.trans hnk) h1
      omega

/-- non-vacuity: key `01` of `exView` read at 4 (its boundary is the discard-earlier version 3),
    and the read is a real value; key `02` read at its boundary 4 (a delete marker). -/
example : GoodView exView ∧ LoadFits exOpts (backupKVs exView 0 5 0) ∧ 4 ≤ 5 ∧
    boundaryVer 0 (versionsAt exView [1] 5) ≤ 4 ∧ boundaryVer 0 (versionsAt exView [2] 5) ≤ 4 := by
  unfold GoodView SortedEnts LoadFits; decide
example : visRead exView [1] 4 0 = some ([1], 3, 4, 0, 0, [11]) ∧ visRead exView [2] 4 0 = none := by decide

/-- reads at the second backup's timestamp from the memtable a full and an incremental backup
    restore, loaded in that order -/
theorem C24Aux.visRead_chain {s1 s2 : List Ent} (h1 : GoodView s1) (h2 : GoodView s2) (d : Db)
    {R1 R2 now : Nat} (hR : R1 ≤ R2)
    (hchain : s2.filter (fun e => decide (e.ver ≤ maxVersionOf (backupKVs s1 0 R1 now))) =
              s1.filter (fun e => decide (e.ver ≤ R1))) (k : Bytes) :
    visRead (putAll ((backupKVs s2 (maxVersionOf (backupKVs s1 0 R1 now)) R2 now).map d.lsmForm)
        ((backupKVs s1 0 R1 now).map d.lsmForm)) k R2 now = visRead s2 k R2 now := by
  have sM1 := sorted_lsmForm d (C24_backup_sorted s1 h1 0 R1 now)
  have sL2 := sorted_lsmForm d
    (C24_backup_sorted s2 h2 (maxVersionOf (backupKVs s1 0 R1 now)) R2 now)
  -- the first backup's versions are `≤ R1`
  have hmaxR : maxVersionOf (backupKVs s1 0 R1 now) ≤ R1 := by
    apply maxVersionOf_le
    intro x hx
    obtain ⟨e, he, heR, _, hxe⟩ := mem_backupKVs h1 hx
    exact Nat.le_trans (emit_ver_le (h1.2.1 e he) hxe) heR
  generalize maxVersionOf (backupKVs s1 0 R1 now) = max1 at *
  -- the chain hypothesis: below `max1` the second source is the first one below `R1`
  have hc : ∀ e, (e ∈ s2 ∧ e.ver ≤ max1) ↔ (e ∈ s1 ∧ e.ver ≤ R1) := fun e => by
    simpa using congrArg (e ∈ ·) hchain
  have hin1 : ∀ y ∈ (backupKVs s1 0 R1 now).map d.lsmForm,
      ∃ e ∈ s2, e.key = y.key ∧ e.ver ≤ max1 ∧ y.ver ≤ e.ver := by
    intro y hy
    obtain ⟨e, he, hek, heR, _, hye, _⟩ := mem_restored h1 d hy
    obtain ⟨a, b⟩ := (hc e).mpr ⟨he, heR⟩
    exact ⟨e, a, hek, b, hye⟩
  apply visRead_restored (foldl_memPut_sorted sM1) h2.1
  · intro y hy hyk hyv
    rcases mem_foldl_memPut hy with hy | hy
    · obtain ⟨e, he, hek, heR, _, hye, _⟩ := mem_restored h2 d hy
      exact ⟨e, he, hek.trans hyk, heR, hye⟩
    · obtain ⟨e, he, hek, hem, hye⟩ := hin1 y hy
      exact ⟨e, he, hek.trans hyk, by omega, hye⟩
  · intro n hn hnk hnv hmax
    by_cases hn1 : max1 < n.ver
    · -- the newest version is in the incremental backup
      refine mem_foldl_memPut_of_distinct (sorted_distinct sL2) (List.mem_map_of_mem ?_)
      apply strip_mem_backupKVs h2 hn hnv (.inr hn1)
      intro x hx hk hv hxR
      have := hmax x hx (hk.trans hnk) hxR
      omega
    · -- the newest version is at or below the first backup's maximum: the first backup has it,
      -- the second has nothing for `k`
      obtain ⟨hns1, hnR1⟩ := (hc n).mp ⟨hn, Nat.le_of_not_lt hn1⟩
      refine mem_foldl_memPut_keep ?_ ?_
      · apply List.mem_map_of_mem
        apply strip_mem_backupKVs h1 hns1 hnR1 (.inl rfl)
        intro x hx hk hv hxR
        obtain ⟨a, b⟩ := (hc x).mpr ⟨hx, hxR⟩
        have := hmax x a (hk.trans hnk) (by omega)
        omega
      · intro y hy hsame
        obtain ⟨e, he, hek, heR, hsn, _⟩ := mem_restored h2 d hy
        have h3 := hmax e he (hek.trans (hsame.1.symm.trans ((lsmForm_key _ _).trans hnk))) heR
        have h4 := h2.2.1 e he
        omega

/-- A full backup at `R1` followed by an incremental one at `R2` taken with
    `since` = the version the first returned, loaded in that order into an empty DB, reproduce
    the source's final visible state — provided the history between them only grew above the
    returned version (a compaction that drops a delete marker breaks this: finding F19). Each
    backup reads one snapshot (`Stream.beginRun`; `C24_split_irrelevant`). -/
theorem C24_incremental (s1 s2 : List Ent) (h1 : GoodView s1) (h2 : GoodView s2) (o : Opts) (R1 R2 now : Nat)
    (hR : R1 ≤ R2)
    (hchain : s2.filter (fun e => decide (e.ver ≤ maxVersionOf (backupKVs s1 0 R1 now))) =
              s1.filter (fun e => decide (e.ver ≤ R1)))
    (hf1 : LoadFits o (backupKVs s1 0 R1 now))
    (hf2 : LoadFits o (backupKVs s2 (maxVersionOf (backupKVs s1 0 R1 now)) R2 now)) (k : Bytes) :
    let b1 := backupKVs s1 0 R1 now
    let b2 := backupKVs s2 (maxVersionOf b1) R2 now
    let r1 := (Db.init o now).load b1
    let r2 := r1.1.load b2
    r1.2 = true ∧ r2.2 = true ∧ visRead r2.1.lsm.mem k R2 now = visRead s2 k R2 now := by
  intro b1 b2 r1 r2
  have hr1 : r1 = (_, true) := load_eq _ b1 hf1
  have hr2 : r2 = (_, true) := (congrArg (fun r : Db × Bool => r.1.load b2) hr1).trans (load_eq _ b2 hf2)
  rw [hr1, hr2]
  refine ⟨rfl, rfl, ?_⟩
  rw [mk_mem, mk_mem, lsmForm_mk, show (Db.init o now).lsm.mem = [] from rfl,
    putAll_nil (sorted_lsmForm _ (C24_backup_sorted s1 h1 0 R1 now))]
  exact visRead_chain h1 h2 _ hR hchain k

/-- non-vacuity: full backup of `exView` at 5 (returns version 5), incremental backup of
    `exView2` at 7 with `since = 5`. -/
example : GoodView exView ∧ GoodView exView2 ∧ 5 ≤ 7 ∧
    exView2.filter (fun e => decide (e.ver ≤ maxVersionOf (backupKVs exView 0 5 0))) =
      exView.filter (fun e => decide (e.ver ≤ 5)) ∧
    LoadFits exOpts (backupKVs exView 0 5 0) ∧
    LoadFits exOpts (backupKVs exView2 (maxVersionOf (backupKVs exView 0 5 0)) 7 0) := by
  unfold GoodView SortedEnts LoadFits; decide
example : visRead exView2 [1] 7 0 = some ([1], 7, 0, 0, 0, [20]) ∧ visRead exView2 [2] 7 0 = none := by decide

def f19k1 : Ent := { key := [0x6b], ver := 1, emeta := 64, umeta := 0, exp := 0, val := [0x76] }
def f19k2 : Ent := { key := [0x6b], ver := 2, emeta := 65, umeta := 0, exp := 0, val := [] }
def f19z3 : Ent := { key := [0x7a], ver := 3, emeta := 64, umeta := 0, exp := 0, val := [1] }
/-- the source at the first backup (`k = v @1`) … -/
def f19S1 : List Ent := [f19k1]
/-- … and after `delete k @2`, a commit `@3` and an L0 → Lmax compaction with discard
    timestamp 2 and no overlap below (`subcompact`): the marker and everything under it are gone. -/
def f19S2 : List Ent :=
  subcompact { discardTs := 2, numKeep := 1, hasOverlap := false, now := 0, dropPrefixes := [] } [f19k2, f19k1, f19z3]

/-- negation witness for `C24_incremental` without its hypothesis `hchain` (the history between
    two backups only grew): the source reads `k` as absent, the restored chain (full backup at 1,
    incremental backup with `since` = the returned version 1 at 3) still reads `k = v`. -/
theorem C24_F19_lost_tombstone_witness :
    f19S2 = [f19z3] ∧
    (let o : Opts := { maxBatchCount := 100, maxBatchSize := 10000 }
     let b1 := backupKVs f19S1 0 1 0
     let b2 := backupKVs f19S2 (maxVersionOf b1) 3 0
     let r2 := ((Db.init o 0).load b1).1.load b2
     maxVersionOf b1 = 1 ∧ r2.2 = true ∧
     visRead f19S2 [0x6b] 3 0 = none ∧
     visRead r2.1.lsm.mem [0x6b] 3 0 = some ([0x6b], 1, 0, 0, 0, [0x76])) := by
  decide

end Badger
