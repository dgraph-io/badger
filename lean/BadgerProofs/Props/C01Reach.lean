import BadgerModel.Mvcc
import BadgerProofs.Props.C12Choice
/-!
# C01 — reachable LSM states are good, and a read equals the newest committed write `≤ ts`
over the HISTORY of commits

`Reach nlev hist dmax nowmax s`: `s` is reached from `Lsm.init nlev` by a finite sequence of
* commits: `memPut` of an entry whose version is `>` every committed version of its own key (no
  order is required across different keys, so managed-mode histories with caller-chosen,
  globally non-monotone commit timestamps are covered; a batch commit at one fresh timestamp is a
  sequence of such steps with pairwise distinct keys: `FreshSeq`, `reach_fresh`, `freshSeq_uniform`),
* memtable flushes,
* re-orderings of level 0 (`resort`: what `Open` does when it sorts L0 by file id — nothing below
  depends on the order of the L0 tables),
* compactions the production pickers can choose (`validChoice`, checked at run time against the
  implementation) whose output tables are cut only where the user key changes;
`hist` lists every entry ever committed, `dmax` / `nowmax` are the largest `discardTs` / clock any
compaction used. No hypothesis about the state is left: `C01_reach_good`, `C01_reach_reads`. Both are
fields of `Tracks hist dmax nowmax s`, which every kind of step preserves.
-/
namespace Badger

inductive Reach (nlev : Nat) : List Ent → Nat → Nat → Lsm → Prop
  | init : Reach nlev [] 0 0 (Lsm.init nlev)
  | put {hist : List Ent} {dm nm : Nat} {s : Lsm} (r : Reach nlev hist dm nm s) (e : Ent)
      (hpos : 0 < e.ver) (hmax : e.ver ≤ maxU64)
      (hfresh : ∀ x ∈ hist, x.key = e.key → x.ver < e.ver) : Reach nlev (e :: hist) dm nm (s.putEnt e)
  | flush {hist : List Ent} {dm nm : Nat} {s : Lsm} (r : Reach nlev hist dm nm s) (id : Nat) :
      Reach nlev hist dm nm (s.flush id)
  | resort {hist : List Ent} {dm nm : Nat} {s : Lsm} (r : Reach nlev hist dm nm s) {l0 l0' : List Tbl}
      {rest : List (List Tbl)} (hl : s.levels = l0 :: rest) (hp : l0'.Perm l0) :
      Reach nlev hist dm nm { s with levels := l0' :: rest }
  | compact {hist : List Ent} {dm nm : Nat} {s s' : Lsm} (r : Reach nlev hist dm nm s) (cd : CompactDef)
      (d n now' : Nat) (hi : ChoiceIdxOk s cd) (htop : cd.top ≠ []) (hvc : validChoice s cd = true)
      (hdp : cd.dropPrefixes = []) (hs : s.compact cd d n now' = some s')
      (hcut : ∀ new0, splitSizes cd.outSizes (compactOutput s cd d n now').1 = some new0 →
        CutsAtKeyChange (withIds new0 cd.outIds)) :
      Reach nlev hist (max dm d) (max nm now') s'

/-- each entry is above every earlier write of its own key (earlier in the batch or in `hist`) -/
def FreshSeq (hist : List Ent) : List Ent → Prop
  | [] => True
  | e :: es => 0 < e.ver ∧ e.ver ≤ maxU64 ∧ (∀ x ∈ hist, x.key = e.key → x.ver < e.ver) ∧ FreshSeq (e :: hist) es

instance FreshSeq.dec : (hist es : List Ent) → Decidable (FreshSeq hist es)
  | _, [] => isTrue trivial
  | hist, e :: es => by
    have := FreshSeq.dec (e :: hist) es
    unfold FreshSeq
    infer_instance

namespace LL

theorem init_level {n i : Nat} {tbls : List Tbl} (hi : (Lsm.init n).levels[i]? = some tbls) : tbls = [] :=
  List.eq_of_mem_replicate (List.mem_of_getElem? hi)

theorem init_good (n : Nat) : LsmGood (Lsm.init n) := by
  have hno : ∀ e, e ∉ (Lsm.init n).allEntries := by simp [init_allEntries]
  refine ⟨⟨sortedEnts_nil, fun _ hm => absurd hm List.not_mem_nil, ?_, fun e he => absurd he (hno e)⟩,
    fun e he => absurd he (hno e), ?_, fun x hx => absurd hx (hno x), rfl⟩
  · rintro ⟨i, tbls⟩ hp
    cases init_level ((mem_zipIdx _ _ _).mp hp)
    exact ⟨fun _ ht => absurd ht List.not_mem_nil, fun _ => List.Pairwise.nil⟩
  · rw [layeredX_iff]
    refine ⟨List.pairwise_singleton _ _, fun x hx => absurd hx List.not_mem_nil, ?_⟩
    rintro i _ _ _ _ ⟨tbls, t, hi, ht, _⟩
    rw [init_level hi] at ht
    cases ht

end LL

theorem LL.init_get (n : Nat) (k : Bytes) (ts : Nat) : (Lsm.init n).get k ts = none := by
  rw [C01_get_spec (LL.init_good n).1, LL.init_allEntries]
  rfl

/-- the tree `s` is a faithful store of the committed history `hist` for every reader at or above the
    watermark `dm` on a clock `≥ nm`: it is good, stores only committed entries, an internal key
    determines the committed entry, and a read returns the newest committed write. This is what every
    history theorem of C01 / C13 / C29 says about a reachable state; each kind of step preserves it
    (`Tracks.put`, `.flush`, `.resort`, `.compact`; the drops in `C29Reach.lean`). (No statement
    about the ORDER of the L0 tables: `C12_validChoice_topsOldest` gives `TopsOldest` whatever that order is.) -/
structure Tracks (hist : List Ent) (dm nm : Nat) (s : Lsm) : Prop where
  good : LsmGood s
  stored : ∀ e ∈ s.allEntries, e ∈ hist
  uniq : LL.KVFun hist
  reads : ∀ {ts now : Nat}, dm ≤ ts → nm ≤ now → ∀ k : Bytes,
    visible now (s.get k ts) = visible now (newestLE hist k ts)

namespace Tracks

variable {hist : List Ent} {dm nm : Nat} {s : Lsm}

theorem init (n : Nat) : Tracks [] 0 0 (Lsm.init n) :=
  ⟨LL.init_good n, by simp [LL.init_allEntries], fun _ hx => absurd hx List.not_mem_nil,
    fun _ _ k => by rw [LL.init_get]; rfl⟩

theorem mono (h : Tracks hist dm nm s) {dm' nm' : Nat} (hd : dm ≤ dm') (hn : nm ≤ nm') : Tracks hist dm' nm' s :=
  ⟨h.good, h.stored, h.uniq, fun hts hnow => h.reads (Nat.le_trans hd hts) (Nat.le_trans hn hnow)⟩

/-- a commit above every committed version of its key: a read sees it exactly when the history does -/
theorem put (h : Tracks hist dm nm s) {e : Ent} (hpos : 0 < e.ver) (hmax : e.ver ≤ maxU64)
    (hfresh : ∀ x ∈ hist, x.key = e.key → x.ver < e.ver) : Tracks (e :: hist) dm nm (s.putEnt e) := by
  have hi := h.good.1
  refine ⟨h.good.put hpos hmax (fun x hx hk => hfresh x (h.stored x hx) hk), fun x hx => ?_,
    LL.kvFun_cons h.uniq hfresh, fun {ts now} hts hnow k => ?_⟩
  · rcases LL.mem_allEntries_put hx with rfl | hx'
    · exact List.mem_cons_self
    · exact List.mem_cons_of_mem _ (h.stored x hx')
  rw [C12_put_reads hi hpos, LL.newestLE_cons, LL.newestLE_cons, ← C01_get_spec hi]
  by_cases hc : e.key = k ∧ e.ver ≤ ts
  · rw [show LL.cand k ts e = some e from if_pos hc,
      LL.pick_some_left fun x hg => Nat.le_of_lt
        (hfresh x (h.stored x (C01_get_some hi hg).1) ((C01_get_some hi hg).2.1.trans hc.1.symm)),
      LL.pick_some_left fun x hg => Nat.le_of_lt
        (hfresh x (LL.newestLE_some hg).1 ((LL.newestLE_some hg).2.1.trans hc.1.symm))]
  · rw [show LL.cand k ts e = none from if_neg hc]
    exact h.reads hts hnow k

theorem flush (h : Tracks hist dm nm s) (id : Nat) : Tracks hist dm nm (s.flush id) :=
  ⟨h.good.flush id, fun x hx => h.stored x ((LL.mem_allEntries_flush s id x).mp hx), h.uniq,
    fun hts hnow k => by rw [C12_flush_reads_noimm h.good.1 h.good.2.2.2.2]; exact h.reads hts hnow k⟩

theorem resort (h : Tracks hist dm nm s) {l0 l0' : List Tbl} {rest : List (List Tbl)} (hl : s.levels = l0 :: rest)
    (hp : l0'.Perm l0) : Tracks hist dm nm { s with levels := l0' :: rest } := by
  refine ⟨h.good.resort hl hp, fun x hx => h.stored x ((LL.mem_allEntries_resort hl hp x).mp hx), h.uniq,
    fun hts hnow k => ?_⟩
  rw [LL.resort_get h.good.1 hl hp (fun a ha b hb x hx y hy => ?_)]
  · exact h.reads hts hnow k
  have hm : ∀ {t : Tbl} {z : Ent}, t ∈ l0 → z ∈ t.ents → z ∈ s.allEntries := fun ht hz =>
    LL.mem_allEntries_of_level (i := 0) ⟨l0, _, by rw [hl]; rfl, ht, hz⟩
  exact h.good.2.2.2.1 x (hm ha hx) y (hm hb hy)

theorem compactOk (h : Tracks hist dm nm s) {cd : CompactDef} (hi : ChoiceIdxOk s cd) (htop : cd.top ≠ [])
    (hvc : validChoice s cd = true) : CompactOk s cd :=
  C12_validChoice_compactOk h.good.1 h.good.2.1 hi htop hvc

theorem compact (h : Tracks hist dm nm s) {s' : Lsm} {cd : CompactDef} {d n now' : Nat} (hi : ChoiceIdxOk s cd)
    (htop : cd.top ≠ []) (hvc : validChoice s cd = true) (hdp : cd.dropPrefixes = [])
    (hs : s.compact cd d n now' = some s')
    (hcut : StepCuts s cd d n now') : Tracks hist (max dm d) (max nm now') s' := by
  obtain ⟨hg, hv, hl, hu, _⟩ := h.good
  have hc := h.compactOk hi htop hvc
  refine ⟨h.good.compact hc (C12_validChoice_topsOldest hg hi.1 htop hvc) hs hcut,
    fun x hx => h.stored x (LL.mem_allEntries_compact hc.1.1 hc.1.2.1 hs hx), h.uniq, fun hts hnow k => ?_⟩
  rw [C12_compact_reads_valid hg hv hl hu hi htop hvc hdp hs (Nat.max_le.mp hts).2 (Nat.max_le.mp hnow).2]
  exact h.reads (Nat.max_le.mp hts).1 (Nat.max_le.mp hnow).1 k

end Tracks

theorem Reach.tracks {nlev : Nat} {hist : List Ent} {dm nm : Nat} {s : Lsm} (r : Reach nlev hist dm nm s) :
    Tracks hist dm nm s := by
  induction r with
  | init => exact .init nlev
  | put _ e hpos hmax hfresh ih => exact ih.put hpos hmax hfresh
  | flush _ id ih => exact ih.flush id
  | resort _ hl hp ih => exact ih.resort hl hp
  | compact _ cd d n now' hi htop hvc hdp hs hcut ih => exact ih.compact hi htop hvc hdp hs hcut

/-- every reachable state is good: the structural invariant, `uint64` versions, recency across
    sources, uniqueness of internal keys — the hypotheses of C01 / C12 / C14 — hold with no
    assumption about the state. -/
theorem C01_reach_good {nlev : Nat} {hist : List Ent} {dm nm : Nat} {s : Lsm} (r : Reach nlev hist dm nm s) :
    LsmGood s := r.tracks.good

theorem C01_reach_get_spec {nlev : Nat} {hist : List Ent} {dm nm : Nat} {s : Lsm} (r : Reach nlev hist dm nm s)
    (k : Bytes) (ts : Nat) : s.get k ts = newestLE s.allEntries k ts :=
  C01_get_spec (C01_reach_good r).1 k ts

/-- end to end: in a reachable state a read at `ts ≥` every `discardTs` used so far (at a clock
    `≥` every compaction's clock) returns the newest committed write `≤ ts` of the key over the whole
    HISTORY of commits — whatever has been flushed, compacted or dropped since. -/
theorem C01_reach_reads {nlev : Nat} {hist : List Ent} {dm nm : Nat} {s : Lsm} (r : Reach nlev hist dm nm s)
    {ts now : Nat} (hts : dm ≤ ts) (hnow : nm ≤ now) (k : Bytes) :
    visible now (s.get k ts) = visible now (newestLE hist k ts) := r.tracks.reads hts hnow k

/-- the committed history is itself well formed: an internal key determines the entry -/
theorem C01_reach_hist_unique {nlev : Nat} {hist : List Ent} {dm nm : Nat} {s : Lsm}
    (r : Reach nlev hist dm nm s) : LL.KVFun hist := r.tracks.uniq

/-- a batch of fresh entries is a sequence of `Reach.put`s -/
theorem reach_fresh {nlev : Nat} {hist : List Ent} {dm nm : Nat} {s : Lsm} (r : Reach nlev hist dm nm s)
    (es : List Ent) (hf : FreshSeq hist es) :
    Reach nlev (es.reverse ++ hist) dm nm (es.foldl (fun s e => s.putEnt e) s) := by
  induction es generalizing hist s with
  | nil => exact r
  | cons e es ih =>
    obtain ⟨h1, h2, h3, h4⟩ := hf
    have := ih (Reach.put r e h1 h2 h3) h4
    rwa [List.reverse_cons, List.append_assoc]

theorem freshSeq_uniform {es : List Ent} {v : Nat} (hv : ∀ e ∈ es, e.ver = v) (hpos : 0 < v) (hmax : v ≤ maxU64)
    (hkeys : es.Pairwise (fun a b => a.key ≠ b.key)) {hist : List Ent}
    (hnew : ∀ x ∈ hist, ∀ e ∈ es, x.key = e.key → x.ver < v) : FreshSeq hist es := by
  induction es generalizing hist with
  | nil => trivial
  | cons e es ih =>
    obtain ⟨hk1, hk2⟩ := List.pairwise_cons.mp hkeys
    have hev : e.ver = v := hv e List.mem_cons_self
    refine ⟨hev ▸ hpos, hev ▸ hmax, fun x hx hk => hev ▸ hnew x hx e List.mem_cons_self hk,
      ih (fun e' he' => hv e' (List.mem_cons_of_mem _ he')) hk2 fun x hx e' he' hk => ?_⟩
    rcases List.mem_cons.mp hx with rfl | hx
    · exact absurd hk (hk1 e' he')
    · exact hnew x hx e' (List.mem_cons_of_mem _ he') hk

theorem reach_levels_length {nlev : Nat} {hist : List Ent} {dm nm : Nat} {s : Lsm}
    (r : Reach nlev hist dm nm s) : s.levels.length = nlev := by
  induction r with
  | init => exact List.length_replicate
  | put _ e _ _ _ ih => exact ih
  | flush _ id ih =>
    rcases LL.flush_eq_self_or _ id with h | ⟨l0, rest, hl, _, h⟩
    · rwa [h]
    · rw [h, ← ih, hl]
      rfl
  | resort _ hl hp ih =>
    rw [hl] at ih
    exact ih
  | compact _ cd d n now' hi htop hvc hdp hs hcut ih =>
    obtain ⟨new0, _, rfl⟩ := LL.compact_some hs
    show (LL.newLevels _ cd new0).length = _
    unfold LL.newLevels
    rw [List.length_set, List.length_set, ih]

/-- the memtable after the batch is what `Db.commit` computes (`entries.foldl memPut`) -/
theorem C01_foldl_putEnt (s : Lsm) (es : List Ent) :
    es.foldl (fun s e => s.putEnt e) s = { s with mem := es.foldl (fun m e => memPut e m) s.mem } := by
  induction es generalizing s with
  | nil => rfl
  | cons e es ih => simp only [List.foldl_cons]; rw [ih]; rfl

/-- what `Txn.Get` reports for a snapshot result -/
def getResOf : Option Ent → GetRes
  | some e => .found e e.ver
  | none => .notfound

theorem getResOf_found {g : Option Ent} {e : Ent} {v : Nat} (h : getResOf g = .found e v) :
    g = some e ∧ e.ver = v := by
  cases g with
  | none => cases h
  | some x =>
    injection h with h1 h2
    exact ⟨congrArg some h1, h1 ▸ h2⟩

/-! non-vacuity: `init 2` → commit `1@1` → flush → the pickers' L0 → L1 compaction -/
def C01_reachE : Ent := ⟨[1], 1, 0, 0, 0, [7]⟩
def C01_reachS2 : Lsm := ((Lsm.init 2).putEnt C01_reachE).flush 5
def C01_reachCd : CompactDef :=
  { thisLevel := 0, nextLevel := 1, top := [0], bot := [], outSizes := [1], dropPrefixes := [] }
def C01_reachS3 : Lsm := { mem := [], imm := [], levels := [[], [{ ents := [C01_reachE] }]] }

theorem C01_reachS3_eq : C01_reachS2.compact C01_reachCd 0 1 0 = some C01_reachS3 := by decide +kernel

theorem C01_reachCuts : StepCuts C01_reachS2 C01_reachCd 0 1 0 := stepCuts_of_le_one (Nat.le_refl 1)

theorem C01_reachFlushed : Reach 2 [C01_reachE] 0 0 C01_reachS2 :=
  .flush (.put .init C01_reachE (by decide) (by decide) (by simp)) 5

theorem C01_reachRun : Reach 2 [C01_reachE] 0 0 C01_reachS3 :=
  .compact C01_reachFlushed C01_reachCd 0 1 0 (by decide) (by decide) (by decide) rfl C01_reachS3_eq C01_reachCuts

example : Reach 2 [C01_reachE] 0 0 C01_reachS3 ∧
    visible 0 (C01_reachS3.get [1] 4) = visible 0 (newestLE [C01_reachE] [1] 4) :=
  ⟨C01_reachRun, C01_reach_reads C01_reachRun (by decide) (by decide) [1]⟩

/-! non-vacuity of `resort`: two flushed tables, L0 re-ordered as a reopen may do -/
def C01_reachE2 : Ent := ⟨[2], 2, 0, 0, 0, [8]⟩

example : ∃ s, Reach 2 [C01_reachE2, C01_reachE] 0 0 s ∧
    s.levels = [[{ ents := [C01_reachE2], id := 6 }, { ents := [C01_reachE], id := 5 }], []] ∧
    visible 0 (s.get [1] 4) = visible 0 (newestLE [C01_reachE2, C01_reachE] [1] 4) := by
  have r3 := Reach.put C01_reachFlushed C01_reachE2 (by decide) (by decide) (by decide)
  have r4 := Reach.flush r3 6
  have r5 := Reach.resort r4 (l0 := [{ ents := [C01_reachE], id := 5 }, { ents := [C01_reachE2], id := 6 }])
    (l0' := [{ ents := [C01_reachE2], id := 6 }, { ents := [C01_reachE], id := 5 }]) (rest := [[]]) (by decide)
    (List.Perm.swap _ _ _)
  exact ⟨_, r5, rfl, C01_reach_reads r5 (by decide) (by decide) [1]⟩

end Badger
