import BadgerProofs.Lemmas.LsmInv
/-!
# C01 — `DB.get` returns the newest version `≤ ts` over all sources

`Lsm.get` mirrors `DB.get` / `levelsController.get` / `levelHandler.get`: memtables newest
first, level 0 newest table first with a strict `<` on versions, levels `≥ 1` by the "first
table whose biggest key is `≥ key@ts`" search + seek + `SameKey`, an early exit on an exact
version match and a running maximum with strict `<`. Under the structural invariant `LsmInv`
(`Lemmas/LsmInv.lean`) it equals the specification `newestLE` over all entries in
read-precedence order (the earliest source wins ties).
-/
namespace Badger

/-- the read under the weaker invariant (levels `≥ 1` sorted by *internal* key only), which is all it needs -/
theorem C01_get_spec_weak {s : Lsm} (h : LsmInvW s) (k : Bytes) (ts : Nat) :
    s.get k ts = newestLE s.allEntries k ts := by
  open LL in
  have hres := get_results h k ts
  unfold Lsm.get
  simp only
  rw [show (List.map (fun x => match x with | (i, tbls) => levelGet i tbls k ts) (zipIdx s.levels)) =
      (zipIdx s.levels).map (fun (p : Nat × List Tbl) => levelGet p.1 p.2 k ts) from rfl]
  rw [hres, foldl_accStep _ _ _ (accOk_init ts)]
  · rw [List.foldl_map]
    have := newestLE_flatten_foldl (chunks s) k ts none
    simp only [pick_none_left] at this
    rw [← chunks_flatten]
    exact this
  · intro r hr e he
    obtain ⟨c, hc, rfl⟩ := List.mem_map.mp hr
    obtain ⟨m1, _, m3, _⟩ := newestLE_some he
    exact ⟨h.2.2.2 e (mem_allEntries_of_chunk hc m1), m3⟩

/-- `DB.get` = newest version `≤ ts`, earliest source winning ties. (No hypothesis on `ts` is
    needed: for `ts = 0` both sides are `none` because versions are positive.) -/
theorem C01_get_spec {s : Lsm} (h : LsmInv s) (k : Bytes) (ts : Nat) :
    s.get k ts = newestLE s.allEntries k ts :=
  C01_get_spec_weak (LL.lsmInv_weaken h) k ts

/-- what the user sees: delete markers and expired entries read as absent -/
theorem C01_read_spec {s : Lsm} (h : LsmInv s) (k : Bytes) (ts now : Nat) :
    visible now (s.get k ts) = s.specGet k ts now := by
  rw [C01_get_spec h]; rfl

theorem C01_get_some {s : Lsm} (h : LsmInv s) {k : Bytes} {ts : Nat} {e : Ent} (hg : s.get k ts = some e) :
    e ∈ s.allEntries ∧ e.key = k ∧ e.ver ≤ ts ∧ ∀ x ∈ s.allEntries, x.key = k → x.ver ≤ ts → x.ver ≤ e.ver := by
  rw [C01_get_spec h] at hg; exact LL.newestLE_some hg

theorem C01_get_none {s : Lsm} (h : LsmInv s) (k : Bytes) (ts : Nat) :
    s.get k ts = none ↔ ∀ x ∈ s.allEntries, ¬ (x.key = k ∧ x.ver ≤ ts) := by
  rw [C01_get_spec h]; exact newestLE_eq_none_iff

/-- The invariant is needed: the version-0 entry below is stored and admissible, but `get`
    (`maxVs.Version < vs.Version` with an empty `maxVs`) does not return it. -/
theorem C01_version_zero_not_returned :
    ∃ s : Lsm, (∀ p ∈ zipIdx s.levels, LevelOk p.1 p.2) ∧ ¬ PosVer s ∧
      s.get [1] 5 ≠ newestLE s.allEntries [1] 5 := by
  refine ⟨{ mem := [], imm := [], levels := [[], [{ ents := [⟨[1], 0, 0, 0, 0, [7]⟩] }]] }, ?_, ?_, ?_⟩ <;> decide

/-! non-vacuity: a state with a memtable, an immutable memtable, two L0 tables and a level 1 of two tables, satisfying
    the invariant, and its reads -/
def C01_exState : Lsm :=
  { mem := [⟨[1], 5, 0, 0, 0, [50]⟩], imm := [[⟨[1], 4, 1, 0, 0, []⟩]],
    levels := [[{ ents := [⟨[1], 3, 0, 0, 0, [30]⟩] }, { ents := [⟨[1], 3, 0, 0, 0, [31]⟩, ⟨[2], 2, 0, 0, 0, [20]⟩] }],
               [{ ents := [⟨[1], 1, 0, 0, 0, [10]⟩] }, { ents := [⟨[2], 2, 0, 0, 0, [21]⟩, ⟨[2], 1, 0, 0, 0, [11]⟩] }]] }

example : LsmInv C01_exState := by decide
-- the tie (key 1, version 3) is won by the newer L0 table (value 31)
example : C01_exState.get [1] 3 = some ⟨[1], 3, 0, 0, 0, [31]⟩ := by decide
example : C01_exState.get [2] 9 = some ⟨[2], 2, 0, 0, 0, [20]⟩ := by decide
example : visible 0 (C01_exState.get [1] 4) = none := by decide

end Badger
