import BadgerModel.MergeOp
import BadgerProofs.Lemmas.Bytes
import BadgerProofs.Props.C13
/-!
# C31 — a merge operator returns the fold of all added values

Abstract machine `MState` of `BadgerModel/MergeOp.lean`: the version list of the operator's key
(what `NewKeyIterator(AllVersions)` yields, newest first) under `Add`, the operator's own
`compact` (write-back of the merged value at the newest operand's version with the
discard-earlier bit, without the merge bit), LSM compactions (which may drop any versions *below*
the first discard-earlier entry, and nothing else — see `C31_subcompact_keeps_live` for the tie
to `subcompact`) and reopen. `iterMerge` is the very function the driver runs against
`MergeOperator.Get` of the real code.

`liveVal` is the value a version list stands for. When `f` is associative (`Assoc`), `Get` computes it
on every list (`iterLoop_spec`, `iterMerge_get`), and every step of the machine keeps it equal to the
fold of the `Add` history (`MState.fold_step`), which is `C31_fold`. From `keyView` on the file speaks
of a stream of entries and `subcompact` (`BadgerModel/Lsm.lean`; its step lemmas are in `Props/C13`):
it leaves the entries that `liveVal` reads (`liveEnts`) as they are.
-/
namespace Badger

def Assoc (f : MergeFn) : Prop := ∀ a b c, f (f a b) c = f a (f b c)

def MStep.addArg? : MStep → Option Bytes
  | .add v => some v
  | _ => none

/-- the value a version list (newest first) stands for: the operands above the first dead item, up to
    and including the first discard-earlier item, folded oldest-to-newest (left-nested). -/
def liveVal (f : MergeFn) : List MItem → Option Bytes
  | [] => none
  | it :: rest =>
    if it.dead then none else
    if it.discard then some it.val else
    match liveVal f rest with
    | none => some it.val
    | some g => some (f g it.val)

/-- the loop from any accumulator `a`: untouched if the list has no value; otherwise the items are
    counted and their value `g` is the result (empty `a`: the first item gives `latest`) or is folded
    in below the newer `a.newVal`, as `f g a.newVal` — by associativity -/
theorem iterLoop_spec (f : MergeFn) (hf : Assoc f) (items : List MItem) (a : MAcc) :
    ∃ k, iterLoop f a items =
      match liveVal f items with
      | none => a
      | some g =>
        { num := a.num + k + 1
          latest := if a.num = 0 then (items.headD default).ver else a.latest
          newVal := if a.num = 0 then g else f g a.newVal } := by
  induction items generalizing a with
  | nil => exact ⟨0, rfl⟩
  | cons it rest ih =>
    simp only [iterLoop, liveVal]
    by_cases hx : it.dead = true
    · exact ⟨0, by simp [hx]⟩
    -- the accumulator after `it`: `it` starts it, or is folded in
    obtain ⟨k, hk⟩ := ih (if a.num == 0 then { num := 1, newVal := it.val, latest := it.ver }
      else { a with num := a.num + 1, newVal := f it.val a.newVal })
    by_cases hd : it.discard = true
    · exact ⟨0, by by_cases ha : a.num = 0 <;> simp [hx, hd, ha]⟩
    · simp only [hx, hd, Bool.false_eq_true, if_false, hk]
      cases liveVal f rest with
      | none => exact ⟨0, by by_cases ha : a.num = 0 <;> simp [ha]⟩
      | some g => exact ⟨k + 1, by by_cases ha : a.num = 0 <;> simp [ha, hf g] <;> omega⟩

theorem iterMerge_get (f : MergeFn) (hf : Assoc f) (items : List MItem) :
    (iterMerge f items).get = liveVal f items := by
  obtain ⟨k, h⟩ := iterLoop_spec f hf items {}
  rw [iterMerge, h]
  cases liveVal f items with
  | none => rfl
  -- one version (`single`) or more (`merged`): `get` returns the value either way
  | some g => cases k <;> simp [MergeRes.get]

theorem dropByMask_nil (keep : List Bool) : dropByMask keep [] = [] := by cases keep <;> rfl

/-- an LSM compaction step (any mask) does not change the value: it only touches items below the
    live prefix, and if the live prefix is the whole list there is nothing left to drop -/
theorem liveVal_lsm (f : MergeFn) (keep : List Bool) (items : List MItem) :
    liveVal f (livePrefix items ++ dropByMask keep (items.drop (livePrefix items).length)) =
      liveVal f items := by
  induction items with
  | nil => simp [livePrefix, dropByMask_nil, liveVal]
  | cons it rest ih =>
    simp only [livePrefix]
    by_cases hd : it.discard = true
    · simp [hd, liveVal]
    · simp [hd, liveVal, ih]

theorem foldAdds_snoc (f : MergeFn) (adds : List Bytes) (v : Bytes) :
    foldAdds f (adds ++ [v]) =
      match foldAdds f adds with
      | none => some v
      | some g => some (f g v) := by
  cases adds with
  | nil => rfl
  | cons a as => simp [foldAdds, List.foldl_append]

/-- `Get` = the fold of the history is an inductive invariant of the abstract machine (read through
    `iterMerge_get`: the version list stands for the fold of the history) -/
theorem MState.fold_step (f : MergeFn) (hf : Assoc f) (s : MState) (h : s.get f = foldAdds f s.adds)
    (st : MStep) : (s.step f st).get f = foldAdds f (s.step f st).adds := by
  simp only [MState.get, iterMerge_get f hf] at h ⊢
  cases st with
  | add v =>
    simp only [MState.step, liveVal, foldAdds_snoc, ← h]
    simp
  | compact =>
    simp only [MState.step]
    split
    · next v latest x rest hm hi =>
      show liveVal f (_ :: rest) = _
      have hg := iterMerge_get f hf s.items
      rw [hm, h] at hg
      simp [liveVal, ← hg, MergeRes.get]
    · exact h
  | lsm keep =>
    simp only [MState.step]
    rw [liveVal_lsm]; exact h
  | reopen => exact h

/-- For associative `f`: Get = f folded over all Adds in Add order, for every interleaving of Add /
    operator compaction / LSM compaction (with *any* mask) / reopen -/
theorem C31_fold (f : MergeFn) (hf : Assoc f) (steps : List MStep) :
    (MState.run f {} steps).get f = foldAdds f (MState.run f {} steps).adds := by
  suffices ∀ s : MState, s.get f = foldAdds f s.adds →
      (MState.run f s steps).get f = foldAdds f (MState.run f s steps).adds from this {} rfl
  induction steps with
  | nil => exact fun _ h => h
  | cons st rest ih => exact fun s h => ih _ (MState.fold_step f hf s h st)

theorem MState.run_adds (f : MergeFn) (steps : List MStep) (s : MState) :
    (MState.run f s steps).adds = s.adds ++ steps.filterMap MStep.addArg? := by
  induction steps generalizing s with
  | nil => simp [MState.run]
  | cons st rest ih =>
    have ih' := ih (s.step f st)
    simp only [MState.run, List.foldl_cons] at ih' ⊢
    rw [ih']
    cases st with
    | add v => simp [MState.step, MStep.addArg?]
    | compact =>
      simp only [MState.step, MStep.addArg?, List.filterMap_cons]
      split <;> rfl
    | lsm keep => rfl
    | reopen => rfl

/-- the recorded history is exactly the Add arguments, in order -/
theorem C31_adds_history (f : MergeFn) (steps : List MStep) :
    (MState.run f {} steps).adds = steps.filterMap MStep.addArg? := by
  rw [MState.run_adds]; rfl

theorem MState.run_items_nil (f : MergeFn) (steps : List MStep) (s : MState) (hs : s.items = [])
    (h : ∀ st ∈ steps, st.addArg? = none) : (MState.run f s steps).items = [] := by
  induction steps generalizing s with
  | nil => exact hs
  | cons st rest ih =>
    simp only [MState.run, List.foldl_cons]
    apply ih
    · have h1 := h st (List.mem_cons_self ..)
      cases st with
      | add v => simp [MStep.addArg?] at h1
      | compact =>
        simp only [MState.step]
        split
        · next hi => rw [hs] at hi; cases hi
        · exact hs
      | lsm keep => simp [MState.step, hs, livePrefix, dropByMask_nil]
      | reopen => exact hs
    · intro st' hst'; exact h st' (List.mem_cons_of_mem _ hst')

/-- ErrKeyNotFound before the first Add (no assumption on `f`) -/
theorem C31_notfound_before_first_add (f : MergeFn) (steps : List MStep)
    (h : ∀ st ∈ steps, st.addArg? = none) : (MState.run f {} steps).get f = none := by
  rw [MState.get, MState.run_items_nil f steps {} rfl h]
  rfl

theorem C31_catF_assoc : Assoc catF := by
  intro a b c; simp [catF]

/-- `((a+b) % M + c) % M = (a + (b+c) % M) % M` with `beNat (beBytes x 8) = x` for `x < 2^64` -/
theorem C31_addF_assoc : Assoc addF := by
  intro a b c
  have hM : (2 : Nat) ^ 64 = 256 ^ 8 := by decide
  have hlt : ∀ x : Nat, x % 2 ^ 64 < 256 ^ 8 := fun x => by
    rw [← hM]; exact Nat.mod_lt _ (by decide)
  simp only [addF]
  rw [beNat_beBytes _ 8 (hlt _), beNat_beBytes _ 8 (hlt _)]
  congr 1
  omega

/-- adds, an operator compaction, an LSM compaction whose mask really drops the version below the
    discard-earlier write-back, more adds, reopen, a second operator compaction -/
example : (MState.run catF {} [.add [1], .add [2], .compact, .add [3], .lsm [false, false],
      .add [4], .reopen, .compact]).get catF = some [1, 2, 3, 4] := by decide

/-- the `.lsm` step above really dropped something: 3 items before, 2 after -/
example : ((MState.run catF {} [.add [1], .add [2], .compact, .add [3]]).items.length,
    (MState.run catF {} [.add [1], .add [2], .compact, .add [3], .lsm [false, false]]).items.length)
    = (3, 2) := by decide

example : (MState.run catF {} [.add [1], .add [2], .compact, .add [3], .lsm [false, false],
      .add [4], .reopen, .compact]).adds = [[1], [2], [3], [4]] := by decide

/-- `C31_notfound_before_first_add`: its hypothesis is satisfiable by a non-trivial step list -/
example : (∀ st ∈ [MStep.compact, .lsm [false], .reopen], st.addArg? = none) ∧
    (MState.run catF {} [.compact, .lsm [false], .reopen]).get catF = none := by decide

/-- uint64 addition wraps: (2^64 - 1) + 2 = 1 -/
example : (MState.run addF {} [.add [255, 255, 255, 255, 255, 255, 255, 255], .compact,
      .add [0, 0, 0, 0, 0, 0, 0, 2], .compact, .lsm [false]]).get addF
    = some [0, 0, 0, 0, 0, 0, 0, 1] := by decide

/-- associativity matters: with a non-associative `f` the fold property fails (so `hf` is needed) -/
example : ∃ f : MergeFn, ∃ steps, (MState.run f {} steps).get f ≠ foldAdds f (MState.run f {} steps).adds :=
  ⟨fun a b => a ++ b ++ a, [.add [1], .add [2], .add [3]], by decide⟩

/-- the operator's view of key k in a merged stream of entries: its versions in stream order.
    (The model's `Db.mergeView` maps `mItemOf` over what `NewKeyIterator` yields for the key; that these
    are the stream's entries of that key is not proved.) -/
def keyView (now : Nat) (k : Bytes) (es : List Ent) : List MItem :=
  (es.filter (·.key == k)).map (mItemOf now)

/-- the prefix of a list of entries up to and including the first discard-earlier entry:
    `livePrefix` before `mItemOf` (`livePrefix_map`) -/
def entPrefix : List Ent → List Ent
  | [] => []
  | e :: rest => if hasBit e.emeta bitDiscardEarlier then [e] else e :: entPrefix rest

/-- the live *entries* of key `k` in a stream: the versions of `k` up to and including the first one
    with the discard-earlier bit (`livePrefix (keyView now k es)` is their image under `mItemOf`,
    see `livePrefix_keyView`) -/
def liveEnts (k : Bytes) (es : List Ent) : List Ent := entPrefix (es.filter (·.key == k))

theorem livePrefix_map (now : Nat) (l : List Ent) :
    livePrefix (l.map (mItemOf now)) = (entPrefix l).map (mItemOf now) := by
  induction l with
  | nil => rfl
  | cons e rest ih =>
    simp only [List.map_cons, livePrefix, entPrefix]
    by_cases hd : hasBit e.emeta bitDiscardEarlier = true
    · simp [mItemOf, hd]
    · simp [mItemOf, hd, ih]

theorem livePrefix_keyView (now : Nat) (k : Bytes) (es : List Ent) :
    livePrefix (keyView now k es) = (liveEnts k es).map (mItemOf now) :=
  livePrefix_map now _

theorem entPrefix_sublist : ∀ l : List Ent, (entPrefix l).Sublist l
  | [] => .slnil
  | e :: rest => by
    rw [entPrefix]
    split
    · exact (List.nil_sublist rest).cons_cons e
    · exact (entPrefix_sublist rest).cons_cons e

theorem liveEnts_cons (k : Bytes) (e : Ent) (l : List Ent) :
    liveEnts k (e :: l) =
      if e.key = k then (if hasBit e.emeta bitDiscardEarlier then [e] else e :: liveEnts k l)
      else liveEnts k l := by
  by_cases h : e.key = k <;> simp [liveEnts, entPrefix, h]

theorem filtRun_liveEnts (p : CParams) (hp : p.dropPrefixes = []) (k : Bytes) (es : List Ent)
    (st : FState) (hs : st.skipKey ≠ some k)
    (hlive : ∀ e ∈ liveEnts k es, deletedOrExpired e.emeta e.exp p.now = false ∧
       (hasBit e.emeta bitMerge = true ∨ hasBit e.emeta bitDiscardEarlier = true)) :
    liveEnts k (filtRun p st es) = liveEnts k es := by
  induction es generalizing st with
  | nil => rfl
  | cons e rest ih =>
    rw [filtRun_cons]
    rw [liveEnts_cons] at hlive ⊢
    by_cases hk : e.key = k
    · subst hk
      rw [if_pos rfl] at hlive ⊢
      obtain ⟨hexp, hbit⟩ := hlive e (by split <;> simp)
      obtain ⟨hkeep, hor⟩ := filtStep_live p hp st e hs hexp hbit
      rw [hkeep, if_pos rfl, liveEnts_cons, if_pos rfl]
      split
      · rfl
      · next hd =>
        rw [if_neg hd] at hlive
        rw [ih _ (hor.resolve_left hd) fun e' he' => hlive e' (List.mem_cons_of_mem _ he')]
    · rw [if_neg hk] at hlive ⊢
      have := ih _ (filtStep_other p hp st e k hk hs) hlive
      split
      · rwa [liveEnts_cons, if_neg hk]
      · exact this

/-- `subcompact` never touches the live entries of a merge key: provided no drop prefixes are in
    force, no live entry of `k` is deleted/expired and every live entry carries the merge bit or the
    discard-earlier bit, the live entries of `k` after compaction are exactly those before.
    (`C31_subcompact_keeps_live` is this statement read through `mItemOf`.) -/
theorem C31_subcompact_keeps_liveEnts (p : CParams) (hp : p.dropPrefixes = []) (k : Bytes)
    (es : List Ent)
    (hlive : ∀ e ∈ liveEnts k es, deletedOrExpired e.emeta e.exp p.now = false ∧
       (hasBit e.emeta bitMerge = true ∨ hasBit e.emeta bitDiscardEarlier = true)) :
    liveEnts k (subcompact p es) = liveEnts k es :=
  filtRun_liveEnts p hp k es {} (by simp) hlive

/-- `subcompact` never touches the live prefix of a merge key: provided no drop prefixes are in force
    and the live prefix holds no deleted/expired entry and every entry of it other than a
    discard-earlier entry carries the merge bit (which is what Add / the operator's write-back
    produce), the key's live prefix after compaction equals the one before. -/
theorem C31_subcompact_keeps_live (p : CParams) (hp : p.dropPrefixes = []) (k : Bytes) (es : List Ent)
    (hlive : ∀ e ∈ es, e.key = k → (mItemOf p.now e) ∈ livePrefix (keyView p.now k es) →
       deletedOrExpired e.emeta e.exp p.now = false ∧
         (hasBit e.emeta bitMerge = true ∨ hasBit e.emeta bitDiscardEarlier = true)) :
    livePrefix (keyView p.now k (subcompact p es)) = livePrefix (keyView p.now k es) := by
  rw [livePrefix_keyView, livePrefix_keyView, C31_subcompact_keeps_liveEnts p hp k es]
  intro e he
  have hmem := (entPrefix_sublist _).subset he
  rw [List.mem_filter] at hmem
  refine hlive e hmem.1 (by simpa using hmem.2) ?_
  rw [livePrefix_keyView]
  exact List.mem_map_of_mem he

/-- key `[1]`: two merge operands (v6, v5) above the operator's write-back (v4, discard-earlier bit),
    two stale operands below it (v3, v2) — plus a neighbour key. -/
def c31exEs : List Ent :=
  [ { key := [1], ver := 6, emeta := bitMerge, umeta := 0, exp := 0, val := [6] },
    { key := [1], ver := 5, emeta := bitMerge, umeta := 0, exp := 0, val := [5] },
    { key := [1], ver := 4, emeta := bitDiscardEarlier, umeta := 0, exp := 0, val := [1, 2, 3, 4] },
    { key := [1], ver := 3, emeta := bitMerge, umeta := 0, exp := 0, val := [3] },
    { key := [1], ver := 2, emeta := bitMerge, umeta := 0, exp := 0, val := [2] },
    { key := [2], ver := 1, emeta := 0, umeta := 0, exp := 0, val := [9] } ]

def c31exP : CParams := { discardTs := 10, numKeep := 1, hasOverlap := false, now := 0, dropPrefixes := [] }

/-- the hypotheses of both theorems hold for this stream, the compaction really drops the two
    versions below the write-back, and the live entries are the top three -/
example :
    (∀ e ∈ liveEnts [1] c31exEs, deletedOrExpired e.emeta e.exp c31exP.now = false ∧
       (hasBit e.emeta bitMerge = true ∨ hasBit e.emeta bitDiscardEarlier = true)) ∧
    (∀ e ∈ c31exEs, e.key = [1] → (mItemOf c31exP.now e) ∈ livePrefix (keyView c31exP.now [1] c31exEs) →
       deletedOrExpired e.emeta e.exp c31exP.now = false ∧
         (hasBit e.emeta bitMerge = true ∨ hasBit e.emeta bitDiscardEarlier = true)) ∧
    (subcompact c31exP c31exEs).map (fun e => (e.key, e.ver)) = [([1], 6), ([1], 5), ([1], 4), ([2], 1)] ∧
    (liveEnts [1] c31exEs).map (·.ver) = [6, 5, 4] ∧
    (keyView c31exP.now [1] (subcompact c31exP c31exEs)).length = 3 ∧
    (keyView c31exP.now [1] c31exEs).length = 5 := by decide

/-- the merge-bit hypothesis is needed: a live-prefix version *without* merge bit and without
    discard-earlier bit is the `numKeep`-th version for the filter, which then skips the rest of the
    live prefix. -/
example :
    let es : List Ent :=
      [ { key := [1], ver := 6, emeta := 0, umeta := 0, exp := 0, val := [6] },
        { key := [1], ver := 5, emeta := bitMerge, umeta := 0, exp := 0, val := [5] } ]
    liveEnts [1] (subcompact c31exP es) ≠ liveEnts [1] es := by decide

end Badger
