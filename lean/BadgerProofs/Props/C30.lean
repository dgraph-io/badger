import BadgerModel.Sequence
import BadgerProofs.Lemmas.Lists
/-!
# C30 — sequence numbers are unique and increasing, across objects, restarts and crashes

The lease machine of `BadgerModel/Sequence.lean`. `updateLease` is today's code (lease fields
assigned after `db.Update` returned nil — badger commit 54a0fc5, the fix of finding F9),
`updateLeaseOld` the code before that commit (fields assigned inside the closure).

* `C30_unique`, `C30_monotone`: today's code, for every operation sequence (any number of
  objects, any transaction outcomes `ok | conflict`, drops, restarts/crashes).
* `C30_unique_old_counterexample`, `C30_monotone_old_counterexample`: the old code violated both
  as soon as one `updateLease` transaction got `ErrConflict` (finding F9, historical witness;
  `corpus/C30/f09.ops` is the same script as a regression test).
* `C30_unique_old_no_conflict`, `C30_monotone_old_no_conflict`: the old code was right on runs
  without a refused lease transaction.
* `C30_release_lock_needed`: `Release` has to hold `seq.lock` across its transaction; a `Next`
  between its read and its write-back breaks both properties.

Hypothesis `RunOk`: `stored + bandwidth < 2^64` at every `GetSequence` and every `Next` of the run,
also at one that computes no lease (a `Next` served from memory, a refused transaction). This is
more than "no lease computation overflows `uint64`" (the code computes `next + seq.bandwidth` in
`uint64`; after `2^64` numbers uniqueness is impossible anyway): the theorems are silent about a
run that comes that close to `2^64` without overflowing.
-/
namespace Badger

/-- the lease this step computes, or would compute if it needed one, does not wrap around `2^64` -/
def SeqSys.StepOk (s : SeqSys) : SeqOp → Prop
  | .new _ bw _ => s.stored.getD 0 + bw < 2 ^ 64
  | .next id _ => ∀ o, s.find id = some o → s.stored.getD 0 + o.bandwidth < 2 ^ 64
  | _ => True

def RunOk (lf : LeaseFn) : SeqSys → List SeqOp → Prop
  | _, [] => True
  | s, op :: ops => s.StepOk op ∧ RunOk lf (s.step lf op) ops

/-- no number is handed out twice (by any object, before or after any restart) -/
def SeqSys.Unique (s : SeqSys) : Prop := (s.handed.map (·.2)).Nodup

/-- every object's numbers are strictly increasing -/
def SeqSys.Monotone (s : SeqSys) : Prop := ∀ id, (s.handedBy id).Pairwise (· < ·)

def SeqOp.out? : SeqOp → Option TxnOut
  | .new _ _ o => some o
  | .next _ o => some o
  | .release _ o => some o
  | _ => none

/-- every transaction of the run commits -/
def NoConflict (ops : List SeqOp) : Prop := ∀ op ∈ ops, op.out? = some .ok ∨ op.out? = none

def C30_uniqueStatement (lf : LeaseFn) : Prop :=
  ∀ ops, RunOk lf {} ops → (SeqSys.run lf {} ops).Unique

def C30_monotoneStatement (lf : LeaseFn) : Prop :=
  ∀ ops, RunOk lf {} ops → (SeqSys.run lf {} ops).Monotone

theorem SeqSys.mem_put {s : SeqSys} {o x : SeqObj} :
    x ∈ (s.put o).objs ↔ x = o ∨ (x ∈ s.objs ∧ x.id ≠ o.id) := by
  simp [SeqSys.put, List.mem_filter]

theorem SeqSys.find_some {s : SeqSys} {id : Nat} {o : SeqObj} (h : s.find id = some o) :
    o ∈ s.objs ∧ o.id = id :=
  ⟨List.mem_of_find?_eq_some h, key_of_find? SeqObj.id h⟩

theorem SeqSys.mem_handedBy {s : SeqSys} {id a : Nat} :
    a ∈ s.handedBy id ↔ ∃ p ∈ s.handed, p.1 = id ∧ p.2 = a := by
  simp [SeqSys.handedBy, List.mem_filter, and_assoc]

theorem SeqSys.handedBy_append {s s' : SeqSys} {i v : Nat} (hh : s'.handed = s.handed ++ [(i, v)])
    (id : Nat) : s'.handedBy id = s.handedBy id ++ (if i = id then [v] else []) := by
  unfold SeqSys.handedBy; rw [hh]
  by_cases hi : i = id <;> simp [List.filter_append, hi]

/-! ## The invariant of the lease machine (today's `updateLease`)

`S = s.stored.getD 0` is the stored lease. Live objects hold the half-open interval
`[next, leased)` of numbers they may still hand out without a transaction. -/

structure SeqSys.ObjOk (s : SeqSys) (o : SeqObj) : Prop where
  bwPos : 0 < o.bandwidth
  used : o.id ∈ s.usedIds
  nextLe : o.next ≤ o.leased
  /-- a non-empty remaining interval lies below the stored lease -/
  leaseLe : o.next < o.leased → o.leased ≤ s.stored.getD 0
  /-- no number handed out lies in the remaining interval -/
  notIn : ∀ p ∈ s.handed, ¬ (o.next ≤ p.2 ∧ p.2 < o.leased)
  /-- what the object handed out lies below its `next` -/
  own : ∀ p ∈ s.handed, p.1 = o.id → p.2 < o.next

structure SeqSys.Inv (s : SeqSys) : Prop where
  sLt : s.stored.getD 0 < 2 ^ 64
  handUsed : ∀ p ∈ s.handed, p.1 ∈ s.usedIds
  /-- every number handed out lies below the stored lease -/
  handLt : ∀ p ∈ s.handed, p.2 < s.stored.getD 0
  obj : ∀ o ∈ s.objs, s.ObjOk o
  /-- remaining intervals of distinct objects are disjoint -/
  disj : ∀ o ∈ s.objs, ∀ p ∈ s.objs, o.id ≠ p.id → o.next < o.leased → p.next < p.leased →
    o.leased ≤ p.next ∨ p.leased ≤ o.next
  uniq : s.Unique
  mono : s.Monotone

theorem SeqSys.inv_init : ({} : SeqSys).Inv := by
  constructor <;> simp [SeqSys.Unique, SeqSys.Monotone, SeqSys.handedBy]

/-- objects disappear (drop, restart), are reordered, or fresh *empty* objects appear -/
theorem SeqSys.Inv.weaken {s : SeqSys} (h : s.Inv) {objs : List SeqObj} {used : List Nat}
    (hu : ∀ i ∈ s.usedIds, i ∈ used)
    (hobjs : ∀ x ∈ objs, x ∈ s.objs ∨
      (x.next = x.leased ∧ 0 < x.bandwidth ∧ x.id ∉ s.usedIds ∧ x.id ∈ used)) :
    SeqSys.Inv { s with objs := objs, usedIds := used } :=
  { h with
    handUsed := fun p hp => hu _ (h.handUsed p hp)
    obj := fun x hx => (hobjs x hx).elim
      (fun hx => { h.obj x hx with used := hu _ (h.obj x hx).used })
      fun ⟨he, hb, hn, hi⟩ => ⟨hb, hi, by omega, by omega, fun p _ => by omega,
        fun p hp hid => absurd (hid ▸ h.handUsed p hp) hn⟩
    disj := fun x hx y hy hne hxl hyl => by
      rcases hobjs x hx with hx | ⟨he, _⟩
      · rcases hobjs y hy with hy | ⟨he, _⟩
        · exact h.disj x hx y hy hne hxl hyl
        · omega
      · omega }

theorem u64_of_lt {n : Nat} (h : n < 2 ^ 64) : u64 n = n := Nat.mod_eq_of_lt h

/-- a committed lease transaction: the object `o'` now holds `[S, S + bandwidth)` and the
    stored lease is `S + bandwidth` -/
theorem SeqSys.Inv.lease {s : SeqSys} (h : s.Inv) {o' : SeqObj} {objs : List SeqObj}
    {used : List Nat} (hbw : 0 < o'.bandwidth) (hlt : s.stored.getD 0 + o'.bandwidth < 2 ^ 64)
    (hn : o'.next = s.stored.getD 0) (hl : o'.leased = u64 (s.stored.getD 0 + o'.bandwidth))
    (hu : ∀ i ∈ s.usedIds, i ∈ used) (hid : o'.id ∈ used)
    (hobjs : ∀ x ∈ objs, x = o' ∨ x ∈ s.objs) :
    SeqSys.Inv { s with stored := some (u64 (s.stored.getD 0 + o'.bandwidth)), objs := objs,
                        usedIds := used } := by
  rw [u64_of_lt hlt] at hl ⊢
  exact
  { h with
    sLt := hlt
    handUsed := fun p hp => hu _ (h.handUsed p hp)
    handLt := fun p hp => Nat.lt_add_right _ (h.handLt p hp)
    obj := fun x hx => by
      rcases hobjs x hx with rfl | hx
      · exact ⟨hbw, hid, by omega, fun _ => Nat.le_of_eq hl,
          fun p hp => by have := h.handLt p hp; omega, fun p hp _ => by have := h.handLt p hp; omega⟩
      · exact { h.obj x hx with
          used := hu _ (h.obj x hx).used
          leaseLe := fun hxl => Nat.le_add_right_of_le ((h.obj x hx).leaseLe hxl) }
    disj := fun x hx y hy hne hxl hyl => by
      rcases hobjs x hx with rfl | hx'
      · rcases hobjs y hy with rfl | hy
        · exact absurd rfl hne
        · have := (h.obj y hy).leaseLe hyl; omega
      · rcases hobjs y hy with rfl | hy
        · have := (h.obj x hx').leaseLe hxl; omega
        · exact h.disj x hx' y hy hne hxl hyl }

/-- `Next` inside a lease: the object `o` with a non-empty interval hands out `o.next` -/
theorem SeqSys.Inv.hand {s : SeqSys} {o : SeqObj} (h : s.Inv) (ho : o ∈ s.objs)
    (hlt : o.next < o.leased) :
    SeqSys.Inv { s.put { o with next := u64 (o.next + 1) } with
                 handed := s.handed ++ [(o.id, o.next)] } := by
  have hle := (h.obj o ho).leaseLe hlt
  have hS := h.sLt
  rw [u64_of_lt (by omega)]
  have snoc {P : Nat × Nat → Prop} (hold : ∀ p ∈ s.handed, P p) (hnew : P (o.id, o.next)) :
      ∀ p ∈ s.handed ++ [(o.id, o.next)], P p :=
    List.forall_mem_append.2 ⟨hold, List.forall_mem_singleton.2 hnew⟩
  exact
  { sLt := hS
    handUsed := snoc h.handUsed (h.obj o ho).used
    handLt := snoc h.handLt (Nat.lt_of_lt_of_le hlt hle)
    obj := fun x hx => by
      rcases SeqSys.mem_put.1 hx with rfl | ⟨hx, hne⟩
      · exact { h.obj o ho with
          nextLe := hlt
          leaseLe := fun _ => hle
          notIn := snoc (fun p hp => by have := (h.obj o ho).notIn p hp; dsimp only; omega)
            (by dsimp only; omega)
          own := snoc (fun p hp hid => Nat.lt_succ_of_lt ((h.obj o ho).own p hp hid))
            fun _ => Nat.lt_succ_self _ }
      · exact { h.obj x hx with
          notIn := snoc (h.obj x hx).notIn (by
            have := h.disj o ho x hx (fun e => hne e.symm) hlt
            dsimp only; omega)
          own := snoc (h.obj x hx).own fun hid => absurd hid.symm hne }
    disj := fun x hx y hy hne hxl hyl => by
      rcases SeqSys.mem_put.1 hx with rfl | ⟨hx, hxne⟩
      · rcases SeqSys.mem_put.1 hy with rfl | ⟨hy, hyne⟩
        · exact absurd rfl hne
        · have := h.disj o ho y hy (fun e => hyne e.symm) hlt hyl; dsimp only; omega
      · rcases SeqSys.mem_put.1 hy with rfl | ⟨hy, hyne⟩
        · have := h.disj x hx o ho hxne hxl hlt; dsimp only; omega
        · exact h.disj x hx y hy hne hxl hyl
    uniq := by
      rw [SeqSys.Unique, List.map_append, List.nodup_append]
      refine ⟨h.uniq, by simp, fun a ha b hb => ?_⟩
      obtain ⟨p, hp, rfl⟩ := List.mem_map.1 ha
      have := (h.obj o ho).notIn p hp
      simp only [List.map_cons, List.map_nil, List.mem_singleton] at hb
      omega
    mono := fun id => by
      rw [SeqSys.handedBy_append rfl, List.pairwise_append]
      refine ⟨h.mono id, by split <;> simp, fun a ha b hb => ?_⟩
      split at hb
      · next hid =>
        obtain ⟨p, hp, hp1, rfl⟩ := SeqSys.mem_handedBy.1 ha
        have := (h.obj o ho).own p hp (hp1.trans hid.symm)
        simp only [List.mem_singleton] at hb
        omega
      · simp at hb }

theorem SeqSys.Inv.release {s : SeqSys} {o : SeqObj} {num : Nat} (h : s.Inv) (ho : o ∈ s.objs)
    (hnum : s.stored = some num) :
    SeqSys.Inv { s.put { o with leased := o.next } with
                 stored := if num == o.leased then some o.next else some num } := by
  have hS : s.stored.getD 0 = num := by rw [hnum]; rfl
  have hnl := (h.obj o ho).nextLe
  have hsl := h.sLt
  -- the new stored value still bounds the other objects' intervals and the log
  have key : ∃ S', (if num == o.leased then some o.next else some num) = some S' ∧ S' < 2 ^ 64 ∧
      (∀ x ∈ s.objs, x.id ≠ o.id → x.next < x.leased → x.leased ≤ S') ∧
      (∀ p ∈ s.handed, p.2 < S') := by
    by_cases hc : num = o.leased
    · refine ⟨o.next, by simp [hc], by omega, fun x hx hne hxl => ?_, fun p hp => ?_⟩
      · have := (h.obj x hx).leaseLe hxl
        by_cases hol : o.next < o.leased
        · have := h.disj o ho x hx (fun e => hne e.symm) hol hxl; omega
        · omega
      · have := h.handLt p hp
        have := (h.obj o ho).notIn p hp
        omega
    · exact ⟨num, by simp [hc], hS ▸ hsl, fun x hx _ hxl => hS ▸ (h.obj x hx).leaseLe hxl,
        hS ▸ h.handLt⟩
  obtain ⟨S', hS', k1, k2, k3⟩ := key
  rw [hS']
  exact
  { h with
    sLt := k1
    handLt := k3
    obj := fun x hx => by
      rcases SeqSys.mem_put.1 hx with rfl | ⟨hx, hne⟩
      · exact { h.obj o ho with
          nextLe := Nat.le_refl _
          leaseLe := fun hxl => absurd hxl (Nat.lt_irrefl _)
          notIn := fun p _ => by dsimp only; omega }
      · exact { h.obj x hx with leaseLe := k2 x hx hne }
    disj := fun x hx y hy hne hxl hyl => by
      rcases SeqSys.mem_put.1 hx with rfl | ⟨hx, _⟩
      · exact absurd hxl (Nat.lt_irrefl _)
      · rcases SeqSys.mem_put.1 hy with rfl | ⟨hy, _⟩
        · exact absurd hyl (Nat.lt_irrefl _)
        · exact h.disj x hx y hy hne hxl hyl }

theorem SeqSys.inv_step {s : SeqSys} (h : s.Inv) (op : SeqOp) (hok : s.StepOk op) :
    (s.step updateLease op).Inv := by
  cases op with
  | new id bw out =>
    simp only [SeqSys.step, SeqSys.getSequence]
    split
    · exact h
    · next hc =>
      simp only [Bool.or_eq_true, List.contains_eq_mem, decide_eq_true_eq, beq_iff_eq,
        not_or] at hc
      cases out with
      | ok =>
        exact h.lease
          (o' := { id := id, next := s.stored.getD 0, leased := u64 (s.stored.getD 0 + bw), bandwidth := bw })
          (Nat.pos_of_ne_zero hc.2) hok rfl rfl (fun _ => List.mem_cons_of_mem _) List.mem_cons_self
          fun x hx => List.mem_cons.1 hx
      | conflict r =>
        refine h.weaken (fun _ => List.mem_cons_of_mem _) fun x hx => ?_
        rcases List.mem_cons.1 hx with rfl | hx
        · exact .inr ⟨rfl, Nat.pos_of_ne_zero hc.2, hc.1, List.mem_cons_self⟩
        · exact .inl hx
  | next id out =>
    simp only [SeqSys.step, SeqSys.next]
    split
    · exact h
    · next o hf =>
      obtain ⟨ho, rfl⟩ := SeqSys.find_some hf
      have hok' := hok o hf
      split
      · cases out with
        | ok =>
          -- first the lease, then a `Next` inside the new lease
          have h1 := h.lease
            (o' := { o with next := s.stored.getD 0, leased := u64 (s.stored.getD 0 + o.bandwidth) })
            (h.obj o ho).bwPos hok' rfl rfl
            (fun _ hi => hi) (h.obj o ho).used fun x hx => (SeqSys.mem_put.1 hx).imp id And.left
          have hb := (h.obj o ho).bwPos
          exact h1.hand (SeqSys.mem_put.2 (.inl rfl))
            (by show s.stored.getD 0 < u64 _; rw [u64_of_lt hok']; omega)
        | conflict r =>
          exact h.weaken (fun _ hi => hi) fun x hx => .inl ((SeqSys.mem_put.1 hx).elim (· ▸ ho) And.left)
      · exact h.hand ho (by omega)
  | release id out =>
    simp only [SeqSys.step, SeqSys.release]
    split
    · exact h  -- no such object
    · next o hf =>
      split
      · exact h  -- the transaction is refused
      · split
        · exact h  -- no stored lease
        · next num hnum => exact h.release (SeqSys.find_some hf).1 hnum
  | drop id => exact h.weaken (fun _ hi => hi) fun x hx => .inl (List.mem_filter.1 hx).1
  | restart => exact h.weaken (fun _ hi => hi) nofun

theorem SeqSys.inv_run (ops : List SeqOp) : ∀ (s : SeqSys), s.Inv → RunOk updateLease s ops →
    (SeqSys.run updateLease s ops).Inv := by
  induction ops with
  | nil => intro s h _; exact h
  | cons op ops ih =>
    intro s h hr
    simp only [SeqSys.run, List.foldl_cons]
    exact ih _ (SeqSys.inv_step h op hr.1) hr.2

/-- **C30 (uniqueness)**: no number is handed out twice, over any number of
    objects, conflicts, releases, drops and restarts, on runs with `RunOk`
    (`stored + bandwidth < 2^64` at every `GetSequence` and every `Next` of the run). -/
theorem C30_unique : C30_uniqueStatement updateLease :=
  fun ops h => (SeqSys.inv_run ops {} SeqSys.inv_init h).uniq

/-- **C30 (monotonicity)**: every object's numbers are strictly increasing, on runs with `RunOk`. -/
theorem C30_monotone : C30_monotoneStatement updateLease :=
  fun ops h => (SeqSys.inv_run ops {} SeqSys.inv_init h).mono

theorem SeqSys.step_old_eq (s : SeqSys) (op : SeqOp) (h : op.out? = some .ok ∨ op.out? = none) :
    s.step updateLeaseOld op = s.step updateLease op := by
  cases op with
  | new id bw out =>
    have : out = .ok := by simpa [SeqOp.out?] using h
    subst this; rfl
  | next id out =>
    have : out = .ok := by simpa [SeqOp.out?] using h
    subst this; rfl
  | release id out => rfl
  | drop id => rfl
  | restart => rfl

theorem SeqSys.run_old_eq (ops : List SeqOp) : ∀ (s : SeqSys), NoConflict ops →
    (RunOk updateLeaseOld s ops → RunOk updateLease s ops) ∧
    SeqSys.run updateLeaseOld s ops = SeqSys.run updateLease s ops := by
  induction ops with
  | nil => intro s _; exact ⟨fun h => h, rfl⟩
  | cons op ops ih =>
    intro s hc
    have hop := SeqSys.step_old_eq s op (hc op List.mem_cons_self)
    have := ih (s.step updateLease op) (fun o ho => hc o (List.mem_cons_of_mem _ ho))
    constructor
    · intro hr
      refine ⟨hr.1, this.1 ?_⟩
      have h2 := hr.2
      rwa [hop] at h2
    · simp only [SeqSys.run, List.foldl_cons]
      rw [hop]; exact this.2

/-- **C30 (uniqueness, the code before commit 54a0fc5)** when every transaction of the run commits. -/
theorem C30_unique_old_no_conflict (ops : List SeqOp) (hc : NoConflict ops)
    (h : RunOk updateLeaseOld {} ops) : (SeqSys.run updateLeaseOld {} ops).Unique := by
  obtain ⟨h1, h2⟩ := SeqSys.run_old_eq ops {} hc
  rw [h2]; exact C30_unique ops (h1 h)

/-- **C30 (monotonicity, the code before commit 54a0fc5)** when every transaction of the run commits. -/
theorem C30_monotone_old_no_conflict (ops : List SeqOp) (hc : NoConflict ops)
    (h : RunOk updateLeaseOld {} ops) : (SeqSys.run updateLeaseOld {} ops).Monotone := by
  obtain ⟨h1, h2⟩ := SeqSys.run_old_eq ops {} hc
  rw [h2]; exact C30_monotone ops (h1 h)

/-! `RunOk` is decidable, so the concrete runs below (the witnesses of finding F9, the sample runs) are
checked by evaluation. -/

instance SeqSys.decStepOk (s : SeqSys) : (op : SeqOp) → Decidable (s.StepOk op)
  | .new _ bw _ => inferInstanceAs (Decidable (s.stored.getD 0 + bw < 2 ^ 64))
  | .next id _ =>
    inferInstanceAs (Decidable (∀ o, o ∈ s.find id → s.stored.getD 0 + o.bandwidth < 2 ^ 64))
  | .release _ _ => isTrue trivial
  | .drop _ => isTrue trivial
  | .restart => isTrue trivial

instance decRunOk (lf : LeaseFn) : (s : SeqSys) → (ops : List SeqOp) → Decidable (RunOk lf s ops)
  | _, [] => isTrue trivial
  | s, op :: ops => @instDecidableAnd _ _ (s.decStepOk op) (decRunOk lf (s.step lf op) ops)

instance (ops : List SeqOp) : Decidable (NoConflict ops) :=
  inferInstanceAs (Decidable (∀ op ∈ ops, op.out? = some .ok ∨ op.out? = none))

/-- F9 witness (replayed on the real code): objects 1 and 2 with bandwidth 1. Object 2 renews
    its lease to `[2,3)` and hands out 2; object 1's lease transaction had read 2 but got
    `ErrConflict`: it keeps the phantom lease `[2,3)` and hands out 2 as well. -/
def f9UniqueOps : List SeqOp :=
  [.new 1 1 .ok, .new 2 1 .ok, .next 1 .ok, .next 2 .ok, .next 2 .ok,
   .next 1 (.conflict (some 2)), .next 1 .ok]

example : (SeqSys.run updateLeaseOld {} f9UniqueOps).handed = [(1, 0), (2, 1), (2, 2), (1, 2)] := by
  decide

/-- **C30 was violated by the code before commit 54a0fc5 (uniqueness)**: after one `ErrConflict` in `updateLeaseOld`
    two objects hand out the same number. -/
theorem C30_unique_old_counterexample : ¬ C30_uniqueStatement updateLeaseOld := by
  intro h
  have h1 : (SeqSys.run updateLeaseOld {} f9UniqueOps).Unique := h f9UniqueOps (by decide)
  revert h1
  unfold SeqSys.Unique
  decide

/-- F9 witness for monotonicity: object 1 (bandwidth 3) hands out 0,1,2; object 2 (bandwidth 1)
    leases `[3,4)`; object 1's renewal had read 3 but got `ErrConflict`: phantom lease `[3,6)`,
    it hands out 3,4,5, then renews for real from the stored value 4 and hands out 4 after 5. -/
def f9MonotoneOps : List SeqOp :=
  [.new 1 3 .ok, .next 1 .ok, .next 1 .ok, .next 1 .ok, .new 2 1 .ok,
   .next 1 (.conflict (some 3)), .next 1 .ok, .next 1 .ok, .next 1 .ok, .next 1 .ok]

example : (SeqSys.run updateLeaseOld {} f9MonotoneOps).handedBy 1 = [0, 1, 2, 3, 4, 5, 4] := by
  decide

/-- **C30 was violated by the code before commit 54a0fc5 (monotonicity)**: after one `ErrConflict` in
    `updateLeaseOld` an object hands out a number smaller than an earlier one. -/
theorem C30_monotone_old_counterexample : ¬ C30_monotoneStatement updateLeaseOld := by
  intro h
  have h1 : (SeqSys.run updateLeaseOld {} f9MonotoneOps).Monotone := h f9MonotoneOps (by decide)
  have h2 := h1 1
  revert h2
  decide

/-- five objects (three before the restart), a refused `GetSequence`, a refused renewal, a refused
    and a committed `Release`, a drop and a restart -/
def exOps : List SeqOp :=
  [.new 1 2 .ok, .new 2 3 (.conflict none), .next 1 .ok, .next 2 (.conflict (some 0)),
   .next 2 .ok, .next 1 .ok, .next 1 (.conflict (some 5)), .next 1 .ok, .release 2 (.conflict none),
   .release 1 .ok, .next 2 .ok, .drop 2, .new 3 4 .ok, .next 3 .ok, .restart, .next 3 .ok,
   .new 4 1 .ok, .next 4 .ok, .next 4 .ok, .release 4 .ok, .new 5 2 .ok, .next 5 .ok]

theorem exOps_ok : RunOk updateLease {} exOps := by decide

/-- the hypotheses of `C30_unique` / `C30_monotone` hold for `exOps` … -/
example : RunOk updateLease {} exOps := exOps_ok

/-- … and numbers really are handed out (by five objects, across the restart) -/
example : (SeqSys.run updateLease {} exOps).handed =
    [(1, 0), (2, 2), (1, 1), (1, 5), (2, 3), (3, 6), (4, 10), (4, 11), (5, 12)] := by decide

example : (SeqSys.run updateLease {} exOps).Unique := C30_unique exOps exOps_ok
example : (SeqSys.run updateLease {} exOps).Monotone := C30_monotone exOps exOps_ok

/-- a conflict-free run for the `old_no_conflict` theorems -/
def exOpsOk : List SeqOp :=
  [.new 1 2 .ok, .new 2 3 .ok, .next 1 .ok, .next 2 .ok, .next 1 .ok, .next 1 .ok,
   .release 1 .ok, .next 2 .ok, .drop 2, .restart, .new 3 1 .ok, .next 3 .ok, .next 3 .ok]

theorem exOpsOk_ok : NoConflict exOpsOk ∧ RunOk updateLeaseOld {} exOpsOk := by decide

example : NoConflict exOpsOk ∧ RunOk updateLeaseOld {} exOpsOk := exOpsOk_ok
example : (SeqSys.run updateLeaseOld {} exOpsOk).handed =
    [(1, 0), (2, 2), (1, 1), (1, 5), (2, 3), (3, 6), (3, 7)] := by decide
example : (SeqSys.run updateLeaseOld {} exOpsOk).Unique :=
  C30_unique_old_no_conflict exOpsOk exOpsOk_ok.1 exOpsOk_ok.2
example : (SeqSys.run updateLeaseOld {} exOpsOk).Monotone :=
  C30_monotone_old_no_conflict exOpsOk exOpsOk_ok.1 exOpsOk_ok.2

/-- the overflow hypothesis is not trivially true: a lease reaching `2^64` is rejected -/
example : ¬ RunOk updateLease {} [.new 1 (2 ^ 64 - 1) .ok, .new 2 1 .ok] := by decide

/-- bandwidth 10, three numbers handed out, then `Release` with a `Next` slipping in between its
    read and its write (impossible while `Release` holds `seq.lock`), then `Next` again -/
def relUnlockedRun : SeqSys :=
  let s := SeqSys.run updateLease {} [.new 1 10 .ok, .next 1 .ok, .next 1 .ok, .next 1 .ok]
  SeqSys.run updateLease (s.releaseInterleavedNext 1) [.next 1 .ok]

theorem releaseThenNext_eq_run (lf : LeaseFn) (s : SeqSys) (id : Nat) :
    (s.releaseThenNext lf id).1 = SeqSys.run lf s [.release id .ok, .next id .ok] := rfl

/-- if a `Next` could run between Release's read of `seq.next/seq.leased` and its write-back,
    the number it hands out would be handed out again by the very next `Next` (and by any other
    object or after a restart): uniqueness needs `Release` to hold `seq.lock` across its
    transaction. With the lock the same calls are `C30_unique` (`releaseThenNext`). -/
theorem C30_release_lock_needed : ¬ relUnlockedRun.Unique ∧ ¬ relUnlockedRun.Monotone := by
  constructor
  · unfold SeqSys.Unique
    decide
  · intro h
    have := h 1
    revert this
    decide

example : relUnlockedRun.handed = [(1, 0), (1, 1), (1, 2), (1, 3), (1, 3)] := by decide

/-- under the lock: Release, then Next — a run of the machine, hence unique -/
example : ((SeqSys.run updateLease {} [.new 1 10 .ok, .next 1 .ok, .next 1 .ok, .next 1 .ok]).releaseThenNext
    updateLease 1).1.handed = [(1, 0), (1, 1), (1, 2), (1, 3)] := by decide

end Badger
