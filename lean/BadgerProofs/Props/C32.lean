import BadgerModel.Publisher
import BadgerProofs.Props.C32Trie
import BadgerProofs.Lemmas.Lists
/-!
# C32 — subscribers get every matching committed write exactly once, in commit order, and
nothing else (`publisher.go`, `DB.Subscribe`), on top of `C32Trie.lean`: of its lemmas about `idsAt`
(`mem_trieGet`, `mem_idsAt_fixSet`, `mem_idsAt_del`, `idsAt_new`), not of its `C32_trie_*` theorems.

The system is the state machine of `BadgerModel/Publisher.lean`; the write pipeline is the
sequence of `publish reqs` steps (requests reach `publishUpdates` in the order of `writeRequests`,
which is commit-timestamp order — C03). The specification (`Spec`) does not mention the trie:
subscriber `id`, registered with patterns `pats`, is owed the `pb.KV` of every entry published
while it is subscribed whose **user key** matches one of its patterns, in publish order.
`PubInv` ties the publisher's state to the specification's and is kept by every step; `SInv` says
what the specification's `expected` lists hold in terms of the history of the run.
-/
namespace Badger

/-- The canonical patterns `newSubscriber` adds to the trie: those before the first ignore string
    that does not parse (all of them for a successful registration). -/
def addedPats : List (Bytes × Bytes) → List Pattern
  | [] => []
  | (p, ig) :: r =>
    match parseIgnoreBytes ig with
    | none => []
    | some b => mkPattern p b :: addedPats r

def allParse : List (Bytes × Bytes) → Bool
  | [] => true
  | (_, ig) :: r => (parseIgnoreBytes ig).isSome && allParse r

def matchesAny (pats : List Pattern) (key : Bytes) : Bool := pats.any (fun q => patMatches q key)

def owed (pats : List Pattern) (reqs : List (List PubEntry)) : List KV :=
  (reqs.flatten.filter (fun e => matchesAny pats (parseKey e.ikey))).map kvOf

structure Spec where
  nextID : Nat
  live : Nat → Option (List Pattern)     -- subscribed (successfully registered, not yet removed)
  expected : Nat → List KV
  closed : Nat → Bool                     -- removed by a DB close (everything pending delivered)
  regs : List (List (Bytes × Bytes))      -- history: the matches of the i-th `Subscribe` call
  published : List PubEntry               -- history: every entry handed to `publishUpdates`

def Spec.init : Spec :=
  { nextID := 0, live := fun _ => none, expected := fun _ => [], closed := fun _ => false,
    regs := [], published := [] }

def Spec.step (s : Spec) : PubStep → Spec
  | .subscribe ms =>
    { s with nextID := s.nextID + 1
             live := fun i => if i = s.nextID ∧ allParse ms = true then some (addedPats ms) else s.live i
             regs := s.regs ++ [ms] }
  | .publish reqs =>
    { s with expected := fun i =>
               match s.live i with
               | some pats => s.expected i ++ owed pats reqs
               | none => s.expected i
             published := s.published ++ reqs.flatten }
  | .deliver _ _ => s
  | .cancel id => { s with live := fun i => if i = id then none else s.live i }
  | .close id =>
    { s with live := fun i => if i = id then none else s.live i
             closed := fun i => if i = id ∧ (s.live id).isSome then true else s.closed i }

def Spec.run (steps : List PubStep) : Spec := steps.foldl Spec.step Spec.init

theorem addMatchesFor_spec (t : Trie) (id : Nat) (ms : List (Bytes × Bytes)) :
    (addMatchesFor t id ms).2 = allParse ms ∧
    ∀ q id', id' ∈ idsAt (addMatchesFor t id ms).1.root q ↔
      id' ∈ idsAt t.root q ∨ (id' = id ∧ q ∈ addedPats ms) := by
  induction ms generalizing t with
  | nil => simp [addMatchesFor, allParse, addedPats]
  | cons m ms ih =>
    obtain ⟨p, ig⟩ := m
    simp only [addMatchesFor, Trie.addMatch, allParse, addedPats]
    cases hp : parseIgnoreBytes ig with
    | none => simp
    | some b =>
      obtain ⟨h1, h2⟩ := ih ⟨fixSet t.root (mkPattern p b) id⟩
      refine ⟨h1, ?_⟩
      intro q id'
      rw [h2 q id', mem_idsAt_fixSet, List.mem_cons, and_or_left, or_assoc, and_comm (a := q = _)]

theorem delMatchesFor_spec (t : Trie) (id : Nat) (ms : List (Bytes × Bytes)) (hall : allParse ms = true) :
    ∀ q id', id' ∈ idsAt (delMatchesFor t id ms).root q ↔
      id' ∈ idsAt t.root q ∧ ¬ (id' = id ∧ q ∈ addedPats ms) := by
  induction ms generalizing t with
  | nil => simp [delMatchesFor, addedPats]
  | cons m ms ih =>
    obtain ⟨p, ig⟩ := m
    simp only [allParse, Bool.and_eq_true] at hall
    obtain ⟨hp, hrest⟩ := hall
    cases hpb : parseIgnoreBytes ig with
    | none => simp [hpb] at hp
    | some b =>
      intro q id'
      simp only [delMatchesFor, Trie.deleteMatch, hpb, Option.getD_some, addedPats]
      rw [ih _ hrest q id', mem_idsAt_del, List.mem_cons, and_assoc, ← not_or, and_or_left,
        and_comm (a := q = _)]

structure SubInv (p : Publisher) (s : Spec) (x : Sub) : Prop where
  ok : x.ok = true
  parse : allParse x.matchList = true
  live : s.live x.id = some (addedPats x.matchList)
  closed : s.closed x.id = false
  sum : p.deliveredTo x.id ++ x.queue.flatten = s.expected x.id

/-- The publisher state `p` against the specification state `s`. The trie is tied to the
    specification's `live` map, not to the subscriber list, so that which subscriber an id in the
    trie belongs to never has to be determined. The accounts: for a subscribed id received ++ pending
    is what it is owed (`SubInv.sum`); for any other id, removed or never registered, received is a
    prefix of it (`gone`). -/
structure PubInv (p : Publisher) (s : Spec) : Prop where
  next : p.nextID = s.nextID
  nodup : p.subs.Pairwise (fun a b => a.id ≠ b.id)
  sub : ∀ x, x ∈ p.subs → SubInv p s x
  live' : ∀ id pats, s.live id = some pats → ∃ x, x ∈ p.subs ∧ x.id = id
  trie : ∀ q id, id ∈ idsAt p.trie.root q ↔ ∃ pats, s.live id = some pats ∧ q ∈ pats
  gone : ∀ id, s.live id = none →
    p.deliveredTo id <+: s.expected id ∧ (s.closed id = true → p.deliveredTo id = s.expected id)
  fresh : ∀ id, p.nextID ≤ id → s.expected id = [] ∧ s.live id = none ∧ s.closed id = false

theorem PubInv.live_lt {p : Publisher} {s : Spec} (h : PubInv p s) {id : Nat} {pats : List Pattern}
    (hl : s.live id = some pats) : id < p.nextID :=
  Nat.lt_of_not_le fun hle => by
    rw [(h.fresh id hle).2.1] at hl
    cases hl

theorem PubInv.lt {p : Publisher} {s : Spec} (h : PubInv p s) {x : Sub} (hx : x ∈ p.subs) : x.id < p.nextID :=
  h.live_lt (h.sub x hx).live

theorem find_some {p : Publisher} {id : Nat} {x : Sub} (h : p.find id = some x) : x ∈ p.subs ∧ x.id = id :=
  ⟨List.mem_of_find?_eq_some h, key_of_find? Sub.id h⟩

theorem find_none_iff {p : Publisher} (id : Nat) :
    p.find id = none ↔ ∀ x, x ∈ p.subs → x.id ≠ id := by
  unfold Publisher.find
  simp only [List.find?_eq_none, beq_iff_eq]

theorem get_iff_matchesAny {p : Publisher} {s : Spec} (h : PubInv p s) {x : Sub} (hx : x ∈ p.subs)
    (key : Bytes) : x.id ∈ p.trie.get key ↔ matchesAny (addedPats x.matchList) key = true := by
  unfold Trie.get matchesAny
  simp only [mem_trieGet, List.any_eq_true, h.trie, (h.sub x hx).live, Option.some.injEq, exists_eq_left',
    and_comm]

theorem batchFor_eq_owed {p : Publisher} {s : Spec} (h : PubInv p s) {x : Sub} (hx : x ∈ p.subs)
    (reqs : List (List PubEntry)) : batchFor p.trie x.id reqs = owed (addedPats x.matchList) reqs := by
  unfold batchFor owed
  rw [← List.filterMap_eq_map, List.filterMap_filter]
  simp only [get_iff_matchesAny h hx, Function.comp_apply]

theorem PubInv_init : PubInv Publisher.empty Spec.init where
  next := rfl
  nodup := List.Pairwise.nil
  sub := fun _ hx => nomatch hx
  live' := by intro id pats h; cases h
  trie := by simp [Publisher.empty, Trie.empty, idsAt_new, Spec.init]
  gone := fun id _ => ⟨List.nil_prefix, fun _ => rfl⟩
  fresh := fun id _ => ⟨rfl, rfl, rfl⟩

theorem okPrefix_spec (ms : List (Bytes × Bytes)) :
    allParse (okPrefix ms) = true ∧ addedPats (okPrefix ms) = addedPats ms := by
  induction ms with
  | nil => simp [okPrefix, allParse, addedPats]
  | cons m ms ih =>
    obtain ⟨p, ig⟩ := m
    simp only [okPrefix]
    cases hp : parseIgnoreBytes ig <;> simp [allParse, addedPats, hp, ih.1, ih.2]

theorem PubInv_subscribe {p : Publisher} {s : Spec} (h : PubInv p s) (ms : List (Bytes × Bytes)) :
    PubInv (p.subscribe ms).1 (s.step (.subscribe ms)) := by
  obtain ⟨hok, htrie⟩ := addMatchesFor_spec p.trie p.nextID ms
  have hn := h.next
  obtain ⟨hfe, hfl, hfc⟩ := h.fresh p.nextID (Nat.le_refl _)
  have hfresh := fun id (hid : p.nextID + 1 ≤ id) => h.fresh id (Nat.le_of_succ_le hid)
  unfold Publisher.subscribe
  by_cases hall : (addMatchesFor p.trie p.nextID ms).2 = true
  · rw [if_pos hall]
    have hallp : allParse ms = true := hok ▸ hall
    have hlive : ∀ i, (s.step (.subscribe ms)).live i = if i = p.nextID then some (addedPats ms) else s.live i :=
      fun i => by simp [Spec.step, hn, hallp]
    refine
      { next := congrArg (· + 1) hn
        nodup := ?_
        sub := List.forall_mem_append.mpr ⟨fun x hx => ?_, List.forall_mem_singleton.mpr ?_⟩
        live' := ?_
        trie := ?_
        gone := ?_
        fresh := ?_ }
    · rw [List.pairwise_append]
      refine ⟨h.nodup, List.pairwise_singleton _ _, ?_⟩
      intro a ha b hb
      cases List.mem_singleton.mp hb
      exact Nat.ne_of_lt (h.lt ha)
    · have hs := h.sub x hx
      exact ⟨hs.ok, hs.parse, by rw [hlive, if_neg (Nat.ne_of_lt (h.lt hx))]; exact hs.live, hs.closed, hs.sum⟩
    · refine ⟨rfl, hallp, by rw [hlive, if_pos rfl], hfc, ?_⟩
      show p.deliveredTo p.nextID ++ [] = s.expected p.nextID
      rw [List.append_nil, hfe]
      -- nothing is owed to an id not yet handed out, so nothing has been delivered to it
      exact List.prefix_nil.mp (hfe ▸ (h.gone _ hfl).1)
    · intro id pats hl
      rw [hlive] at hl
      split at hl
      · next hc => exact ⟨_, List.mem_append_right _ (List.mem_singleton_self _), hc.symm⟩
      · obtain ⟨x, hx, hid⟩ := h.live' id pats hl
        exact ⟨x, List.mem_append_left _ hx, hid⟩
    · intro q id
      rw [htrie q id, h.trie q id, hlive]
      -- the new id was not live (`hfl`), so its patterns are exactly the added ones
      by_cases hid : id = p.nextID <;> simp [hid, hfl]
    · intro id hl
      rw [hlive] at hl
      split at hl
      · cases hl
      · exact h.gone id hl
    · intro id (hid : p.nextID + 1 ≤ id)
      rw [hlive, if_neg (by omega)]
      exact hfresh id hid
  · rw [if_neg hall]
    have hallp : ¬ allParse ms = true := hok ▸ hall
    obtain ⟨hpre1, hpre2⟩ := okPrefix_spec ms
    have hdel := delMatchesFor_spec (addMatchesFor p.trie p.nextID ms).1 p.nextID (okPrefix ms) hpre1
    have hlive : (s.step (.subscribe ms)).live = s.live := by
      funext i
      simp [Spec.step, hallp]
    refine
      { next := congrArg (· + 1) hn
        nodup := h.nodup
        sub := fun x hx =>
          have hs := h.sub x hx
          ⟨hs.ok, hs.parse, by rw [hlive]; exact hs.live, hs.closed, hs.sum⟩
        live' := by rw [hlive]; exact h.live'
        trie := ?_
        gone := by rw [hlive]; exact h.gone
        fresh := by rw [hlive]; exact hfresh }
    -- the patterns added before the failing match are deleted again; no subscribed id is `nextID`
    intro q id
    rw [hdel q id, htrie q id, hpre2, hlive, ← h.trie q id]
    refine ⟨fun hh => hh.1.resolve_right hh.2, fun h1 => ⟨Or.inl h1, fun hb => ?_⟩⟩
    obtain ⟨pats, hl, _⟩ := (h.trie q id).mp h1
    exact Nat.lt_irrefl _ (hb.1 ▸ h.live_lt hl)

/-- A step that only touches the queues and the delivery log — the subscribers keep their ids,
    match lists and flags, the trie and the set of live ids stay, the specification changes what
    is owed (`e`) — keeps the invariant if the accounts of the subscribers still add up (`sum`) and
    those of the other ids do not move. -/
theorem PubInv.map_subs {p p' : Publisher} {s : Spec} (h : PubInv p s) (g : Sub → Sub) (dl : List (Nat × KV))
    {e : Nat → List KV} {pub : List PubEntry}
    (hp' : p' = Publisher.mk p.trie p.nextID (p.subs.map g) dl)
    (hg : ∀ x, (g x).id = x.id ∧ (g x).matchList = x.matchList ∧ (g x).ok = x.ok)
    (sum : ∀ x, x ∈ p.subs → p'.deliveredTo x.id ++ (g x).queue.flatten = e x.id)
    (frame : ∀ id, s.live id = none → p'.deliveredTo id = p.deliveredTo id ∧ e id = s.expected id) :
    PubInv p' { s with expected := e, published := pub } := by
  subst hp'
  refine
    { next := h.next
      nodup := List.pairwise_map.mpr (h.nodup.imp fun hab => by rwa [(hg _).1, (hg _).1])
      sub := List.forall_mem_map.mpr fun x hx => ?_
      live' := fun i pats hl => ?_
      trie := h.trie
      gone := fun i hl => ?_
      fresh := fun i hi => ?_ }
  · have hs := h.sub x hx
    obtain ⟨hid, hml, hok⟩ := hg x
    exact ⟨hok ▸ hs.ok, hml ▸ hs.parse, by rw [hid, hml]; exact hs.live,
      by rw [hid]; exact hs.closed, by rw [hid]; exact sum x hx⟩
  · obtain ⟨x, hx, hxid⟩ := h.live' i pats hl
    exact ⟨g x, List.mem_map_of_mem hx, (hg x).1.trans hxid⟩
  · show _ <+: e i ∧ (_ → _ = e i)
    rw [(frame i hl).1, (frame i hl).2]
    exact h.gone i hl
  · show e i = [] ∧ _
    rw [(frame i (h.fresh i hi).2.1).2]
    exact h.fresh i hi

/-- The queue update of `publishUpdates` for one subscriber. -/
def pubSub (t : Trie) (reqs : List (List PubEntry)) (x : Sub) : Sub :=
  if (batchFor t x.id reqs).isEmpty then x else { x with queue := x.queue ++ [batchFor t x.id reqs] }

theorem pubSub_id (t : Trie) (reqs : List (List PubEntry)) (x : Sub) :
    (pubSub t reqs x).id = x.id ∧ (pubSub t reqs x).matchList = x.matchList ∧ (pubSub t reqs x).ok = x.ok := by
  unfold pubSub
  split <;> simp

theorem pubSub_queue (t : Trie) (reqs : List (List PubEntry)) (x : Sub) :
    (pubSub t reqs x).queue.flatten = x.queue.flatten ++ batchFor t x.id reqs := by
  unfold pubSub
  split
  · next he => simp [List.isEmpty_iff.mp he]
  · simp

theorem PubInv_publish {p : Publisher} {s : Spec} (h : PubInv p s) (reqs : List (List PubEntry)) :
    PubInv (p.publish reqs) (s.step (.publish reqs)) := by
  refine h.map_subs (pubSub p.trie reqs) p.delivered rfl (pubSub_id _ _) ?_ ?_
  · intro x hx
    rw [pubSub_queue]
    simp only [(h.sub x hx).live]
    show p.deliveredTo x.id ++ (x.queue.flatten ++ batchFor p.trie x.id reqs) = _
    rw [← List.append_assoc, (h.sub x hx).sum, batchFor_eq_owed h hx]
  · exact fun id hl => ⟨rfl, by simp only [hl]⟩

theorem deliveredTo_append (p : Publisher) (extra : List (Nat × KV)) (id : Nat) :
    ({ p with delivered := p.delivered ++ extra } : Publisher).deliveredTo id =
      p.deliveredTo id ++ extra.filterMap (fun x => if x.1 = id then some x.2 else none) := by
  simp [Publisher.deliveredTo, List.filterMap_append]

theorem deliveredTo_extra (p : Publisher) (t : Trie) (nx : Nat) (sb : List Sub) (id : Nat) (extra : List KV)
    (i : Nat) :
    (Publisher.mk t nx sb (p.delivered ++ extra.map (fun kv => (id, kv)))).deliveredTo i =
      p.deliveredTo i ++ (if i = id then extra else []) :=
  (deliveredTo_append p _ i).trans (by by_cases h : id = i <;> simp [Function.comp_def, h, eq_comm (a := i)])

theorem live_none_of_find_none {p : Publisher} {s : Spec} (h : PubInv p s) (id : Nat)
    (hf : p.find id = none) : s.live id = none := by
  cases hl : s.live id with
  | none => rfl
  | some pats =>
    obtain ⟨x, hx, hid⟩ := h.live' id pats hl
    exact absurd hid ((find_none_iff id).mp hf x hx)

theorem Spec.remove_noop (s : Spec) (id : Nat) (hl : s.live id = none) :
    (fun i => if i = id then none else s.live i) = s.live := by
  funext i
  split
  · next hi => rw [hi, hl]
  · rfl

theorem PubInv_deliver {p : Publisher} {s : Spec} (h : PubInv p s) (id n : Nat) :
    PubInv (p.deliver id n) (s.step (.deliver id n)) := by
  unfold Publisher.deliver
  cases hf : p.find id with
  | none => exact h
  | some x0 =>
    obtain ⟨hx0, rfl⟩ := find_some hf
    simp only
    rw [if_pos (h.sub x0 hx0).ok]
    let g : Sub → Sub := fun x => if x.id == x0.id then { x with queue := x.queue.drop n } else x
    have hdel := deliveredTo_extra p p.trie p.nextID (p.subs.map g) x0.id (x0.queue.take n).flatten
    have hother := fun i (hne : i ≠ x0.id) => (hdel i).trans (by rw [if_neg hne, List.append_nil])
    have hlive := (h.sub x0 hx0).live
    refine h.map_subs g _ rfl (fun x => by simp only [g]; split <;> simp) ?_ ?_
    · intro x hx
      by_cases hxi : x.id = x0.id
      · obtain rfl : x = x0 := eq_of_key_eq Sub.id h.nodup hx hx0 hxi
        have : (g x).queue = x.queue.drop n := by simp [g]
        rw [hdel, this, if_pos rfl, List.append_assoc, ← List.flatten_append, List.take_append_drop]
        exact (h.sub x hx).sum
      · have : (g x).queue = x.queue := by simp [g, hxi]
        rw [hother _ hxi, this]
        exact (h.sub x hx).sum
    · exact fun i hl => ⟨hother i (fun hi => by rw [hi, hlive] at hl; cases hl), rfl⟩

/-- Removal of a subscriber; on a DB close (`cl`) its pending batches are delivered first, on a
    cancellation they are dropped. -/
theorem PubInv_remove {p : Publisher} {s : Spec} (h : PubInv p s) (x0 : Sub)
    (hx0 : x0 ∈ p.subs) (cl : Bool) :
    PubInv { p with trie := delMatchesFor p.trie x0.id x0.matchList
                    subs := p.subs.filter (fun x => x.id != x0.id)
                    delivered := p.delivered ++
                      (if cl then x0.queue.flatten else []).map (fun kv => (x0.id, kv)) }
           { s with live := fun i => if i = x0.id then none else s.live i
                    closed := fun i => if i = x0.id ∧ cl = true then true else s.closed i } := by
  have h0 := h.sub x0 hx0
  have hdel := delMatchesFor_spec p.trie x0.id x0.matchList h0.parse
  have hdl := deliveredTo_extra p (delMatchesFor p.trie x0.id x0.matchList) p.nextID
    (p.subs.filter (fun x => x.id != x0.id)) x0.id (if cl then x0.queue.flatten else [])
  refine
    { next := h.next
      nodup := h.nodup.sublist List.filter_sublist
      sub := List.forall_mem_filter.mpr fun y hy hyid => ?_
      live' := ?_
      trie := ?_
      gone := ?_
      fresh := ?_ }
  · have hs := h.sub y hy
    have hne : y.id ≠ x0.id := by simpa using hyid
    exact ⟨hs.ok, hs.parse, by simp only [hne, if_false]; exact hs.live,
      by simp only [hne, false_and, if_false]; exact hs.closed,
      by rw [hdl, if_neg hne, List.append_nil]; exact hs.sum⟩
  · intro i pats hl
    simp only at hl
    split at hl
    · cases hl
    · next hne =>
      obtain ⟨x, hx, hid⟩ := h.live' i pats hl
      exact ⟨x, List.mem_filter.mpr ⟨hx, by simpa [hid] using hne⟩, hid⟩
  · intro q i
    rw [hdel q i, h.trie q i]
    by_cases hi : i = x0.id <;> simp [hi, h0.live]
  · intro i hl
    rw [hdl]
    by_cases hi : i = x0.id
    · rw [hi]
      cases cl
      · simp [← h0.sum, h0.closed]  -- cancelled: received is a prefix of received ++ pending
      · simp [h0.sum]  -- closed: the pending batches were delivered, received is all that is owed
    · simp only [hi, if_false, List.append_nil, false_and]
      simp only [hi, if_false] at hl
      exact h.gone i hl
  · intro i (hi : p.nextID ≤ i)
    have hlt := h.live_lt h0.live
    have hne : i ≠ x0.id := by omega
    simp only [hne, if_false, false_and]
    exact h.fresh i hi

theorem PubInv_cancel {p : Publisher} {s : Spec} (h : PubInv p s) (id : Nat) :
    PubInv (p.cancel id) (s.step (.cancel id)) := by
  unfold Publisher.cancel
  cases hf : p.find id with
  | none =>
    simp only [Spec.step, Spec.remove_noop s id (live_none_of_find_none h id hf)]
    exact h
  | some x0 =>
    obtain ⟨hx0, rfl⟩ := find_some hf
    simp only
    rw [if_pos (h.sub x0 hx0).ok]
    simpa [Spec.step] using PubInv_remove h x0 hx0 false

theorem PubInv_close {p : Publisher} {s : Spec} (h : PubInv p s) (id : Nat) :
    PubInv (p.close id) (s.step (.close id)) := by
  unfold Publisher.close
  cases hf : p.find id with
  | none =>
    have hl := live_none_of_find_none h id hf
    simp only [Spec.step, Spec.remove_noop s id hl, hl, Option.isSome_none, Bool.false_eq_true, and_false,
      if_false]
    exact h
  | some x0 =>
    obtain ⟨hx0, rfl⟩ := find_some hf
    simp only
    rw [if_pos (h.sub x0 hx0).ok]
    simpa [Spec.step, (h.sub x0 hx0).live] using PubInv_remove h x0 hx0 true

theorem PubInv_step {p : Publisher} {s : Spec} (h : PubInv p s) (st : PubStep) :
    PubInv (p.step st) (s.step st) := by
  cases st with
  | subscribe ms => exact PubInv_subscribe h ms
  | publish reqs => exact PubInv_publish h reqs
  | deliver id n => exact PubInv_deliver h id n
  | cancel id => exact PubInv_cancel h id
  | close id => exact PubInv_close h id

theorem PubInv_run (steps : List PubStep) : PubInv (Publisher.run steps) (Spec.run steps) :=
  List.foldl_rel PubInv_init fun st _ _ _ h => PubInv_step h st

structure SInv (s : Spec) : Prop where
  len : s.nextID = s.regs.length
  liveReg : ∀ id pats, s.live id = some pats → ∃ ms, s.regs[id]? = some ms ∧ pats = addedPats ms
  sound : ∀ id kv, kv ∈ s.expected id → ∃ ms e, s.regs[id]? = some ms ∧ e ∈ s.published ∧ kv = kvOf e ∧
    matchesAny (addedPats ms) (parseKey e.ikey) = true

theorem SInv_step {s : Spec} (h : SInv s) (st : PubStep) : SInv (s.step st) := by
  have hremove : ∀ id : Nat, (∀ i pats, (if i = id then none else s.live i) = some pats →
      ∃ ms, s.regs[i]? = some ms ∧ pats = addedPats ms) := by
    intro id i pats hl
    split at hl
    · cases hl
    · exact h.liveReg i pats hl
  cases st with
  | subscribe ms =>
    have hreg : ∀ {id ms'}, s.regs[id]? = some ms' → (s.regs ++ [ms])[id]? = some ms' :=
      getElem?_append_some _ _ _ _
    refine ⟨by simp [Spec.step, h.len], fun id pats hl => ?_, fun id kv hk => ?_⟩
    · simp only [Spec.step] at hl ⊢
      split at hl
      · next hc =>
        cases hl
        exact ⟨ms, by rw [hc.1, h.len]; simp, rfl⟩
      · obtain ⟨ms', hr, hp⟩ := h.liveReg id pats hl
        exact ⟨ms', hreg hr, hp⟩
    · obtain ⟨ms', e, hr, rest⟩ := h.sound id kv hk
      exact ⟨ms', e, hreg hr, rest⟩
  | publish reqs =>
    refine ⟨h.len, h.liveReg, fun id kv hk => ?_⟩
    simp only [Spec.step] at hk ⊢
    have hk' : kv ∈ s.expected id ∨ ∃ pats, s.live id = some pats ∧ kv ∈ owed pats reqs := by
      split at hk
      · next pats hl => exact (List.mem_append.mp hk).imp_right fun h' => ⟨pats, hl, h'⟩
      · exact Or.inl hk
    rcases hk' with hk | ⟨pats, hl, hk⟩
    · obtain ⟨ms', e, hr, he, rest⟩ := h.sound id kv hk
      exact ⟨ms', e, hr, List.mem_append_left _ he, rest⟩
    · obtain ⟨ms', hr, rfl⟩ := h.liveReg id pats hl
      obtain ⟨e, he, hkv⟩ := List.mem_map.mp hk
      obtain ⟨he1, he2⟩ := List.mem_filter.mp he
      exact ⟨ms', e, hr, List.mem_append_right _ he1, hkv.symm, he2⟩
  | deliver id n => exact h
  | cancel id | close id => exact ⟨h.len, hremove id, h.sound⟩

theorem SInv_run (steps : List PubStep) : SInv (Spec.run steps) :=
  List.foldlRecOn steps Spec.step ⟨rfl, nofun, nofun⟩ fun _ h st _ => SInv_step h st

def regsOf (steps : List PubStep) : List (List (Bytes × Bytes)) :=
  steps.filterMap (fun st => match st with | .subscribe ms => some ms | _ => none)

def publishedOf (steps : List PubStep) : List PubEntry :=
  steps.flatMap (fun st => match st with | .publish reqs => reqs.flatten | _ => [])

theorem Spec.run_history (steps : List PubStep) :
    (Spec.run steps).regs = regsOf steps ∧ (Spec.run steps).published = publishedOf steps := by
  suffices hgen : ∀ s : Spec, (steps.foldl Spec.step s).regs = s.regs ++ regsOf steps ∧
      (steps.foldl Spec.step s).published = s.published ++ publishedOf steps by
    simpa [Spec.init, Spec.run] using hgen Spec.init
  induction steps with
  | nil =>
    simp [regsOf, publishedOf]
  | cons st steps ih =>
    intro s
    rw [List.foldl_cons, (ih _).1, (ih _).2]
    cases st with
    | subscribe ms => exact ⟨List.append_assoc .., rfl⟩
    | publish reqs => exact ⟨rfl, List.append_assoc ..⟩
    | _ => exact ⟨rfl, rfl⟩

/-- **Exactly once, in order.** After any sequence of Subscribe / publish / deliver / cancel /
    close steps, with `p` the publisher state and `s` the specification state:
    * a subscribed id: what its callback received so far followed by what waits in its channel is
      exactly the list it is owed — the KVs of the entries published since its registration
      whose user key matches one of its patterns, in publish (= commit) order, each once;
    * a cancelled id: its callback received a prefix of that list (pending batches are dropped
      by `drain()`), never anything else, never out of order;
    * an id removed by a DB close: its callback received the whole list. -/
theorem C32_exactly_once_in_order (steps : List PubStep) :
    let p := Publisher.run steps
    let s := Spec.run steps
    (∀ id pats, s.live id = some pats →
        ∃ x, x ∈ p.subs ∧ x.id = id ∧ p.deliveredTo id ++ x.queue.flatten = s.expected id) ∧
    (∀ id, s.live id = none → p.deliveredTo id <+: s.expected id) ∧
    (∀ id, s.closed id = true → p.deliveredTo id = s.expected id) := by
  have h := PubInv_run steps
  refine ⟨?_, ?_, ?_⟩
  · intro id pats hl
    obtain ⟨x, hx, hid⟩ := h.live' id pats hl
    exact ⟨x, hx, hid, by rw [← hid]; exact (h.sub x hx).sum⟩
  · intro id hl
    exact (h.gone id hl).1
  · intro id hc
    cases hl : (Spec.run steps).live id with
    | none => exact (h.gone id hl).2 hc
    | some pats =>
      obtain ⟨x, hx, hid⟩ := h.live' id pats hl
      have := (h.sub x hx).closed
      rw [hid] at this
      rw [this] at hc
      cases hc

theorem PubInv.delivered_prefix {p : Publisher} {s : Spec} (h : PubInv p s) (id : Nat) :
    p.deliveredTo id <+: s.expected id := by
  cases hl : s.live id with
  | none => exact (h.gone id hl).1
  | some pats =>
    obtain ⟨x, hx, rfl⟩ := h.live' id pats hl
    exact ⟨_, (h.sub x hx).sum⟩

/-- **Only matching.** Every KV handed to the callback of subscriber `id` is the KV (user key,
    value, user meta, expiry, version) of an entry that was published, and the user key of that
    entry matches one of the patterns `id` registered with (`regsOf steps` lists the matches of
    the Subscribe calls in order; ids are handed out in that order). -/
theorem C32_only_matching (steps : List PubStep) (id : Nat) (kv : KV)
    (hk : kv ∈ (Publisher.run steps).deliveredTo id) :
    ∃ ms e, (regsOf steps)[id]? = some ms ∧ e ∈ publishedOf steps ∧ kv = kvOf e ∧
      matchesAny (addedPats ms) (parseKey e.ikey) = true := by
  have h := (SInv_run steps).sound id kv (((PubInv_run steps).delivered_prefix id).subset hk)
  rw [(Spec.run_history steps).1, (Spec.run_history steps).2] at h
  exact h

/-- `matchesAny` in terms of prefix, ignored positions and user key (see `patMatches_mkPattern`). -/
theorem matchesAny_addedPats (ms : List (Bytes × Bytes)) (hall : allParse ms = true) (key : Bytes) :
    matchesAny (addedPats ms) key = true ↔
      ∃ pfx ig bools, (pfx, ig) ∈ ms ∧ parseIgnoreBytes ig = some bools ∧
        patMatches (mkPattern pfx bools) key = true := by
  unfold matchesAny
  rw [List.any_eq_true]
  induction ms with
  | nil => simp [addedPats]
  | cons m ms ih =>
    obtain ⟨p, ig⟩ := m
    simp only [allParse, Bool.and_eq_true, Option.isSome_iff_exists] at hall
    obtain ⟨⟨b, hp⟩, hrest⟩ := hall
    simp only [addedPats, hp, List.mem_cons, or_and_right, exists_or, exists_eq_left, ih hrest, exists_and_left,
      Prod.mk.injEq, and_assoc, Option.some.injEq, exists_eq_left']

private def demoEntry (k : Bytes) (ts : Nat) (v : UInt8) : PubEntry :=
  { ikey := keyWithTs k ts, value := [v], userMeta := 0, expiresAt := 0 }

-- subscriber 0: the three-byte prefix "a", hole, "b" with position 1 ignored (ignore string "1"): "a?b…";
-- subscriber 1: prefix "b". Writes: "axb"@1, "b"@2, "ayb"@3, then subscriber 0 is cancelled with one
-- batch still pending, "azb"@4 is published afterwards.
private def demoSteps : List PubStep :=
  [.subscribe [([0x61, 0x00, 0x62], [0x31])], .subscribe [([0x62], [])],
   .publish [[demoEntry [0x61, 0x78, 0x62] 1 1], [demoEntry [0x62] 2 2]],
   .deliver 0 1,
   .publish [[demoEntry [0x61, 0x79, 0x62] 3 3]],
   .cancel 0,
   .publish [[demoEntry [0x61, 0x7a, 0x62] 4 4]],
   .close 1]

set_option maxRecDepth 20000 in
example : ((Publisher.run demoSteps).deliveredTo 0).map (fun kv => (kv.key, kv.version)) =
    [([0x61, 0x78, 0x62], 1)] := by decide +kernel
set_option maxRecDepth 20000 in
example : ((Publisher.run demoSteps).deliveredTo 1).map (fun kv => (kv.key, kv.version)) =
    [([0x62], 2)] := by decide +kernel

end Badger
