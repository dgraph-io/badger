import BadgerModel.DirLock
import BadgerModel.Extracted
/-!
# C35 — directory locking excludes a second writer

The theorems quantify (`C35_no_leak_on_failed_open` apart, which holds of any state, and
`C35_tgen_valuedir_cmp`, the path comparison regenerated from db.go) over every
state reachable by an arbitrary finite sequence of
open / close / kill attempts of any number of DB instances in any number of processes,
with shared or separate `Dir` / `ValueDir`, and any path-to-directory resolution `ρ`
(two paths may name the same directory).

The invariant `Inv` is a count: for every directory and kind of lock, the kernel's lock table holds as many
locks (`cntL`) as the open instances hold guards (`cntS`). `openDb_spec` says what `Open` does to both, closing
and killing subtract the guards given up (`Inv_removeInsts`), and the results read the state of a directory off
the count.

Trusted: the kernel's `flock` behaves as `DirLock.flock` / `DirLock.unflock`.
-/
namespace Badger
open DirLock

namespace DirLock

/-- number of guards `g` held by all open instances: its count in the list of all their guards -/
def cntS (insts : List Inst) (g : Guard) : Nat := (insts.flatMap (·.guards)).count g

/-- number of holders of the given kind (`true`: shared) a lock state stands for -/
def held : LockSt → Bool → Nat
  | .shared k, true => k + 1
  | .exclusive, false => 1
  | _, _ => 0

/-- number of guards `g` according to the kernel's lock table -/
def cntL (locks : Nat → LockSt) (g : Guard) : Nat := held (locks g.dir) g.ro

/-- The invariant: the kernel's lock table is exactly the summary of the guards held by the
    open instances. -/
def Inv (s : Sys) : Prop := ∀ g, cntL s.locks g = cntS s.insts g

theorem held_excl (l : LockSt) : held l false = 0 ∨ held l false = 1 ∧ held l true = 0 := by
  cases l <;> simp [held]

theorem eq_exclusive_of_held {l : LockSt} (h : 1 ≤ held l false) : l = .exclusive := by
  cases l <;> simp [held] at h ⊢

theorem eq_free_of_held {l : LockSt} (h1 : held l false = 0) (h2 : held l true = 0) : l = .free := by
  cases l <;> simp [held] at h1 h2 ⊢

theorem held_flock {l l' : LockSt} {b : Bool} (h : flock l b = some l') (r : Bool) :
    held l' r = held l r + if b = r then 1 else 0 := by
  cases l <;> cases b <;> cases r <;> cases h <;> rfl

/-- also when no lock of kind `b` is held: `unflock` then changes nothing and the subtraction truncates -/
theorem held_unflock (l : LockSt) (b r : Bool) :
    held (unflock l b) r = held l r - if b = r then 1 else 0 := by
  cases l with
  | shared k => cases k <;> cases b <;> cases r <;> rfl
  | _ => cases b <;> cases r <;> rfl

theorem upd_same {α : Type} (f : Nat → α) (k : Nat) (v : α) : upd f k v k = v := by simp [upd]
theorem upd_other {α : Type} (f : Nat → α) (k x : Nat) (v : α) (h : x ≠ k) : upd f k v x = f x := by
  simp [upd, h]

theorem cntL_flock {locks : Nat → LockSt} {d : Nat} {b : Bool} {l' : LockSt}
    (h : flock (locks d) b = some l') (g : Guard) :
    cntL (upd locks d l') g = cntL locks g + [⟨d, b⟩].count g := by
  obtain ⟨d', r⟩ := g
  by_cases hd : d = d'
  · subst hd; simp [cntL, upd_same, held_flock h, List.count_singleton]
  · simp [cntL, upd_other _ _ _ _ (Ne.symm hd), hd]

theorem cntL_unflock (locks : Nat → LockSt) (g0 g : Guard) :
    cntL (upd locks g0.dir (unflock (locks g0.dir) g0.ro)) g = cntL locks g - [g0].count g := by
  obtain ⟨d, b⟩ := g0
  obtain ⟨d', r⟩ := g
  by_cases hd : d = d'
  · subst hd; simp [cntL, upd_same, held_unflock, List.count_singleton]
  · simp [cntL, upd_other _ _ _ _ (Ne.symm hd), hd]

/-- both ways of giving up a guard act the same on the lock table -/
def LockDrop (f : Sys → Guard → Sys) : Prop :=
  ∀ s g, (f s g).locks = upd s.locks g.dir (unflock (s.locks g.dir) g.ro) ∧ (f s g).insts = s.insts

theorem release_lockDrop : LockDrop release := fun _ _ => ⟨rfl, rfl⟩
theorem dropLock_lockDrop : LockDrop dropLock := fun _ _ => ⟨rfl, rfl⟩

theorem foldl_guards_insts {f : Sys → Guard → Sys} (hf : LockDrop f) (gs : List Guard) (s : Sys) :
    (gs.foldl f s).insts = s.insts := by
  induction gs generalizing s with
  | nil => rfl
  | cons g gs ih => simp only [List.foldl_cons]; rw [ih, (hf s g).2]

theorem cntL_foldl_guards {f : Sys → Guard → Sys} (hf : LockDrop f) (gs : List Guard) (s : Sys)
    (g : Guard) : cntL (gs.foldl f s).locks g = cntL s.locks g - gs.count g := by
  induction gs generalizing s with
  | nil => rfl
  | cons g0 gs ih =>
    rw [List.foldl_cons, ih, (hf s g0).1, cntL_unflock, Nat.sub_sub]
    simp only [List.count_cons, List.count_nil]
    omega

theorem cntS_cons (x : Inst) (xs : List Inst) (g : Guard) :
    cntS (x :: xs) g = x.guards.count g + cntS xs g := List.count_append

theorem cntS_append (a b : List Inst) (g : Guard) : cntS (a ++ b) g = cntS a g + cntS b g := by
  simp [cntS]

theorem cntS_filter (p : Inst → Bool) (xs : List Inst) (g : Guard) :
    cntS xs g = cntS (xs.filter p) g + cntS (xs.filter (fun x => !p x)) g := by
  rw [← cntS_append]
  exact (((List.filter_append_perm p xs).flatMap_right _).count_eq g).symm

theorem count_le_cntS {insts : List Inst} {x : Inst} (hx : x ∈ insts) (g : Guard) :
    x.guards.count g ≤ cntS insts g :=
  (List.sublist_flatten_of_mem (List.mem_map_of_mem hx)).count_le g

theorem cntS_pos_of_mem {insts : List Inst} {x : Inst} {g : Guard} (hx : x ∈ insts)
    (hg : g ∈ x.guards) : 1 ≤ cntS insts g :=
  List.count_pos_iff.mpr (List.mem_flatMap.mpr ⟨x, hx, hg⟩)

theorem cntS_zero_of_none {insts : List Inst} {g : Guard} (h : ∀ x ∈ insts, g ∉ x.guards) :
    cntS insts g = 0 :=
  List.count_eq_zero.mpr fun hm => let ⟨x, hx, hg⟩ := List.mem_flatMap.mp hm; h x hx hg

theorem foldl_insts_insts {f : Sys → Guard → Sys} (hf : LockDrop f) (dead : List Inst) (s : Sys) :
    (dead.foldl (fun acc x => x.guards.foldl f acc) s).insts = s.insts := by
  rw [← List.foldl_flatMap]; exact foldl_guards_insts hf _ s

theorem Inv_removeInsts {f : Sys → Guard → Sys} (hf : LockDrop f) (p : Inst → Bool) (s : Sys)
    (h : Inv s) : Inv (removeInsts f p s) := fun g => by
  show cntL ((s.insts.filter p).foldl _ s).locks g = _
  rw [← List.foldl_flatMap, cntL_foldl_guards hf, h g, cntS_filter p s.insts g]
  exact Nat.add_sub_cancel_left ..

theorem acquire_locks {s s1 : Sys} {d : Nat} {ro : Bool} {p : Nat} (h : acquire s d ro p = some s1) :
    ∃ l, flock (s.locks d) ro = some l ∧ s1.locks = upd s.locks d l ∧ s1.insts = s.insts := by
  unfold acquire at h
  split at h
  · cases h
  · next l hl => cases h; exact ⟨l, hl, rfl, rfl⟩

theorem acquire_insts {s s1 : Sys} {d : Nat} {ro : Bool} {p : Nat} (h : acquire s d ro p = some s1) :
    s1.insts = s.insts :=
  let ⟨_, _, _, e⟩ := acquire_locks h
  e

theorem unflock_flock {l l' : LockSt} {ro : Bool} (h : flock l ro = some l') : unflock l' ro = l := by
  cases l <;> cases ro <;> cases h <;> rfl

theorem acquire_release_locks {s s1 : Sys} {d : Nat} {ro : Bool} {p : Nat}
    (h : acquire s d ro p = some s1) :
    upd s1.locks d (unflock (s1.locks d) ro) = s.locks := by
  obtain ⟨l, hl, e, _⟩ := acquire_locks h
  funext x
  rw [e]
  by_cases hx : x = d
  · subst hx; simp [upd, unflock_flock hl]
  · simp [upd, hx]

theorem cntL_acquire {s s1 : Sys} {d : Nat} {ro : Bool} {p : Nat} (h : acquire s d ro p = some s1)
    (g : Guard) : cntL s1.locks g = cntL s.locks g + [⟨d, ro⟩].count g := by
  obtain ⟨l, hl, e, _⟩ := acquire_locks h
  rw [e, cntL_flock hl]

theorem hasInst_false_iff (s : Sys) (i : Nat) : hasInst s i = false ↔ ∀ x ∈ s.insts, x.id ≠ i := by
  simp [hasInst]

theorem openDb_spec (ρ : Nat → Nat) (s : Sys) (a : OpenArgs) :
    ((openDb ρ s a).1.locks = s.locks ∧ (openDb ρ s a).1.insts = s.insts) ∨
    ((openDb ρ s a).2 = Res.ok ∧ ∃ gs,
      (openDb ρ s a).1.insts = ⟨a.inst, a.proc, a.ro, gs⟩ :: s.insts ∧
      ∀ g, cntL (openDb ρ s a).1.locks g = cntL s.locks g + gs.count g) := by
  -- the nine ways through `Open`, in the order of its definition: label in use (1); no locking: failed
  -- later, opened (2, 3); `Dir` locked (4); one directory: failed later, opened (5, 6); `ValueDir`
  -- locked (7); two directories: failed later, opened (8, 9)
  fun_cases openDb ρ s a
  case case1 | case2 | case4 => exact .inl ⟨rfl, rfl⟩
  case case3 => exact .inr ⟨rfl, [], rfl, fun _ => rfl⟩
  case case5 s1 h1 _ _ _ | case7 s1 h1 _ _ _ =>
    exact .inl ⟨acquire_release_locks h1, (acquire_insts h1 :)⟩
  case case6 s1 h1 _ _ _ =>
    exact .inr ⟨rfl, [_], by rw [← acquire_insts h1], fun g => cntL_acquire h1 g⟩
  case case8 s1 h1 _ _ s2 h2 _ _ =>
    refine .inl ⟨?_, (acquire_insts h2).trans (acquire_insts h1)⟩
    show upd (upd s2.locks _ _) _ (unflock (upd s2.locks _ _ _) _) = _
    rw [acquire_release_locks h2]
    exact acquire_release_locks h1
  case case9 s1 h1 g1 _ s2 h2 g2 _ =>
    refine .inr ⟨rfl, [_, _], by rw [← acquire_insts h1, ← acquire_insts h2], fun g => ?_⟩
    show cntL s2.locks g = _
    rw [cntL_acquire h2, cntL_acquire h1]
    simp only [g1, g2, List.count_cons, List.count_nil]
    omega

end DirLock

/-- A failed `Open` (lock conflict on either directory, or any later failure) leaves the lock
    table and the set of open instances exactly as they were: no lock leaks, and the guard on
    `Dir` is given back when `ValueDir` cannot be locked. -/
theorem C35_no_leak_on_failed_open (ρ : Nat → Nat) (s : Sys) (a : OpenArgs)
    (h : (openDb ρ s a).2 ≠ Res.ok) :
    (openDb ρ s a).1.locks = s.locks ∧ (openDb ρ s a).1.insts = s.insts :=
  (openDb_spec ρ s a).resolve_right fun h' => h h'.1

namespace DirLock

theorem Inv_openDb (ρ : Nat → Nat) (s : Sys) (a : OpenArgs) (h : Inv s) : Inv (openDb ρ s a).1 := by
  intro g
  rcases openDb_spec ρ s a with ⟨hl, hi⟩ | ⟨_, gs, hi, hl⟩
  · rw [hl, hi]; exact h g
  · rw [hl, hi, cntS_cons, h g]; exact Nat.add_comm ..

theorem Inv_step (ρ : Nat → Nat) (s : Sys) (o : Op) (h : Inv s) : Inv (step ρ s o).1 := by
  cases o with
  | openDb a => exact Inv_openDb ρ s a h
  | closeDb i => exact Inv_removeInsts release_lockDrop _ s h
  | crash p => exact Inv_removeInsts dropLock_lockDrop _ s h

theorem Inv_init : Inv Sys.init := fun _ => rfl

theorem Inv_run (ρ : Nat → Nat) (ops : List Op) : ∀ s, Inv s → Inv (run ρ s ops) := by
  induction ops with
  | nil => intro s h; exact h
  | cons o os ih => intro s h; exact ih _ (Inv_step ρ s o h)

theorem Reach_Inv {ρ : Nat → Nat} {s : Sys} (h : Reach ρ s) : Inv s := by
  obtain ⟨ops, rfl⟩ := h
  exact Inv_run ρ ops _ Inv_init

/-- what the invariant says of the open instances alone: per directory at most one exclusive
    guard, and then no shared one -/
theorem Inv.excl {s : Sys} (h : Inv s) (d : Nat) :
    cntS s.insts ⟨d, false⟩ = 0 ∨ cntS s.insts ⟨d, false⟩ = 1 ∧ cntS s.insts ⟨d, true⟩ = 0 :=
  h ⟨d, false⟩ ▸ h ⟨d, true⟩ ▸ held_excl (s.locks d)

/-- instance `i` is open and holds directory `d` exclusively (read-write) -/
def holdsRW (s : Sys) (i d : Nat) : Prop := ∃ x ∈ s.insts, x.id = i ∧ (⟨d, false⟩ : Guard) ∈ x.guards

theorem exclusive_of_holdsRW {s : Sys} (h : Inv s) {i d : Nat} (hh : holdsRW s i d) :
    s.locks d = LockSt.exclusive := by
  obtain ⟨x, hx, _, hg⟩ := hh
  exact eq_exclusive_of_held (Nat.le_trans (cntS_pos_of_mem hx hg) (Nat.le_of_eq (h ⟨d, false⟩).symm))

end DirLock

/-- **Exclusion.** While an instance (in this or any other process) holds directory `d`
    read-write, every other `Open` that takes the locks (`bypass = false`) — read-write or
    read-only — whose `Dir` or `ValueDir` resolves to `d` fails with the lock error, and leaves
    the lock table untouched. -/
theorem C35_exclusion (ρ : Nat → Nat) (s : Sys) (hr : Reach ρ s) (i d : Nat) (hh : holdsRW s i d)
    (a : OpenArgs) (hb : a.bypass = false) (hfresh : hasInst s a.inst = false)
    (hd : ρ a.dirPath = d ∨ ρ a.vdirPath = d) :
    (step ρ s (.openDb a)).2 = Res.locked ∧ (step ρ s (.openDb a)).1.locks = s.locks := by
  have hex := exclusive_of_holdsRW (Reach_Inv hr) hh
  have hres : (openDb ρ s a).2 = Res.locked := by
    unfold openDb
    simp only [hfresh, hb]
    cases h1 : acquire s (ρ a.dirPath) a.ro a.proc with
    | none => simp
    | some s1 =>
      obtain ⟨l1, hl1, e1, _⟩ := acquire_locks h1
      have hne : ρ a.dirPath ≠ d := by
        intro e; rw [e, hex] at hl1; simp [flock] at hl1
      have hvd : ρ a.vdirPath = d := by rcases hd with h | h; exact absurd h hne; exact h
      have hv : a.vdirPath ≠ a.dirPath := by intro e; rw [e] at hvd; exact hne hvd
      simp only [Bool.false_eq_true, if_false, hv]
      have : acquire s1 (ρ a.vdirPath) a.ro a.proc = none := by
        unfold acquire
        rw [e1, hvd, upd_other _ _ _ _ (Ne.symm hne), hex]
        simp [flock]
      simp [this]
  refine ⟨hres, ?_⟩
  exact (C35_no_leak_on_failed_open ρ s a (by show (openDb ρ s a).2 ≠ Res.ok; rw [hres]; decide)).1

/-- **Read-only opens coexist.** If nobody holds `Dir` / `ValueDir` read-write (free, or held by
    any number of read-only instances), a read-only `Open` that takes the locks
    (`bypass = false`) and whose later steps do not fail succeeds, every instance that was open
    stays open, and the directories end up share-locked. -/
theorem C35_ro_coexist (ρ : Nat → Nat) (s : Sys) (hr : Reach ρ s) (a : OpenArgs)
    (hro : a.ro = true) (hb : a.bypass = false) (hfl : a.failLater = false)
    (hfresh : hasInst s a.inst = false)
    (hnone : ∀ x ∈ s.insts, (⟨ρ a.dirPath, false⟩ : Guard) ∉ x.guards ∧
                             (⟨ρ a.vdirPath, false⟩ : Guard) ∉ x.guards) :
    (step ρ s (.openDb a)).2 = Res.ok ∧
    (∀ x ∈ s.insts, x ∈ (step ρ s (.openDb a)).1.insts) ∧
    (∃ k, (step ρ s (.openDb a)).1.locks (ρ a.dirPath) = LockSt.shared k) ∧
    (∃ k, (step ρ s (.openDb a)).1.locks (ρ a.vdirPath) = LockSt.shared k) := by
  have hinv := Reach_Inv hr
  have nx : ∀ d, cntS s.insts ⟨d, false⟩ = 0 → s.locks d ≠ LockSt.exclusive := by
    intro d h0 he
    have : held (s.locks d) false = 0 := (hinv ⟨d, false⟩).trans h0
    rw [he] at this
    cases this
  have n1 := nx _ (cntS_zero_of_none (fun x hx => (hnone x hx).1))
  have n2 := nx _ (cntS_zero_of_none (fun x hx => (hnone x hx).2))
  have fl : ∀ l : LockSt, l ≠ .exclusive → ∃ k, flock l true = some (.shared k) := by
    intro l hl; cases l with
    | free => exact ⟨0, rfl⟩
    | shared k => exact ⟨k + 1, rfl⟩
    | exclusive => exact absurd rfl hl
  obtain ⟨k1, hk1⟩ := fl _ n1
  show (openDb ρ s a).2 = Res.ok ∧ (∀ x ∈ s.insts, x ∈ (openDb ρ s a).1.insts) ∧
    (∃ k, (openDb ρ s a).1.locks (ρ a.dirPath) = LockSt.shared k) ∧
    (∃ k, (openDb ρ s a).1.locks (ρ a.vdirPath) = LockSt.shared k)
  unfold openDb
  simp only [hfresh, hb, hfl, hro, acquire, hk1, Bool.false_eq_true, if_false, if_true]
  by_cases hv : a.vdirPath = a.dirPath
  · simp only [hv, if_true]
    refine ⟨by simp, fun x hx => by simp [hx], ⟨k1, by simp [upd]⟩, ⟨k1, by simp [upd]⟩⟩
  · simp only [hv, if_false]
    have n2' : upd s.locks (ρ a.dirPath) (LockSt.shared k1) (ρ a.vdirPath) ≠ LockSt.exclusive := by
      by_cases e : ρ a.vdirPath = ρ a.dirPath
      · rw [e, upd_same]; simp
      · rw [upd_other _ _ _ _ e]; exact n2
    obtain ⟨k2, hk2⟩ := fl _ n2'
    simp only [hk2]
    refine ⟨by simp, fun x hx => by simp [hx], ?_, ⟨k2, by simp [upd]⟩⟩
    by_cases e : ρ a.dirPath = ρ a.vdirPath
    · exact ⟨k2, by rw [e]; simp [upd]⟩
    · exact ⟨k1, by rw [upd_other _ _ _ _ e]; simp [upd]⟩

/-- **Close releases.** After `Close` of a read-write instance the directories it held are free,
    and a following `Open` of the same `Dir` / `ValueDir` (read-write or read-only, by any
    process) succeeds, provided it takes the locks (`bypass = false`) and nothing after the locking
    fails (`failLater = false`). -/
theorem C35_release (ρ : Nat → Nat) (s : Sys) (hr : Reach ρ s) (x : Inst) (hx : x ∈ s.insts)
    (dp vp : Nat)
    (hg : (vp = dp ∧ x.guards = [⟨ρ dp, false⟩]) ∨
          (vp ≠ dp ∧ x.guards = [⟨ρ dp, false⟩, ⟨ρ vp, false⟩]))
    (a : OpenArgs) (hd : a.dirPath = dp) (hvd : a.vdirPath = vp)
    (hb : a.bypass = false) (hfl : a.failLater = false)
    (hfresh : hasInst (step ρ s (.closeDb x.id)).1 a.inst = false) :
    (step ρ s (.closeDb x.id)).1.locks (ρ dp) = LockSt.free ∧
    (step ρ s (.closeDb x.id)).1.locks (ρ vp) = LockSt.free ∧
    (step ρ (step ρ s (.closeDb x.id)).1 (.openDb a)).2 = Res.ok := by
  have hinv := Reach_Inv hr
  have hinv' : Inv (step ρ s (.closeDb x.id)).1 := Inv_step ρ s _ hinv
  -- guards of `x` are exclusive guards: before the close nobody else holds these directories
  have key : ∀ d, (⟨d, false⟩ : Guard) ∈ x.guards →
      (step ρ s (.closeDb x.id)).1.locks d = LockSt.free ∧ x.guards.count ⟨d, false⟩ = 1 := by
    intro d hd'
    have hex := hinv.excl d
    have hsplit := fun g => cntS_filter (fun y => y.id == x.id) s.insts g
    have hxin : x ∈ s.insts.filter (fun y => y.id == x.id) := by
      simp [List.mem_filter, hx]
    have hdead := count_le_cntS hxin ⟨d, false⟩
    have hcnt : 1 ≤ x.guards.count ⟨d, false⟩ := List.count_pos_iff.mpr hd'
    have hle := count_le_cntS hx ⟨d, false⟩
    have a1 := hsplit ⟨d, false⟩
    have a2 := hsplit ⟨d, true⟩
    refine ⟨eq_free_of_held ((hinv' ⟨d, false⟩).trans ?_) ((hinv' ⟨d, true⟩).trans ?_), by omega⟩
    · show cntS (s.insts.filter fun y => !(y.id == x.id)) _ = 0
      omega
    · show cntS (s.insts.filter fun y => !(y.id == x.id)) _ = 0
      omega
  have hmem1 : (⟨ρ dp, false⟩ : Guard) ∈ x.guards := by rcases hg with ⟨_, e⟩ | ⟨_, e⟩ <;> simp [e]
  have hmem2 : (⟨ρ vp, false⟩ : Guard) ∈ x.guards := by
    rcases hg with ⟨e0, e⟩ | ⟨_, e⟩
    · subst e0; simp [e]
    · simp [e]
  obtain ⟨f1, c1⟩ := key _ hmem1
  obtain ⟨f2, _⟩ := key _ hmem2
  refine ⟨f1, f2, ?_⟩
  show (openDb ρ (step ρ s (.closeDb x.id)).1 a).2 = Res.ok
  have fl : ∀ ro, ∃ l, flock LockSt.free ro = some l := by
    intro ro; cases ro <;> simp [flock]
  obtain ⟨l1, hl1⟩ := fl a.ro
  unfold openDb
  simp only [hfresh, hb, hfl, acquire, hd, hvd, f1, hl1, Bool.false_eq_true, if_false]
  by_cases hv : vp = dp
  · simp [hv]
  · simp only [hv, if_false]
    have hne : ρ vp ≠ ρ dp := by
      intro e
      rcases hg with ⟨e0, _⟩ | ⟨_, eg⟩
      · exact hv e0
      · rw [eg, e] at c1; simp at c1
    rw [upd_other _ _ _ _ hne, f2]
    obtain ⟨l2, hl2⟩ := fl a.ro
    simp [hl2]

/-- **No two handles share a directory unless both are read-only.** In every reachable state,
    two different open instances (`x` before `y` in the list of open instances) holding a guard
    on the same directory `d` — as `Dir` or as `ValueDir` of either — both hold it shared: no two
    read-write handles share `Dir` or `ValueDir`, and a read-write handle shares with nobody. -/
theorem C35_no_shared_rw (ρ : Nat → Nat) (s : Sys) (hr : Reach ρ s) (l1 l2 l3 : List Inst)
    (x y : Inst) (hs : s.insts = l1 ++ x :: (l2 ++ y :: l3)) (d : Nat) (rx ry : Bool)
    (hx : (⟨d, rx⟩ : Guard) ∈ x.guards) (hy : (⟨d, ry⟩ : Guard) ∈ y.guards) :
    rx = true ∧ ry = true := by
  have hex := (Reach_Inv hr).excl d
  have two (g : Guard) : x.guards.count g + y.guards.count g ≤ cntS s.insts g := by
    rw [hs, cntS_append, cntS_cons, cntS_append, cntS_cons]; omega
  have cx := List.count_pos_iff.mpr hx
  have cy := List.count_pos_iff.mpr hy
  cases rx <;> cases ry
  · have := two ⟨d, false⟩; omega
  · have := two ⟨d, false⟩; have := two ⟨d, true⟩; omega
  · have := two ⟨d, false⟩; have := two ⟨d, true⟩; omega
  · exact ⟨rfl, rfl⟩

/-- **T-gen.** The decision to lock `ValueDir` separately in `Open` is the comparison
    `absValueDir != absDir` of the two absolute path strings (regenerated from /repo's db.go on
    every run): exactly the model's `a.vdirPath = a.dirPath` test. Any other test (a prefix
    test, a missing test) makes this `decide` fail. -/
theorem C35_tgen_valuedir_cmp : Extracted.op_open_valuedir_cmp = "!=" := by decide

section examples
private def ρ0 : Nat → Nat := fun p => p % 3   -- paths 3,4,5 are second names of directories 0,1,2
private def rwA : OpenArgs := ⟨1, 0, 0, 1, false, false, false⟩   -- Dir 0, ValueDir 1, read-write
private def roB : OpenArgs := ⟨2, 1, 0, 0, true, false, false⟩    -- Dir = ValueDir = 0, read-only, other process
private def rwC : OpenArgs := ⟨3, 1, 2, 1, false, false, false⟩   -- Dir 2, ValueDir 1 (shared with A)
private def roD : OpenArgs := ⟨4, 2, 0, 3, true, false, false⟩    -- Dir 0 and ValueDir "3" = directory 0 again

-- a second opener (read-only, other process) of a directory held read-write is refused
example : (step ρ0 (run ρ0 Sys.init [.openDb rwA]) (.openDb roB)).2 = Res.locked := by decide
-- ValueDir conflict: the Dir lock of the failed open is given back (directory 2 is free again)
example : (step ρ0 (run ρ0 Sys.init [.openDb rwA]) (.openDb rwC)).2 = Res.locked ∧
    (step ρ0 (run ρ0 Sys.init [.openDb rwA]) (.openDb rwC)).1.locks 2 = LockSt.free := by decide
-- read-only instances coexist (also through two names of one directory: two shared guards)
example : (run ρ0 Sys.init [.openDb roB, .openDb roD]).locks 0 = LockSt.shared 2 := by decide
-- after Close the directory can be opened again
example : (step ρ0 (run ρ0 Sys.init [.openDb rwA, .closeDb 1]) (.openDb roB)).2 = Res.ok := by decide
-- a read-write open whose Dir and ValueDir are two names of one directory conflicts with itself
example : (step ρ0 Sys.init (.openDb ⟨5, 0, 0, 3, false, false, false⟩)).2 = Res.locked := by decide
-- two handles with different Dir but the same ValueDir: the second is refused
example : (step ρ0 (run ρ0 Sys.init [.openDb rwA]) (.openDb rwC)).2 = Res.locked := by decide
-- a killed process loses its lock but leaves the pid file
example : (run ρ0 Sys.init [.openDb rwA, .crash 0]).locks 0 = LockSt.free ∧
    (run ρ0 Sys.init [.openDb rwA, .crash 0]).pidf 0 = some 0 := by decide
end examples

end Badger
