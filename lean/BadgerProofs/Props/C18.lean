import BadgerProofs.Lemmas.ConcatSeek
/-!
# C18 — SSTables return exactly the entries they were built from

Model: `BadgerModel/Block.lean`, `BadgerModel/Table.lean` (namespace `Badger.Tbl`), mirroring
`table/builder.go`, `table/table.go`, `table/iterator.go` branch by branch. The theorems are
over *all* entry lists, block sizes, checksum modes and all compression / encryption function
pairs satisfying the inverse laws `Env.Lawful` (so `C18_roundtrip_codec` is built into every
statement: `env` and the `compress` / `encrypt` flags of `o` are universally quantified).

Hypotheses that every theorem about a built table shares (`Built`):
* `es ≠ []` (an empty builder produces no table at all),
* keys are non-empty and at most 65531 bytes long — see `C18_overlong_key_panics` for why
  65535 is not enough: `setIdx` computes `headerSize + h.diff` in `uint16`,
* `expiresAt < 2^64`,
* the checksum function returns at most `K` bytes (`cksum_len`; `K` enters the size bound `raw`),
* the table is smaller than 4 GiB (block offsets and lengths are `uint32`): `raw`, `data`,
* the builder did not hit one of its asserts: `buildTable … = some (some tf)`
  (`C18_build_total` shows that it does not for inputs below 2 GiB).
-/
namespace Badger
open Tbl

/-- The common hypotheses: `tf` is the table the builder produces from `es`. -/
structure Tbl.Built (env : Env) (K : Nat) (o : Opts) (es : List Entry) (tf : TableFile) : Prop where
  lawful : env.Lawful
  cksum_len : ∀ d, (env.cksum d).length ≤ K
  ne : es ≠ []
  keys : ∀ e ∈ es, e.key ≠ [] ∧ e.key.length ≤ 65531
  exp : ∀ e ∈ es, e.vs.expiresAt < 2 ^ 64
  raw : entriesSize es + 4 * es.length + 8 + K < 4294967296
  built : buildTable env o es = some (some tf)
  data : tf.data.length < 4294967296

/-- `G` is `cutFrom o [] es`; it stays a variable so that a user can `subst` along `G.flatten = es`. -/
theorem Tbl.Built.tableOK {env : Env} {K : Nat} {o : Opts} {es : List Entry} {tf : TableFile}
    (h : Built env K o es tf) :
    ∃ G, G.flatten = es ∧ G ≠ [] ∧ TableOK env ⟨o, tf⟩ G ∧
      tf.index.keyCount = u32 es.length ∧ tf.index.maxVersion = maxVersionOf es ∧
      tf.index.bloom = (if o.bloom then env.mkFilter (es.map (fun e => env.hash (parseKey e.key))) else []) ∧
      G = cutFrom o [] es := by
  obtain ⟨hok, h1, h2, h3⟩ := build_tableOK h.lawful K h.cksum_len h.ne h.keys h.raw h.built h.data
  have hG := cutFrom_flatten o es []
  refine ⟨_, hG, ?_, hok, h1, h2, h3, rfl⟩
  intro hnil; rw [hnil] at hG; exact h.ne hG.symm

/-- Take the block the builder produces from any run of entries
    `es` (`addHelper`* then `finishBlock`), read it back (`Table.block` tail parsing with
    checksum verification, `setBlock`). Then after ANY sequence of `setIdx` probes `ps`
    (indices in any order, repeated, out of range) a further probe of index `i` leaves exactly
    the `i`-th original key in the key buffer `it.key`, and the encoded `i`-th value in
    `it.val`; no probe sequence panics. The `prevOverlap` reuse of the key buffer is correct
    for every probe order. -/
theorem C18_block_key_any_order (cksum : Bytes → Bytes) (verify : Bytes → Bytes → Bool)
    (hv : ∀ d, verify d (cksum d) = true) (es : List Entry) (cur : BBlock)
    (hne : es ≠ []) (hkeys : ∀ e ∈ es, e.key ≠ [] ∧ e.key.length ≤ 65531)
    (hb : BBlock.addEntries {} es = some cur)
    (hsize : (cur.finish cksum).length < 4294967296) :
    ∃ b it0, parseBlock true verify (cur.finish cksum) = .ok b ∧
      ({} : BlockIter).setBlock b = some it0 ∧
      ∀ (ps : List Int) (i : Nat) (e : Entry), es[i]? = some e →
        ∃ it, it0.probeAll (ps ++ [(i : Int)]) = some it ∧
          it.key = e.key ∧ it.val = encVS e.vs ∧ it.err = none := by
  have hcur : cur = specBlock es := by
    have := addEntries_spec es [] cur (by simpa using fun e he => (hkeys e he).1) hb
    simpa using this
  subst hcur
  obtain ⟨hdl, b, hpb, hsl, heo, _⟩ := parse_specBlock cksum verify true hv es hsize
  have wf : BlockWF es := by
    refine ⟨?_, fun e he => (hkeys e he).2, hdl⟩
    obtain ⟨e0, r, rfl⟩ := List.exists_cons_of_ne_nil hne
    exact (hkeys e0 (by simp)).1
  refine ⟨b, { data := blockData es, entryOffsets := b.entryOffsets }, hpb, ?_, ?_⟩
  · unfold BlockIter.setBlock
    rw [hsl]
  · intro ps i e he
    have inv0 : BlockInv es ({ data := blockData es, entryOffsets := b.entryOffsets } : BlockIter) :=
      ⟨rfl, heo, Or.inl rfl, by simp, by simp, Or.inl rfl⟩
    obtain ⟨it1, hp1, inv1⟩ := probeAll_inv wf ps _ inv0
    obtain ⟨it2, hset, _, hk, hval, _, herr⟩ := setIdx_ok wf inv1 i e he
    refine ⟨it2, ?_, hk, hval, herr⟩
    rw [probeAll_append, hp1, Option.bind_some]
    simp [BlockIter.probeAll, hset]

/-- `ValueStruct.Decode ∘ Encode = id` (used to read `it.val`). -/
theorem C18_value_roundtrip (v : VS) (h : v.expiresAt < 2 ^ 64) : decodeVS (encVS v) = some v :=
  decodeVS_encVS v h

/-- For every non-empty entry list (sortedness is not even needed here), every
    block size / checksum mode / bloom setting and every lawful compression and encryption
    pair, `for it.Rewind(); it.Valid(); it.Next()` over the opened built table yields exactly
    the input entries — key bytes, meta, userMeta, expiresAt, value — and with the `REVERSED`
    flag exactly the reverse. (`fuel` bounds the loop; any bound above the number of entries
    gives the same list, i.e. the iterator becomes invalid right after the last entry.) -/
theorem C18_entries {env : Env} {K : Nat} {o : Opts} {es : List Entry} {tf : TableFile}
    (h : Built env K o es tf) (fuel : Nat) (hfuel : es.length < fuel) :
    (TableCore.mk o tf).entries env false fuel = some es ∧
    (TableCore.mk o tf).entries env true fuel = some es.reverse := by
  obtain ⟨G, hG, hGne, ok, _⟩ := h.tableOK
  subst hG
  exact ⟨entries_ok ok hGne h.exp fuel hfuel false, entries_ok ok hGne h.exp fuel hfuel true⟩

/-- `Sorted` (every earlier key `<` every later key) is the same as the usual adjacent
    formulation "each key is `<` its successor", because `compareKeys` is transitive. -/
theorem C18_sorted_of_adjacent : ∀ (es : List Entry),
    (∀ (i : Nat) a b, es[i]? = some a → es[i + 1]? = some b → compareKeys a.key b.key = .lt) →
    Sorted es := by
  intro es
  induction es with
  | nil => intro _; exact List.Pairwise.nil
  | cons x xs ih =>
    intro h
    have hxs : Sorted xs := ih (fun i a b ha hb => h (i + 1) a b (by simpa using ha) (by simpa using hb))
    refine List.Pairwise.cons ?_ hxs
    intro b hb
    cases xs with
    | nil => simp at hb
    | cons y ys =>
      have hxy : compareKeys x.key y.key = .lt := h 0 x y (by simp) (by simp)
      rcases List.mem_cons.mp hb with rfl | hb'
      · exact hxy
      · have hyb : compareKeys y.key b.key = .lt := (List.pairwise_cons.mp hxs).1 b hb'
        exact compareKeys_total.trans hxy hyb

/-- On the opened built table of a strictly increasing entry list, `seek(key)`
    from ANY iterator state and for ANY key of at least 8 bytes (before the first, after the last, between blocks,
    present or absent) lands on the first entry `≥ key` in `compareKeys` order — the naive
    linear-scan answer `es.find? (· ≥ key)` — and is invalid iff there is none. -/
theorem C18_seek {env : Env} {K : Nat} {o : Opts} {es : List Entry} {tf : TableFile}
    (h : Built env K o es tf) (hs : Sorted es) (h8 : ∀ e ∈ es, 8 ≤ e.key.length)
    (it : TIter) (key : Bytes) (hkey : 8 ≤ key.length) :
    ∃ it', it.seek env ⟨o, tf⟩ key = some it' ∧
      it'.entry? = es.find? (fun e => compareKeys e.key key != .lt) := by
  obtain ⟨G, hG, hGne, ok, _⟩ := h.tableOK
  subst hG
  obtain ⟨it', hseek, _, hent⟩ := seek_find ok hGne hs h8 h.exp it key hkey
  exact ⟨it', hseek, hent⟩

/-- `seekForPrev(key)` from any iterator state and any key of at least 8 bytes lands on the
    last entry `≤ key` (the naive answer on the reversed list), invalid iff every entry is
    `> key`. -/
theorem C18_seekForPrev {env : Env} {K : Nat} {o : Opts} {es : List Entry} {tf : TableFile}
    (h : Built env K o es tf) (hs : Sorted es) (h8 : ∀ e ∈ es, 8 ≤ e.key.length)
    (it : TIter) (key : Bytes) (hkey : 8 ≤ key.length) :
    ∃ it', it.seekForPrev env ⟨o, tf⟩ key = some it' ∧
      it'.entry? = es.reverse.find? (fun e => compareKeys e.key key != .gt) := by
  obtain ⟨G, hG, hGne, ok, _⟩ := h.tableOK
  subst hG
  obtain ⟨it', hseek, _, hent⟩ := seekForPrev_find ok hGne hs h8 h.exp it key hkey
  exact ⟨it', hseek, hent⟩

/-- `Iterator.Seek` with the `REVERSED` flag: forward iterators seek to the first `≥ key`,
    reversed ones to the last `≤ key`. -/
theorem C18_apiSeek {env : Env} {K : Nat} {o : Opts} {es : List Entry} {tf : TableFile}
    (h : Built env K o es tf) (hs : Sorted es) (h8 : ∀ e ∈ es, 8 ≤ e.key.length)
    (it : TIter) (key : Bytes) (hkey : 8 ≤ key.length) :
    ∃ it', it.apiSeek env ⟨o, tf⟩ key = some it' ∧
      it'.entry? = (if it.reversed then es.reverse.find? (fun e => compareKeys e.key key != .gt)
                    else es.find? (fun e => compareKeys e.key key != .lt)) := by
  obtain ⟨G, hG, hGne, ok, _⟩ := h.tableOK
  subst hG
  obtain ⟨it', hseek, _, hent⟩ := apiSeek_find ok hGne hs h8 h.exp it key hkey
  exact ⟨it', hseek, hent⟩

/-- `OpenInMemoryTable` / `OpenTable` (any `ChkMode`, including the table-level
    `VerifyChecksum` of `OnTableRead` / `OnTableAndBlockRead`) succeeds on the built table, and
    `Smallest()` is the first added key, `Biggest()` the last added key, `KeyCount()` the number
    of entries, `MaxVersion()` the maximum of `ParseTs` over the keys; `DoesNotHave` is false
    for the hash of every added user key, for any bloom implementation without false
    negatives (and always false when the filter is off). -/
theorem C18_meta {env : Env} {K : Nat} {o : Opts} {es : List Entry} {tf : TableFile}
    (h : Built env K o es tf) (inMemory : Bool) :
    ∃ t, openTable env o tf inMemory = .ok t ∧ t.core = ⟨o, tf⟩ ∧
      (∀ e0, es[0]? = some e0 → t.smallest = e0.key) ∧
      (∀ el, es[es.length - 1]? = some el → t.biggest = el.key) ∧
      t.keyCount = es.length ∧
      (∀ e ∈ es, parseTs e.key ≤ t.maxVersion) ∧ (∃ e ∈ es, t.maxVersion = parseTs e.key) ∧
      ((∀ hs x, x ∈ hs → env.mayContain (env.mkFilter hs) x = true) →
        ∀ e ∈ es, t.doesNotHave env (env.hash (parseKey e.key)) = false) := by
  obtain ⟨G, hG, hGne, ok, hkc, hmv, hbl, -⟩ := h.tableOK
  obtain ⟨sk, bk, hopen, hsm, hbg⟩ := openTable_ok ok hGne inMemory
  rw [hG] at hsm hbg
  have hlen : es.length < 4294967296 := by have := h.raw; omega
  refine ⟨_, hopen, rfl, hsm, hbg, ?_, ?_, ?_, ?_⟩
  · show tf.index.keyCount = es.length
    rw [hkc]; exact u32_of_lt hlen
  · intro e he
    show parseTs e.key ≤ tf.index.maxVersion
    rw [hmv]; exact maxVersionOf_ge es e he
  · show ∃ e ∈ es, tf.index.maxVersion = parseTs e.key
    rw [hmv]; exact maxVersionOf_mem es h.ne
  · intro hbloom e he
    unfold Table.doesNotHave Table.hasBloomFilter
    show (if (!decide (tf.index.bloom.length > 0)) = true then false
      else !env.mayContain tf.index.bloom (env.hash (parseKey e.key))) = false
    rw [hbl]
    cases hob : o.bloom with
    | false => simp
    | true =>
      have := hbloom (es.map (fun e => env.hash (parseKey e.key))) (env.hash (parseKey e.key))
        (List.mem_map.mpr ⟨e, he, rfl⟩)
      simp [this]

/-- `Table.VerifyChecksum` passes on the built table (every block is
    read back and its checksum verifies), in every `ChkMode`. -/
theorem C18_checksum_ok {env : Env} {K : Nat} {o : Opts} {es : List Entry} {tf : TableFile}
    (h : Built env K o es tf) : (TableCore.mk o tf).verifyChecksum env = some true := by
  obtain ⟨G, _, _, ok, _⟩ := h.tableOK
  exact verifyChecksum_ok ok

/-- The results do not depend on the codec: two tables built from
    the same entries with different lawful compression / encryption functions (and possibly
    different options) iterate identically, and equal the input. -/
theorem C18_roundtrip_codec {env₁ env₂ : Env} {K₁ K₂ : Nat} {o₁ o₂ : Opts} {es : List Entry}
    {tf₁ tf₂ : TableFile} (h₁ : Built env₁ K₁ o₁ es tf₁) (h₂ : Built env₂ K₂ o₂ es tf₂)
    (fuel : Nat) (hfuel : es.length < fuel) (rev : Bool) :
    (TableCore.mk o₁ tf₁).entries env₁ rev fuel = (TableCore.mk o₂ tf₂).entries env₂ rev fuel ∧
    (TableCore.mk o₁ tf₁).entries env₁ rev fuel = some (if rev then es.reverse else es) := by
  have a := C18_entries h₁ fuel hfuel
  have b := C18_entries h₂ fuel hfuel
  cases rev with
  | false => exact ⟨by rw [a.1, b.1], by simpa using a.1⟩
  | true => exact ⟨by rw [a.2, b.2], by simpa using a.2⟩

abbrev Tbl.TabSpec := Opts × List Entry × TableFile

def Tbl.groupsOf (tabs : List TabSpec) : List (List (List Entry)) := tabs.map fun x => cutFrom x.1 [] x.2.1

theorem Tbl.flatAll_groupsOf (tabs : List TabSpec) : flatAll (groupsOf tabs) = (tabs.map (·.2.1)).flatten := by
  simp only [flatAll, groupsOf, List.map_map]
  exact congrArg _ (List.map_congr_left fun x _ => cutFrom_flatten x.1 x.2.1 [])

theorem Tbl.Built.tabOK {env : Env} {K : Nat} {tabs : List TabSpec} (hb : ∀ x ∈ tabs, Built env K x.1 x.2.1 x.2.2)
    {i : Nat} {x : TabSpec} {G : List (List Entry)} (hx : tabs[i]? = some x) (hG : (groupsOf tabs)[i]? = some G)
    {t : Table} (hc : t.core = ⟨x.1, x.2.2⟩) : G.flatten = x.2.1 ∧ TabOK env t G := by
  have h := hb x (List.mem_of_getElem? hx)
  obtain ⟨G', hG', hGne, ok, -, -, -, rfl⟩ := h.tableOK
  simp only [groupsOf, List.getElem?_map, hx, Option.map_some, Option.some.injEq] at hG
  subst hG
  exact ⟨hG', hc ▸ ok, ok.ne, hGne, fun g hg e he => h.exp e (hG' ▸ List.mem_flatten.mpr ⟨g, hg, he⟩)⟩

/-- A `ConcatIterator` over any list of built tables iterates, forward, the
    concatenation of their entry lists, and reversed, its reverse: `Rewind`, lazy `setIdx`,
    `Next` crossing into the following (preceding) table. -/
theorem C18_concat {env : Env} {K : Nat} (tabs : List TabSpec)
    (hb : ∀ x ∈ tabs, Built env K x.1 x.2.1 x.2.2) (ts : List Table)
    (hcore : ts.map (·.core) = tabs.map (fun x => ⟨x.1, x.2.2⟩))
    (fuel : Nat) (hfuel : ((tabs.map (·.2.1)).flatten).length < fuel) :
    concatEntries env ts false fuel = some (tabs.map (·.2.1)).flatten ∧
    concatEntries env ts true fuel = some (tabs.map (·.2.1)).flatten.reverse := by
  have hlts : ts.length = tabs.length := by
    have := congrArg List.length hcore; simpa using this
  have hts : TabsOK env ts (groupsOf tabs) := by
    refine ⟨by simp [groupsOf, hlts], ?_⟩
    intro i t G ht hG
    obtain ⟨x, hx⟩ := getElem?_some_of_lt tabs i (by rw [← hlts]; exact lt_of_getElem?_some ht)
    have hc : t.core = ⟨x.1, x.2.2⟩ := by
      have h1 : (ts.map (·.core))[i]? = some t.core := by simp [ht]
      rw [hcore] at h1
      simp only [List.getElem?_map, hx, Option.map_some, Option.some.injEq] at h1
      exact h1.symm
    exact (Built.tabOK hb hx hG hc).2
  have := concatEntries_ok hts fuel (by rw [flatAll_groupsOf]; exact hfuel)
  rw [flatAll_groupsOf] at this
  exact ⟨this false, this true⟩

/-- `ConcatIterator.Seek` over opened built tables whose concatenated
    entries are strictly increasing (disjoint, increasing key ranges): from any iterator state with `CInv`,
    a forward iterator lands on the first entry `≥ key` of the whole concatenation, a reversed
    one on the last entry `≤ key`; invalid iff there is none. (`sort.Search` on `Biggest()` /
    `Smallest()`, lazy `setIdx`, then the table-level `Seek`.) -/
theorem C18_concat_seek {env : Env} {K : Nat} (tabs : List TabSpec)
    (hb : ∀ x ∈ tabs, Built env K x.1 x.2.1 x.2.2) (ts : List Table) (hlen : ts.length = tabs.length)
    (hopen : ∀ (i : Nat) x t, tabs[i]? = some x → ts[i]? = some t →
      ∃ inMem, openTable env x.1 x.2.2 inMem = .ok t)
    (hs : Sorted (tabs.map (·.2.1)).flatten) (h8 : ∀ e ∈ (tabs.map (·.2.1)).flatten, 8 ≤ e.key.length)
    (s : CIter) (hinv : CInv ts s) (key : Bytes) (hkey : 8 ≤ key.length) :
    ∃ s', s.seek env ts key = some s' ∧ CInv ts s' ∧
      s'.entry? = (if s.reversed
        then (tabs.map (·.2.1)).flatten.reverse.find? (fun e => compareKeys e.key key != .gt)
        else (tabs.map (·.2.1)).flatten.find? (fun e => compareKeys e.key key != .lt)) := by
  have hts : TabsOK2 env ts (groupsOf tabs) := by
    refine ⟨by simp [groupsOf, hlen], ?_⟩
    intro i t G ht hG
    obtain ⟨x, hx⟩ := getElem?_some_of_lt tabs i (by rw [← hlen]; exact lt_of_getElem?_some ht)
    obtain ⟨im, him⟩ := hopen i x t hx ht
    have hbx := hb x (List.mem_of_getElem? hx)
    obtain ⟨t', ht', hcore, hsm, hbg, _⟩ := C18_meta hbx im
    rw [him] at ht'
    cases ht'
    obtain ⟨hGf, htab⟩ := Built.tabOK hb hx hG hcore
    have hpos : 0 < x.2.1.length := List.length_pos_iff.mpr hbx.ne
    obtain ⟨e0, he0⟩ := getElem?_some_of_lt x.2.1 0 hpos
    obtain ⟨el, hel⟩ := getElem?_some_of_lt x.2.1 (x.2.1.length - 1) (by omega)
    exact ⟨htab, ⟨el, by rw [hGf]; exact hel, hbg el hel⟩,
      ⟨e0, by rw [hGf]; exact he0, hsm e0 he0⟩⟩
  rw [← flatAll_groupsOf] at hs h8 ⊢
  cases hr : s.reversed with
  | false =>
    obtain ⟨s', h1, h2, _, h4⟩ := cseek_fwd hts hs h8 hinv hr key hkey
    exact ⟨s', h1, h2, by simpa using h4⟩
  | true =>
    obtain ⟨s', h1, h2, _, h4⟩ := cseek_rev hts hs h8 hinv hr key hkey
    exact ⟨s', h1, h2, by simpa using h4⟩

/-- A fresh `NewConcatIterator` satisfies the invariant `CInv` required by `C18_concat_seek`
    (and `Seek` re-establishes it, so any sequence of seeks is covered). -/
theorem C18_concat_new_inv (ts : List Table) (rev : Bool) : CInv ts (newConcat ts rev) :=
  cinv_new ts rev

/-- No builder assert (`y.AssertTrue` in `addHelper` /
    `shouldFinishBlock`) fires for inputs below 2 GiB with keys of at most 65531 bytes, and a
    non-empty input yields a table: the hypothesis `built` of `Built` is satisfiable for
    every such input. -/
theorem C18_build_total (env : Env) (o : Opts) (es : List Entry) (hne : es ≠ [])
    (hk : ∀ e ∈ es, e.key ≠ [] ∧ e.key.length ≤ 65531)
    (hsz : 2 * entriesSize es + 4 * es.length + 64 < 4294967296) :
    ∃ tf, buildTable env o es = some (some tf) := by
  obtain ⟨b, hb⟩ := addAll_total (env := env) (o := o) es (builderInv_init env) hk (by simpa using hsz)
  unfold buildTable
  rw [hb]
  have hbl : (b.finishBlock env).blockList = _ :=
    (addAll_inv es (builderInv_init env) (fun e he => (hk e he).1) (Or.inr hne) hb).blocks
  unfold Builder.done
  have : ¬ ((b.finishBlock env).blockList.length = 0) := by
    rw [hbl]
    simpa using fun h => hne (by simpa [h] using (cutFrom_flatten o es []).symm)
  simp only [this, if_false]
  exact ⟨_, rfl⟩

/-- `addHelper` asserts only that the overlap and `len(diffKey)` fit `uint16`, but
    `setIdx` computes `headerSize + h.diff` in `uint16`: a first key of a block with
    65532..65535 bytes is accepted by the builder and makes the very first `setIdx(0)` (hence
    `OpenTable`, which computes `Biggest()`) panic with a slice-bounds error. Replayed on the
    real code in `corpus/C18/overlong.ops` (65524-byte user key). Unreachable through the DB
    API, which limits user keys to 65000 bytes. -/
theorem C18_overlong_key_panics (key : Bytes) (v : VS) (h1 : 65532 ≤ key.length) (h2 : key.length ≤ 65535) :
    ∃ cur, ({} : BBlock).addEntry key v = some cur ∧
      ({ data := cur.data, entryOffsets := cur.entryOffsets } : BlockIter).setIdx 0 = none := by
  have hadd : ({} : BBlock).addEntry key v =
      some { data := hdr 0 key.length ++ key ++ encVS v, baseKey := key, entryOffsets := [u32 0] } := by
    unfold BBlock.addEntry
    have b : ¬ ¬ (key.length ≤ 65535) := by omega
    simp [b]
  refine ⟨_, hadd, ?_⟩
  unfold BlockIter.setIdx
  simp only [List.length_cons, List.length_nil]
  have hr : ¬ ((0 : Int) ≥ ((0 + 1 : Nat) : Int) ∨ (0 : Int) < 0) := by omega
  simp only [hr, if_false]
  have hdb : ({ data := hdr 0 key.length ++ key ++ encVS v, entryOffsets := [u32 0], idx := 0, err := none } :
      BlockIter).decodeBase = none := by
    unfold BlockIter.decodeBase
    simp only [List.length_nil, if_true]
    rw [List.append_assoc, slice_prefix _ _ 4 (by simp [hdr_length]), Option.bind_some,
      hdr_drop2 _ _ (by omega)]
    unfold slice
    have : u16 (4 + key.length) < 4 := by unfold u16; omega
    have : ¬ (4 ≤ u16 (4 + key.length) ∧
        u16 (4 + key.length) ≤ (hdr 0 key.length ++ (key ++ encVS v)).length) := by omega
    rw [if_neg this]
  rw [hdb]; rfl

namespace Tbl.Example

/-- A lawful environment: empty checksum, identity compression, "encryption" that appends a
    16-byte IV slot. -/
def env : Env where
  cksum := fun _ => []
  verify := fun _ ck => ck == []
  comp := id
  decomp := some
  enc := fun _ b => b ++ List.replicate 16 0
  dec := fun b => some (b.take (b.length - 16))
  hash := fun k => k.length
  mkFilter := fun hs => hs.map (fun h => UInt8.ofNat h)
  mayContain := fun f h => f.contains (UInt8.ofNat h)

theorem env_lawful : env.Lawful where
  verify_cksum := by intro d; rfl
  decomp_comp := by intro b; rfl
  dec_enc := by intro i b; simp [env]
  enc_len := by intro i b; simp [env]

def k (c : UInt8) (ts : Nat) : Bytes := keyWithTs [0x61, c] ts

def es : List Entry :=
  [⟨k 0x61 7, ⟨1, 2, 0, [9, 9, 9]⟩⟩, ⟨k 0x61 5, ⟨0, 0, 300, []⟩⟩, ⟨k 0x62 1, ⟨3, 4, 0, [1]⟩⟩]

def o : Opts := { blockSize := 90, compress := true, encrypt := true, bloom := true, chkMode := 3 }

example : Sorted es := by
  unfold Sorted es
  decide

example : ∀ e ∈ es, e.key ≠ [] ∧ e.key.length ≤ 65531 ∧ 8 ≤ e.key.length ∧ e.vs.expiresAt < 2 ^ 64 := by
  decide

set_option maxRecDepth 100000 in
/-- The concrete instance satisfies `Built` (three entries in two blocks — the first with two entries sharing a key prefix —, compressed + encrypted). -/
example : ∃ tf, Built env 0 o es tf ∧ tf.index.offsets.length = 2 := by
  refine ⟨_, ⟨env_lawful, fun d => by simp [env], by decide, by decide, by decide, by decide, rfl, ?_⟩, ?_⟩ <;>
    decide

end Tbl.Example

end Badger
