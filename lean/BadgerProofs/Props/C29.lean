import BadgerModel.Drop
import BadgerProofs.Lemmas.LsmCompact
/-!
# C29 — DropPrefix / DropAll remove exactly the requested data (list and table level)

* the compaction filter with `dropPrefixes` writes no entry whose user key has a dropped prefix
  (`C29_filter_no_prefix`) and leaves the reads of every other key alone (`C29_filter_other_keys`);
* `containsPrefix` is *exact* on a non-empty sorted table (`C29_containsPrefix_iff`): no table holding a key
  with the prefix is skipped (`C29_containsPrefix_complete`), none is rewritten for nothing, and
  the unchecked `ti.Key()` after the seek is never reached with an exhausted iterator
  (`C29_containsPrefix_seek_valid`);
* the `tableGroups` loop covers exactly the tables that `containsAnyPrefixes`, in runs of
  consecutive indices (`C29_dropGroups_*`);
* a bottom table skipped by `keepTable` holds only keys with the prefix (`C29_keepTable_sound`);
* `DropAll` leaves no entry and does not touch the timestamp oracle (`C29_dropAll_*`).
-/
namespace Badger

/-- the strings with prefix `p` form an interval (`prefix_convex`) that starts at `p` -/
theorem isPrefixOf_squeeze {p x y : Bytes} (h1 : cmpBytes p x ≠ .gt) (h2 : cmpBytes x y ≠ .gt)
    (h3 : p.isPrefixOf y = true) : p.isPrefixOf x = true :=
  prefix_convex p p x y (isPrefixOf_self p) h3 h1 h2

/-- **C29** — nothing with a dropped prefix is written by a compaction (any stream) -/
theorem C29_filter_no_prefix (p : CParams) (es : List Ent) :
    ∀ e ∈ subcompact p es, hasAnyPrefix e.key p.dropPrefixes = false := by
  intro e he
  rw [subcompact_dropPrefixes] at he
  have := (List.mem_filter.mp (C12_filter_mem he)).2
  simpa [notDropped] using this

/-- **C29 (refined)** — through a compaction with `dropPrefixes`, a read of a key *without* a
    dropped prefix at `ts ≥ discardTs` finds the very same entry, except when that entry was a
    marker dead at `p.now` dropped because `hasOverlap = false` (and then nothing is found). -/
theorem C29_filter_other_keys_refined {p : CParams} {es : List Ent} (hs : SortedEnts es) {ts : Nat}
    (hts : p.discardTs ≤ ts) {k : Bytes} (hk : hasAnyPrefix k p.dropPrefixes = false) :
    newestLE (subcompact p es) k ts = newestLE es k ts ∨
      (newestLE (subcompact p es) k ts = none ∧ p.hasOverlap = false ∧
        ∃ e, newestLE es k ts = some e ∧ deletedOrExpired e.emeta e.exp p.now = true) := by
  rw [subcompact_dropPrefixes, ← newestLE_notDropped_of_other hk es ts]
  exact C12_filter_reads_refined (p := p.noPrefixes) (hs.filter _) rfl hts k

/-- **C29** — a compaction with `dropPrefixes` leaves the reads of every key without a dropped
    prefix unchanged (at or above the discard watermark, on a clock not before the compaction's) -/
theorem C29_filter_other_keys {p : CParams} {es : List Ent} (hs : SortedEnts es) {ts now : Nat}
    (hts : p.discardTs ≤ ts) (hnow : p.now ≤ now) {k : Bytes}
    (hk : hasAnyPrefix k p.dropPrefixes = false) :
    visible now (newestLE (subcompact p es) k ts) = visible now (newestLE es k ts) := by
  rcases C29_filter_other_keys_refined hs hts hk with h | ⟨h, _, e, he, hd⟩
  · rw [h]
  · rw [h, he]
    simp only [visible, deletedOrExpired_mono hnow hd, if_true]

/-- entries that all have a dropped prefix are invisible to a key without one, and the other way
    round (`b = false`): where no entry has a dropped prefix, a key with one reads as absent -/
theorem newestLE_none_of_noPrefix {es : List Ent} {ps : List Bytes} {k : Bytes} {b : Bool}
    (h : ∀ e ∈ es, hasAnyPrefix e.key ps = b) (hk : hasAnyPrefix k ps = !b) (ts : Nat) :
    newestLE es k ts = none := by
  rw [newestLE_eq_none_iff]
  intro x hx hq
  have := h x hx
  rw [hq.1, hk] at this
  cases b <;> cases this

/-- **C29** — a read of a key *with* a dropped prefix finds nothing in the output -/
theorem C29_filter_prefix_keys (p : CParams) (es : List Ent) {k : Bytes}
    (hk : hasAnyPrefix k p.dropPrefixes = true) (ts : Nat) : newestLE (subcompact p es) k ts = none :=
  newestLE_none_of_noPrefix (C29_filter_no_prefix p es) hk ts

/-- with `uint64` versions, `Seek(KeyWithTs(p, MaxUint64))` stops at the first user key `≥ p` -/
theorem seek_max_pred {p : Bytes} {x : Ent} (hv : x.ver ≤ maxU64) :
    (kvCmp x.key x.ver p maxU64 != .lt) = true ↔ cmpBytes p x.key ≠ .gt := by
  rw [bne_iff_ne, Ne, kvCmp_lt_iff, Ne, ← cmpBytes_lt_iff_gt]
  constructor
  · intro h h'; exact h (.inl h')
  · intro h h'
    rcases h' with h' | ⟨_, h'⟩
    · exact h h'
    · omega

/-- **C29** — where `isPresent` is called (`prefix < biggest user key`) the seek always lands on an
    entry: the unchecked `ti.Key()` never reads an exhausted iterator. -/
theorem C29_containsPrefix_seek_valid {t : Tbl} {p : Bytes}
    (hlt : cmpBytes p t.bigKey = .lt) : ∃ e ∈ t.ents, seekGE p maxU64 t.ents = some e := by
  have hne : t.ents ≠ [] := by
    intro h
    simp only [Tbl.bigKey, Tbl.biggest, h, List.getLast?_nil] at hlt
    cases p <;> simp [cmpBytes] at hlt
  obtain ⟨b, hb, hbk⟩ : ∃ e ∈ t.ents, e.key = t.bigKey := LL.biggest_key_mem hne
  rw [seekGE_eq_find?]
  cases hf : t.ents.find? (fun x => kvCmp x.key x.ver p maxU64 != .lt) with
  | some e => exact ⟨e, List.mem_of_find?_eq_some hf, rfl⟩
  | none =>
    exfalso
    have := List.find?_eq_none.mp hf b hb
    simp only [bne_iff_ne, ne_eq, Decidable.not_not] at this
    rw [kvCmp_lt_iff, hbk] at this
    rcases this with h | ⟨h, _⟩
    · rw [(cmpBytes_lt_iff_gt _ _).mp hlt] at h; cases h
    · rw [h, cmpBytes_refl] at hlt; cases hlt

/-- `isPresent` on a sorted table with `uint64` versions: the first entry with user key `≥ p`
    has the prefix iff some entry has -/
theorem seekHasPrefix_iff {t : Tbl} (hs : SortedEnts t.ents) (hv : ∀ e ∈ t.ents, e.ver ≤ maxU64)
    (p : Bytes) : t.seekHasPrefix p = true ↔ ∃ e ∈ t.ents, p.isPrefixOf e.key = true := by
  unfold Tbl.seekHasPrefix
  rw [seekGE_eq_find?]
  constructor
  · intro h
    cases hf : t.ents.find? (fun x => kvCmp x.key x.ver p maxU64 != .lt) with
    | none => rw [hf] at h; cases h
    | some x => rw [hf] at h; exact ⟨x, List.mem_of_find?_eq_some hf, h⟩
  · rintro ⟨e, he, hpe⟩
    have hple : cmpBytes p e.key ≠ .gt := cmpBytes_of_isPrefixOf hpe
    have hqe : (kvCmp e.key e.ver p maxU64 != .lt) = true := (seek_max_pred (hv e he)).mpr hple
    cases hf : t.ents.find? (fun x => kvCmp x.key x.ver p maxU64 != .lt) with
    | none =>
      have := List.find?_eq_none.mp hf e he
      simp [hqe] at this
    | some x =>
      simp only
      obtain ⟨hqx, as, bs, hl, hnot⟩ := List.find?_eq_some_iff_append.mp hf
      have hxm : x ∈ t.ents := List.mem_of_find?_eq_some hf
      have hpx : cmpBytes p x.key ≠ .gt := (seek_max_pred (hv x hxm)).mp hqx
      have hxe : cmpBytes x.key e.key ≠ .gt := by
        rw [hl] at he hs
        rcases List.mem_append.mp he with h | h
        · have := hnot e h; simp [hqe] at this
        · rcases List.mem_cons.mp h with rfl | h
          · rw [cmpBytes_refl]; simp
          · exact entCmp_lt_key_le ((sortedEnts_append.mp hs).2.1.head_lt e h)
      exact isPrefixOf_squeeze hpx hxe hpe

/-- **C29** — no table holding a key with the prefix is skipped by `dropPrefixes` -/
theorem C29_containsPrefix_complete {t : Tbl} (hs : SortedEnts t.ents)
    (hv : ∀ e ∈ t.ents, e.ver ≤ maxU64) {p : Bytes} (h : ∃ e ∈ t.ents, p.isPrefixOf e.key = true) :
    t.containsPrefix p = true := by
  fun_cases Tbl.containsPrefix t p
  case case1 | case2 => rfl  -- `p` is a prefix of the smallest or of the biggest key
  case case3 => exact (seekHasPrefix_iff hs hv p).mpr h  -- strictly between them: `isPresent`
  case case4 h1 h2 h3 =>  -- else `false`
    obtain ⟨e, he, hpe⟩ := h
    have hple : cmpBytes p e.key ≠ .gt := cmpBytes_of_isPrefixOf hpe
    -- `p ≤ small ≤ e.key` or `p ≤ e.key ≤ big ≤ p` would make `p` a prefix of that end
    have hgt : cmpBytes p t.smallKey = .gt :=
      Decidable.by_contra (fun hne => h1 (isPrefixOf_squeeze hne (LL.key_ge_smallest hs he) hpe))
    have hlt : cmpBytes p t.bigKey = .lt :=
      Decidable.by_contra (fun hne => h2 (isPrefixOf_squeeze (cmpBytes_le_trans hple (LL.key_le_biggest hs he))
        (cmpBytes_ne_lt_swap hne) (isPrefixOf_self p)))
    rw [hgt, hlt] at h3
    exact absurd rfl h3

/-- **C29** — and none is rewritten for nothing: `containsPrefix` never over-approximates -/
theorem C29_containsPrefix_sound {t : Tbl} (hne : t.ents ≠ []) (hs : SortedEnts t.ents)
    (hv : ∀ e ∈ t.ents, e.ver ≤ maxU64) {p : Bytes} (h : t.containsPrefix p = true) :
    ∃ e ∈ t.ents, p.isPrefixOf e.key = true := by
  revert h
  fun_cases Tbl.containsPrefix t p <;> intro h
  case case1 h1 =>  -- `p` is a prefix of the smallest key
    obtain ⟨e, he, hk⟩ := LL.smallest_key_mem hne
    exact ⟨e, he, hk ▸ h1⟩
  case case2 h2 =>  -- of the biggest key
    obtain ⟨e, he, hk⟩ := LL.biggest_key_mem hne
    exact ⟨e, he, hk ▸ h2⟩
  case case3 => exact (seekHasPrefix_iff hs hv p).mp h  -- strictly between them: `isPresent`
  case case4 => cases h  -- else `false`

/-- **C29** — `containsPrefix` is exact on a non-empty sorted table -/
theorem C29_containsPrefix_iff {t : Tbl} (hne : t.ents ≠ []) (hs : SortedEnts t.ents)
    (hv : ∀ e ∈ t.ents, e.ver ≤ maxU64) (p : Bytes) :
    t.containsPrefix p = true ↔ ∃ e ∈ t.ents, p.isPrefixOf e.key = true :=
  ⟨C29_containsPrefix_sound hne hs hv, C29_containsPrefix_complete hs hv⟩

theorem C29_containsAnyPrefixes_iff {t : Tbl} (hne : t.ents ≠ []) (hs : SortedEnts t.ents)
    (hv : ∀ e ∈ t.ents, e.ver ≤ maxU64) (ps : List Bytes) :
    t.containsAnyPrefixes ps = true ↔ ∃ e ∈ t.ents, hasAnyPrefix e.key ps = true := by
  unfold Tbl.containsAnyPrefixes hasAnyPrefix
  simp only [List.any_eq_true, C29_containsPrefix_iff hne hs hv]
  constructor
  · rintro ⟨p, hp, e, he, h⟩; exact ⟨e, he, p, hp, h⟩
  · rintro ⟨e, he, p, hp, h⟩; exact ⟨p, hp, e, he, h⟩

theorem exists_mem_finishGroup {cur : List Nat} {x : Nat} : (∃ g ∈ finishGroup cur, x ∈ g) ↔ x ∈ cur := by
  unfold finishGroup
  cases cur <;> simp

theorem mem_dropGroupsAux {ps : List Bytes} {ts : List Tbl} {i : Nat} {cur : List Nat} {x : Nat} :
    (∃ g ∈ dropGroupsAux ps i ts cur, x ∈ g) ↔
      x ∈ cur ∨ ∃ t, (t, x) ∈ ts.zipIdx i ∧ t.containsAnyPrefixes ps = true := by
  fun_induction dropGroupsAux ps i ts cur with
  | case1 =>  -- no table left
    simp only [exists_mem_finishGroup, List.zipIdx_nil, List.not_mem_nil, false_and, exists_false, or_false]
  | case2 i t ts cur hc ih =>  -- the table joins the open group
    simp only [ih, List.zipIdx_cons, List.mem_cons, Prod.mk.injEq, or_and_right, exists_or, and_assoc,
      exists_eq_left, List.mem_append, List.not_mem_nil, false_or, hc, and_true, or_assoc]
  | case3 i t ts cur hc ih =>  -- the table closes it
    simp only [List.zipIdx_cons, List.mem_cons, Prod.mk.injEq, or_and_right, exists_or, and_assoc,
      exists_eq_left, List.mem_append, exists_mem_finishGroup, ih, List.not_mem_nil,
      false_or, hc, Bool.false_eq_true, and_false]

/-- the groups are non-empty runs `[a, a+m)` of indices, in increasing order, the first one starting at or
    after `c` -/
def GChain : Nat → List (List Nat) → Prop
  | _, [] => True
  | c, g :: gs => ∃ a m, g = List.range' a m ∧ 0 < m ∧ c ≤ a ∧ GChain (a + m) gs

theorem GChain.finish {c a n : Nat} {rest : List (List Nat)} (hc : c ≤ a)
    (h0 : n = 0 → GChain c rest) (h1 : 0 < n → GChain (a + n) rest) :
    GChain c (finishGroup (List.range' a n) ++ rest) := by
  cases n with
  | zero => exact h0 rfl
  | succ n => exact ⟨a, n + 1, rfl, Nat.succ_pos n, hc, h1 (Nat.succ_pos n)⟩

/-- the loop returns such a chain, provided the open group is a run that ends just before the
    current index -/
theorem dropGroupsAux_chain (ps : List Bytes) (ts : List Tbl) {i a n c : Nat} (h : a + n = i) (hc : c ≤ a) :
    GChain c (dropGroupsAux ps i ts (List.range' a n)) := by
  induction ts generalizing i a n c with
  | nil =>
    rw [dropGroupsAux, ← List.append_nil (finishGroup _)]
    exact GChain.finish hc (fun _ => trivial) (fun _ => trivial)
  | cons t ts ih =>
    rw [dropGroupsAux]
    split
    · rw [show List.range' a n ++ [i] = List.range' a (n + 1) by rw [List.range'_concat, Nat.one_mul, h]]
      exact ih (congrArg (· + 1) h) hc
    · have hrest := fun c' (hc' : c' ≤ i + 1) => ih (a := i + 1) (n := 0) (c := c') rfl hc'
      exact GChain.finish hc
        (fun _ => hrest c (Nat.le_succ_of_le (h ▸ Nat.le_trans hc (Nat.le_add_right a n))))
        (fun _ => h ▸ hrest i (Nat.le_succ i))

theorem GChain.consecutive {c : Nat} {gs : List (List Nat)} (h : GChain c gs) :
    ∀ g ∈ gs, g ≠ [] ∧ g = List.range' (g.headD 0) g.length := by
  induction gs generalizing c with
  | nil => intro g hg; cases hg
  | cons g0 gs ih =>
    obtain ⟨a, m, rfl, hm, _, hrest⟩ := h
    intro g hg
    rcases List.mem_cons.mp hg with rfl | hg
    · exact ⟨fun h => Nat.ne_of_gt hm (List.range'_eq_nil_iff.mp h), range'_eq_headD a m⟩
    · exact ih hrest g hg

theorem dropGroups_chain (T : List Tbl) (ps : List Bytes) : GChain 0 (dropGroups T ps) :=
  dropGroupsAux_chain ps T (a := 0) (n := 0) rfl (Nat.le_refl _)

/-- an index belongs to some group exactly when its table contains a prefix -/
theorem C29_dropGroups_mem_iff {tbls : List Tbl} {ps : List Bytes} {j : Nat} :
    (∃ g ∈ dropGroups tbls ps, j ∈ g) ↔ ∃ t, tbls[j]? = some t ∧ t.containsAnyPrefixes ps = true := by
  simp only [dropGroups, mem_dropGroupsAux, List.not_mem_nil, false_or, List.mem_zipIdx_iff_getElem?]

/-- **C29** — every table that `containsAnyPrefixes` is in some group -/
theorem C29_dropGroups_cover {tbls : List Tbl} {ps : List Bytes} {j : Nat} {t : Tbl}
    (hj : tbls[j]? = some t) (hc : t.containsAnyPrefixes ps = true) :
    ∃ g ∈ dropGroups tbls ps, j ∈ g :=
  C29_dropGroups_mem_iff.mpr ⟨t, hj, hc⟩

/-- **C29** — each group is a non-empty run of consecutive table indices (the "bottom tables are
    consecutive" requirement of the compaction) -/
theorem C29_dropGroups_consecutive {tbls : List Tbl} {ps : List Bytes} {g : List Nat}
    (hg : g ∈ dropGroups tbls ps) : g ≠ [] ∧ g = List.range' (g.headD 0) g.length :=
  (dropGroups_chain tbls ps).consecutive g hg

/-- **C29** — a bottom table that `keepTable` drops without reading it holds only keys with a
    dropped prefix -/
theorem C29_keepTable_sound {ps : List Bytes} {t : Tbl} (hs : SortedEnts t.ents)
    (h : skippedByKeepTable ps t = true) : ∀ e ∈ t.ents, hasAnyPrefix e.key ps = true := by
  intro e he
  simp only [skippedByKeepTable, List.any_eq_true] at h
  obtain ⟨p, hp, hm⟩ := h
  simp only [hasAnyPrefix, List.any_eq_true]
  refine ⟨p, hp, ?_⟩
  cases ha : t.smallest with
  | none => rw [ha] at hm; cases hm
  | some a =>
    cases hb : t.biggest with
    | none => rw [ha, hb] at hm; cases hm
    | some b =>
      rw [ha, hb] at hm
      simp only [Bool.and_eq_true] at hm
      have h1 := cmpBytes_ne_lt_swap (LL.tbl_keys_ge_smallest hs ha e he)
      have h2 := cmpBytes_ne_lt_swap (LL.tbl_keys_le_biggest hs hb e he)
      exact prefix_convex p a.key e.key b.key hm.1 hm.2 h1 h2

theorem Lsm.dropAll_eq_init (s : Lsm) : s.dropAll = Lsm.init s.levels.length := by
  simp only [Lsm.dropAll, Lsm.init, Lsm.mk.injEq, true_and]
  induction s.levels with
  | nil => rfl
  | cons l ls ih => simp [List.replicate_succ, ih]

/-- **C29** — after `DropAll` the tree holds no entry -/
theorem C29_dropAll_empty (s : Lsm) : s.dropAll.allEntries = [] := by
  rw [Lsm.dropAll_eq_init, LL.init_allEntries]

theorem C29_dropAll_reads (s : Lsm) (k : Bytes) (ts now : Nat) : s.dropAll.specGet k ts now = none := by
  unfold Lsm.specGet; rw [C29_dropAll_empty]; rfl

theorem C29_dropAll_levels (s : Lsm) : s.dropAll.levels.length = s.levels.length := by
  simp [Lsm.dropAll]

/-- on the database model `DropAll` empties the tree and touches neither the timestamp oracle (`nextTs`,
    `readMark`) nor the transactions nor the list of committed transactions -/
theorem C29_dropAll_db (d : Db) :
    d.dropAll.lsm.allEntries = [] ∧ d.dropAll.nextTs = d.nextTs ∧ d.dropAll.readMark = d.readMark ∧
      d.dropAll.txns = d.txns ∧ d.dropAll.committed = d.committed := by
  refine ⟨C29_dropAll_empty d.lsm, rfl, rfl, rfl, rfl⟩

section Sanity

private def mk (k : List Nat) (v : Nat) : Ent :=
  { key := k.map UInt8.ofNat, ver := v, emeta := 0, umeta := 0, exp := 0, val := [] }

private def lvl : List Tbl :=
  [{ ents := [mk [1] 1, mk [1, 5] 1], id := 1 }, { ents := [mk [2] 1, mk [2, 0] 1], id := 2 },
   { ents := [mk [2, 1] 1, mk [2, 2] 1], id := 3 }, { ents := [mk [3] 1, mk [4] 1], id := 4 },
   { ents := [mk [5] 1, mk [7] 1], id := 5 }, { ents := [mk [8] 1, mk [9] 1], id := 6 }]

-- prefix inside a table but at neither end (`isPresent` decides), present and absent
example : (lvl.map (fun t => t.containsPrefix [6])) = [false, false, false, false, false, false] := by decide +kernel
example : ({ ents := [mk [5] 1, mk [6, 1] 1, mk [7] 1] } : Tbl).containsPrefix [6] = true := by decide +kernel
example : (lvl.map (fun t => t.containsPrefix [2])) = [false, true, true, false, false, false] := by decide +kernel
example : dropGroups lvl [[2], [8]] = [[1, 2], [5]] := by decide +kernel
example : dropGroups lvl [[1], [2], [9]] = [[0, 1, 2], [5]] := by decide +kernel
example : skippedByKeepTable [[2]] { ents := [mk [2] 1, mk [2, 0] 1] } = true := by decide +kernel
-- hypotheses of C29_containsPrefix_iff / C29_filter_other_keys are satisfiable
example : ∀ t ∈ lvl, t.ents ≠ [] ∧ SortedEnts t.ents ∧ ∀ e ∈ t.ents, e.ver ≤ maxU64 := by decide +kernel
example : subcompact { discardTs := 0, numKeep := 1, hasOverlap := false, now := 0, dropPrefixes := [[2]] }
    [mk [1] 1, mk [2] 3, mk [2, 0] 1, mk [3] 1] = [mk [1] 1, mk [3] 1] := by decide +kernel

end Sanity

end Badger
