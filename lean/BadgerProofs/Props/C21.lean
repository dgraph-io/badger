import BadgerProofs.Lemmas.MergeIter
/-!
# C21 — merged iteration yields the sorted union with earliest-source precedence

Model: `BadgerModel/Source.lean` (leaf iterators), `BadgerModel/Merge.lean`
(`table.MergeIterator`, `table.NewMergeIterator`, `mergeSpec`).

One `MergeIterator` level over arbitrary children is `mergeIterSpec` (`Lemmas/MergeIter.lean`);
here the induction over the recursive construction of `NewMergeIterator` (any number of inputs,
hence any nesting depth) and the property theorems.

All statements are for *every* history of `Rewind/Seek/Next` calls before the call of
interest (`hist`), because `Rewind`/`Seek` must work from whatever state earlier calls left.
-/
namespace Badger

/-- One level: `NewMergeIterator([a, b], reverse)` over children that are cursors over
    `allA`, `allB` is a cursor over their merge.  `a`, `b` are arbitrary iterators, e.g.
    themselves `MergeIterator`s. -/
theorem C21_merge_level (rev : Bool) (a b : AnyIter) (allA allB : List ItEntry)
    (ha : Sat (dcmp rev) a allA) (hb : Sat (dcmp rev) b allB) :
    Sat (dcmp rev) (newMerge2 a b rev) (mergeLists (dcmp rev) allA allB) := by
  obtain ⟨SA, hA⟩ := ha
  obtain ⟨SB, hB⟩ := hb
  exact ⟨mergeIterSpec (dcmp_total rev) SA SB rev rfl,
    mergeR_init (dcmp_total rev) SA SB rev rfl hA hB⟩

theorem Sat.sorted {cmp : Bytes → Bytes → Ordering} {it : AnyIter} {all : List ItEntry}
    (h : Sat cmp it all) : SortedBy cmp all := by
  obtain ⟨S, _⟩ := h; exact S.sorted_all

theorem newMergeIteratorF_split {iters : List AnyIter} (h : 3 ≤ iters.length) (fuel : Nat)
    (rev : Bool) :
    newMergeIteratorF (fuel + 1) iters rev =
      match newMergeIteratorF fuel (iters.take (iters.length / 2)) rev,
            newMergeIteratorF fuel (iters.drop (iters.length / 2)) rev with
      | some l, some r => some (newMerge2 l r rev)
      | _, _ => none :=
  match iters, h with
  | _ :: _ :: _ :: _, _ => rfl

theorem newMergeIteratorF_sat (rev : Bool) (fuel : Nat) (ps : List (AnyIter × List ItEntry))
    (hlen : ps.length ≤ fuel) (hne : 0 < ps.length)
    (hs : ∀ p ∈ ps, Sat (dcmp rev) p.1 p.2) :
    ∃ it, newMergeIteratorF fuel (ps.map Prod.fst) rev = some it ∧
      Sat (dcmp rev) it (mergeSpecG (dcmp rev) (ps.map Prod.snd)) := by
  have T := dcmp_total rev
  induction fuel generalizing ps with
  | zero => omega
  | succ fuel ih =>
    by_cases h3 : 3 ≤ ps.length
    case neg =>
      rcases ps with _ | ⟨p, _ | ⟨q, _ | ⟨r, rest⟩⟩⟩
      · exact absurd hne (Nat.lt_irrefl 0)
      · refine ⟨p.1, rfl, ?_⟩
        rw [List.map_singleton, mergeSpecG_singleton T _ (hs p (by simp)).sorted]
        exact hs p (by simp)
      · have hp := hs p (by simp)
        have hq := hs q (by simp)
        refine ⟨newMerge2 p.1 q.1 rev, rfl, ?_⟩
        rw [List.map_cons, List.map_singleton, mergeSpecG_cons T _ _ hp.sorted,
          mergeSpecG_singleton T _ hq.sorted]
        exact C21_merge_level rev p.1 q.1 p.2 q.2 hp hq
      · exact absurd (Nat.le_add_left 3 rest.length) h3
    · have h1 : 0 < ps.length / 2 := Nat.div_pos (Nat.le_of_succ_le h3) Nat.two_pos
      have h2 : ps.length / 2 < ps.length := Nat.div_lt_self hne Nat.one_lt_two
      have ht : (ps.take (ps.length / 2)).length = ps.length / 2 :=
        List.length_take_of_le (Nat.le_of_lt h2)
      obtain ⟨l, hl, hsl⟩ := ih (ps.take (ps.length / 2))
        (Nat.le_trans (Nat.le_of_eq ht) (Nat.le_of_lt_succ (Nat.lt_of_lt_of_le h2 hlen)))
        (Nat.lt_of_lt_of_eq h1 ht.symm)
        fun p hp => hs p (List.mem_of_mem_take hp)
      obtain ⟨r, hr, hsr⟩ := ih (ps.drop (ps.length / 2))
        (List.length_drop ▸ Nat.le_trans (Nat.sub_le_sub_left h1 _) (Nat.sub_le_of_le_add hlen))
        (List.length_drop ▸ Nat.sub_pos_of_lt h2) fun p hp => hs p (List.mem_of_mem_drop hp)
      refine ⟨newMerge2 l r rev, ?_, ?_⟩
      · rw [newMergeIteratorF_split (by rwa [List.length_map]), List.length_map, ← List.map_take,
          ← List.map_drop, hl, hr]
      · rw [← List.take_append_drop (ps.length / 2) ps, List.map_append, mergeSpecG_append T]
        exact C21_merge_level rev l r _ _ hsl hsr

/-- `NewMergeIterator` over any non-empty list of iterators that are cursors over strictly
    sorted lists is a cursor over the sorted union with earliest-input precedence. -/
theorem C21_newMergeIterator (rev : Bool) (ps : List (AnyIter × List ItEntry)) (hne : ps ≠ [])
    (hs : ∀ p ∈ ps, Sat (dcmp rev) p.1 p.2) :
    ∃ it, newMergeIterator (ps.map Prod.fst) rev = some it ∧
      Sat (dcmp rev) it (mergeSpecG (dcmp rev) (ps.map Prod.snd)) := by
  unfold newMergeIterator
  exact newMergeIteratorF_sat rev _ ps (by simp) (List.length_pos_iff.mpr hne) hs

theorem C21_newMergeIterator_empty (rev : Bool) : (newMergeIterator [] rev).isNone := by
  simp [newMergeIterator, newMergeIteratorF]

/-- the leaf iterators handed to `NewMergeIterator` -/
def sourcesOf (inputs : List (List ItEntry)) (rev : Bool) : List AnyIter :=
  inputs.map (fun l => (Source.mk' l rev).toIter)

theorem source_sat (rev : Bool) (l : List ItEntry) (hs : SortedBy compareKeys l) :
    Sat (dcmp rev) (Source.mk' l rev).toIter (dirList rev l) :=
  ⟨sourceSpec l rev hs, rfl, SortedBy.nil⟩

theorem mergeSpecG_dir (rev : Bool) (inputs : List (List ItEntry))
    (hs : ∀ l ∈ inputs, SortedBy compareKeys l) :
    mergeSpecG (dcmp rev) (inputs.map (dirList rev)) = dirList rev (mergeSpec inputs) := by
  cases rev
  · have : dirList false = id := by funext l; simp [dirList]
    simp [this, dcmp_false, mergeSpec]
  · simp only [dirList, if_true, dcmp_true, mergeSpec]
    exact mergeSpecG_reverse compareKeys_total inputs hs

theorem merge_map_sat {ι : Type} (rev : Bool) (xs : List ι) (f : ι → AnyIter)
    (g : ι → List ItEntry) (hne : xs ≠ [])
    (hsat : ∀ x ∈ xs, Sat (dcmp rev) (f x) (dirList rev (g x))) :
    ∃ it, newMergeIterator (xs.map f) rev = some it ∧
      Sat (dcmp rev) it (dirList rev (mergeSpec (xs.map g))) := by
  have := C21_newMergeIterator rev (xs.map fun x => (f x, dirList rev (g x))) (by simpa using hne)
    (List.forall_mem_map.mpr hsat)
  rw [← mergeSpecG_dir rev _
    (List.forall_mem_map.mpr fun x hx => sortedBy_dirList.mp (hsat x hx).sorted)]
  simpa [List.map_map, Function.comp_def] using this

theorem merge_sources_sat (rev : Bool) (inputs : List (List ItEntry)) (hne : inputs ≠ [])
    (hs : ∀ l ∈ inputs, SortedBy compareKeys l) :
    ∃ it, newMergeIterator (sourcesOf inputs rev) rev = some it ∧
      Sat (dcmp rev) it (dirList rev (mergeSpec inputs)) := by
  have := merge_map_sat rev inputs (fun l => (Source.mk' l rev).toIter) id hne
    fun l hl => source_sat rev l (hs l hl)
  rwa [List.map_id] at this

/-- **Refinement**: the iterator built by `NewMergeIterator` over `n ≥ 1` sources is
    observationally equivalent — `Valid/Key/Value` after every sequence of
    `Rewind/Seek/Next` calls — to a single source over `mergeSpec inputs`. -/
theorem C21_refines_source (rev : Bool) (inputs : List (List ItEntry)) (hne : inputs ≠ [])
    (hs : ∀ l ∈ inputs, SortedBy compareKeys l) :
    ∃ it, newMergeIterator (sourcesOf inputs rev) rev = some it ∧
      ∀ calls : List IterOp,
        (it.run calls).cur = ((Source.mk' (mergeSpec inputs) rev).toIter.run calls).cur := by
  obtain ⟨it, hit, S, hR⟩ := merge_sources_sat rev inputs hne hs
  refine ⟨it, hit, ?_⟩
  intro calls
  have hsorted : SortedBy compareKeys (mergeSpec inputs) := sortedBy_mergeSpecG compareKeys_total _
  obtain ⟨S', hR'⟩ := source_sat rev (mergeSpec inputs) hsorted
  show it.ops.cur (it.ops.run it.st calls) = Source.ops.cur (Source.ops.run _ calls)
  rw [S.cur_eq (S.run_R hR calls)]
  exact (S'.cur_eq (S'.run_R hR' calls)).symm

/-- **Forward**: whatever calls were made before (`hist`), `Rewind` followed by repeated
    `Next` yields exactly `mergeSpec inputs` (`collect n` is the consumer loop cut off after
    `n` entries; take `n ≥` the length for the whole sequence, and see
    `C21_forward_exhausted`). -/
theorem C21_forward (inputs : List (List ItEntry)) (hne : inputs ≠ [])
    (hs : ∀ l ∈ inputs, SortedBy compareKeys l) :
    ∃ it, newMergeIterator (sourcesOf inputs false) false = some it ∧
      ∀ (hist : List IterOp) (n : Nat),
        ((it.run hist).rewind).collect n = (mergeSpec inputs).take n := by
  obtain ⟨it, hit, hsat⟩ := merge_sources_sat false inputs hne hs
  exact ⟨it, hit, hsat.rewind_collect⟩

theorem C21_forward_exhausted (inputs : List (List ItEntry)) (hne : inputs ≠ [])
    (hs : ∀ l ∈ inputs, SortedBy compareKeys l) :
    ∃ it, newMergeIterator (sourcesOf inputs false) false = some it ∧
      ∀ (hist : List IterOp) (n : Nat),
        (((it.run hist).rewind).run (List.replicate n .next)).valid =
          decide (n < (mergeSpec inputs).length) := by
  obtain ⟨it, hit, S, hR⟩ := merge_sources_sat false inputs hne hs
  refine ⟨it, hit, ?_⟩
  intro hist n
  exact S.valid_after_nexts (S.rewind (S.run_R hR hist)) n

/-- **Reverse**: with reverse sources and `reverse = true` the sequence is the reversed spec. -/
theorem C21_reverse (inputs : List (List ItEntry)) (hne : inputs ≠ [])
    (hs : ∀ l ∈ inputs, SortedBy compareKeys l) :
    ∃ it, newMergeIterator (sourcesOf inputs true) true = some it ∧
      ∀ (hist : List IterOp) (n : Nat),
        ((it.run hist).rewind).collect n = (mergeSpec inputs).reverse.take n := by
  obtain ⟨it, hit, hsat⟩ := merge_sources_sat true inputs hne hs
  exact ⟨it, hit, hsat.rewind_collect⟩

/-- **Seek**: after `Seek k` (from any state) the remaining sequence is the suffix of
    `mergeSpec inputs` starting at the first entry with key `≥ k`; in reverse, the reversed
    prefix ending at the last entry with key `≤ k`. -/
theorem C21_seek (inputs : List (List ItEntry)) (hne : inputs ≠ [])
    (hs : ∀ l ∈ inputs, SortedBy compareKeys l) :
    (∃ it, newMergeIterator (sourcesOf inputs false) false = some it ∧
      ∀ (hist : List IterOp) (k : Bytes) (n : Nat),
        ((it.run hist).seek k).collect n =
          ((mergeSpec inputs).dropWhile (fun e => compareKeys e.key k == .lt)).take n) ∧
    (∃ it, newMergeIterator (sourcesOf inputs true) true = some it ∧
      ∀ (hist : List IterOp) (k : Bytes) (n : Nat),
        ((it.run hist).seek k).collect n =
          ((mergeSpec inputs).reverse.dropWhile (fun e => compareKeys e.key k == .gt)).take n) := by
  constructor
  · obtain ⟨it, hit, hsat⟩ := merge_sources_sat false inputs hne hs
    exact ⟨it, hit, fun hist k n => by simpa [dirList, dcmp_false] using hsat.seek_collect hist k n⟩
  · obtain ⟨it, hit, hsat⟩ := merge_sources_sat true inputs hne hs
    exact ⟨it, hit, fun hist k n => by simpa [dirList, dcmp_true_lt] using hsat.seek_collect hist k n⟩

/-- **Earliest wins**: the spec list is strictly sorted (so every internal key occurs exactly
    once) and contains exactly the entries `e` that occur in the earliest input holding
    an entry with `e`'s key. -/
theorem C21_earliest_wins (inputs : List (List ItEntry))
    (hs : ∀ l ∈ inputs, SortedBy compareKeys l) :
    SortedBy compareKeys (mergeSpec inputs) ∧
    (keysOf (mergeSpec inputs)).Nodup ∧
    ∀ e : ItEntry, e ∈ mergeSpec inputs ↔
      ∃ i, ∃ h : i < inputs.length, e ∈ inputs[i] ∧
        ∀ j, ∀ hj : j < i, e.key ∉ keysOf (inputs[j]'(Nat.lt_trans hj h)) := by
  have T := compareKeys_total
  have hsorted : SortedBy compareKeys (mergeSpec inputs) := sortedBy_mergeSpecG T _
  refine ⟨hsorted, ?_, ?_⟩
  · exact nodup_of_pairwise (R := fun a b => compareKeys a b = .lt) T.lt_irrefl
      (List.pairwise_map.mpr hsorted)
  · intro e
    unfold mergeSpec
    rw [mem_mergeSpecG T _ hs]
    clear hs hsorted
    induction inputs with
    | nil => exact ⟨False.elim, fun ⟨_, h, _⟩ => absurd h (Nat.not_lt_zero _)⟩
    | cons l rest ih =>
      simp only [FirstWith, ih]
      constructor
      · rintro (h | ⟨hk, i, hi, he, hall⟩)
        · exact ⟨0, Nat.zero_lt_succ _, h, fun j hj => absurd hj (Nat.not_lt_zero j)⟩
        · refine ⟨i + 1, Nat.succ_lt_succ hi, he, fun j hj => ?_⟩
          cases j with
          | zero => exact hk
          | succ j => exact hall j (Nat.lt_of_succ_lt_succ hj)
      · rintro ⟨i, hi, he, hj⟩
        cases i with
        | zero => exact .inl he
        | succ i =>
          exact .inr ⟨hj 0 (Nat.zero_lt_succ i), i, Nat.lt_of_succ_lt_succ hi, he,
            fun j hj' => hj (j + 1) (Nat.succ_lt_succ hj')⟩

/-- The iteration bound that the model puts on the `for mi.Valid()` loop of `Next` is never
    what ends the loop: in every positioned state of a `MergeIterator` whose children are
    cursors, the loop is left through its own condition. -/
theorem C21_next_loop_exits {α β : Type} {A : IterOps α} {B : IterOps β} {allA allB : List ItEntry}
    (rev : Bool) (SA : IterSpec A (dcmp rev) allA) (SB : IterSpec B (dcmp rev) allB)
    (m : MergeSt α β) (L : List ItEntry)
    (h : (mergeIterSpec (dcmp_total rev) SA SB rev rfl).R m L) :
    (MergeSt.nextLoop A B (MergeSt.size A B m + 1) m).loopCond = false := by
  cases L with
  | cons e L =>
    obtain ⟨_, _, _, _, _, hex⟩ := nextLoop_cons (dcmp_total rev) SA SB rev rfl h (MergeSt.size A B m)
    exact hex
  | nil =>
    have hv : m.smallValid = false := (mergeIterSpec _ SA SB rev rfl).valid h
    have hcond : m.loopCond = false := by unfold MergeSt.loopCond; rw [hv]; rfl
    rw [nextLoop_of_not_cond hcond]; exact hcond

section Examples
private def k (c : UInt8) (ts : Nat) : Bytes := keyWithTs [c] ts
private def in1 : List ItEntry := [⟨k 0x61 5, [1]⟩, ⟨k 0x62 5, [2]⟩]
private def in2 : List ItEntry := [⟨k 0x61 5, [3]⟩, ⟨k 0x61 3, [4]⟩, ⟨k 0x63 1, [5]⟩]
private def in3 : List ItEntry := [⟨k 0x60 5, [6]⟩, ⟨k 0x63 1, [7]⟩]

-- non-vacuity: three sorted inputs sharing internal keys (a@5 in 1 and 2; c@1 in 2 and 3)
example : ∀ l ∈ [in1, in2, in3], SortedBy compareKeys l := by
  simp only [List.mem_cons, List.mem_nil_iff, or_false, SortedBy]
  rintro l (rfl | rfl | rfl) <;> decide +kernel

example : mergeSpec [in1, in2, in3] =
    [⟨k 0x60 5, [6]⟩, ⟨k 0x61 5, [1]⟩, ⟨k 0x61 3, [4]⟩, ⟨k 0x62 5, [2]⟩, ⟨k 0x63 1, [5]⟩] := by
  decide +kernel

-- the model iterator on the same inputs, forward, reverse and after a seek to an absent key
example : (match newMergeIterator (sourcesOf [in1, in2, in3] false) false with
    | some it => it.rewind.collect 10
    | none => []) = mergeSpec [in1, in2, in3] := by decide +kernel

example : (match newMergeIterator (sourcesOf [in1, in2, in3] true) true with
    | some it => it.rewind.collect 10
    | none => []) = (mergeSpec [in1, in2, in3]).reverse := by decide +kernel

example : (match newMergeIterator (sourcesOf [in1, in2, in3] false) false with
    | some it => ((it.rewind.next.next).seek (k 0x61 4)).collect 2
    | none => []) = [⟨k 0x61 3, [4]⟩, ⟨k 0x62 5, [2]⟩] := by decide +kernel
end Examples

end Badger
