import BadgerModel.Bytes
/-!
# C29 (concurrency clause) — a commit racing with a drop takes effect entirely before it,
entirely after it, or is rejected

A small interleaving model of ONE committer against ONE `DropPrefix`/`DropAll` (db.go); the model of this
clause (`Out`, `St`, the two step functions, `explore`) is local to this file:

* committer (`commitAndSend` → `sendToWriteCh`): `alloc` (`newCommitTs`: the commit timestamp is
  pending on `txnMark`), `check` (`blockWrites.Load() == 1` ⇒ `ErrBlockedWrites`, `doneCommit`),
  `send` (`db.writeCh <- req`; the request carries ALL entries of the transaction);
* dropper (`prepareToDrop` …): `block` (`blockWrites.CompareAndSwap(0, 1)`, `closers.writes.SignalAndWait`:
  `doWrites` applies what it has and exits), `drain` (the `select` loop over `writeCh`, then
  `writeRequests`: everything sent so far is applied BEFORE the drop), `view` (DropPrefix only:
  `filterPrefixesToDrop` opens a `View`, whose `readTs` waits for every pending commit
  timestamp), `work` (flush with the prefix filter / drop everything), `unblock`
  (`unblockWrite`: a new `doWrites` serves `writeCh`: what is in it is applied AFTER the drop).

`explore` enumerates every interleaving. Results: with `DropAll` every interleaving ends with
the request rejected, applied before, or applied after the drop (`C29_conc_dropAll`); with
`DropPrefix` the same, except the interleavings in which the send happens after the drain and
before the unblock — the late sender, finding F38b: the `View` waits for the commit, the commit
waits for the writer that `unblock` would start (`C29_conc_dropPrefix`,
`C29_conc_late_sender_deadlock`; reproduced on the real code by the `pipe` engine's `late`
schedule, oracle tag `[C29-concurrent-late-sender-hang]`). A request is never split: whatever
the outcome, the surviving keys of the transaction are none, exactly its keys outside the
dropped prefix, or all of them (`C29_conc_atomic`, a fact about `survivors`, the keys each outcome
leaves, not about the interleavings).
-/
namespace Badger.C29Conc

inductive Out | rejected | before | after | deadlock
  deriving DecidableEq, Repr

structure St where
  spc : Nat := 0        -- committer: 0 alloc, 1 check, 2 send, 3 finished
  dpc : Nat := 0        -- dropper: 0 block, 1 drain, 2 view, 3 work, 4 unblock, 5 finished
  flag : Bool := false  -- blockWrites
  chan : Bool := false  -- the request sits in writeCh, not yet applied
  pending : Bool := false   -- commit timestamp allocated, not yet done (txnMark)
  dropped : Bool := false   -- the drop's work has been done
  res : Option Out := none
  deriving DecidableEq, Repr

/-- one step of the committer (`none`: finished). While the writer goroutine is alive (before
    `block`, after `unblock`) a sent request is applied at once; otherwise it waits in the channel. -/
def senderStep (s : St) : Option St :=
  match s.spc with
  | 0 => some { s with spc := 1, pending := true }
  | 1 => if s.flag then some { s with spc := 3, pending := false, res := some .rejected }
         else some { s with spc := 2 }
  | 2 =>
    if s.dpc = 0 then some { s with spc := 3, pending := false, res := some .before }   -- writer alive
    else if s.dpc = 5 then some { s with spc := 3, pending := false, res := some .after } -- new writer
    else some { s with spc := 3, chan := true }
  | _ => none

/-- one step of the dropper (`none`: finished or blocked). `withView`: DropPrefix. -/
def dropStep (withView : Bool) (s : St) : Option St :=
  match s.dpc with
  | 0 => some { s with dpc := 1, flag := true }
  | 1 => -- drain: what was sent is applied before the drop
    if s.chan then some { s with dpc := 2, chan := false, pending := false, res := some .before }
    else some { s with dpc := 2 }
  | 2 => if withView && s.pending then none else some { s with dpc := 3 }
  | 3 => some { s with dpc := 4, dropped := true }
  | 4 => -- unblock: the new writer serves the channel
    if s.chan then some { s with dpc := 5, flag := false, chan := false, pending := false, res := some .after }
    else some { s with dpc := 5, flag := false }
  | _ => none

def finished (s : St) : Bool := s.spc == 3 && s.dpc == 5 && !s.chan

/-- all terminal outcomes of all interleavings (fuel 10 > 3 + 5 steps) -/
def explore (withView : Bool) : Nat → St → List Out
  | 0, _ => [.deadlock]
  | f + 1, s =>
    if finished s then [s.res.getD .deadlock]
    else
      match senderStep s, dropStep withView s with
      | none, none => [.deadlock]
      | a, b =>
        (match a with | some s' => explore withView f s' | none => []) ++
        (match b with | some s' => explore withView f s' | none => [])

/-- the same without the late sender: no `send` between the drain and the unblock -/
def exploreNoLate (withView : Bool) : Nat → St → List Out
  | 0, _ => [.deadlock]
  | f + 1, s =>
    if finished s then [s.res.getD .deadlock]
    else
      let a := if s.spc = 2 ∧ 2 ≤ s.dpc ∧ s.dpc < 5 then none else senderStep s
      match a, dropStep withView s with
      | none, none => if s.spc = 2 then [] else [.deadlock]   -- excluded schedule, not a deadlock
      | a, b =>
        (match a with | some s' => exploreNoLate withView f s' | none => []) ++
        (match b with | some s' => exploreNoLate withView f s' | none => [])

end Badger.C29Conc

namespace Badger
open C29Conc

/-- **DropAll**: in every interleaving the commit is rejected, or applied entirely before the
    drop, or entirely after it; all three happen. -/
theorem C29_conc_dropAll :
    (∀ o ∈ explore false 10 {}, o = .rejected ∨ o = .before ∨ o = .after) ∧
    Out.rejected ∈ explore false 10 {} ∧ Out.before ∈ explore false 10 {} ∧
    Out.after ∈ explore false 10 {} := by decide +kernel

/-- **DropPrefix**: the same three outcomes, plus the deadlock of the late sender (F38b). -/
theorem C29_conc_dropPrefix :
    (∀ o ∈ explore true 10 {}, o = .rejected ∨ o = .before ∨ o = .after ∨ o = .deadlock) ∧
    Out.rejected ∈ explore true 10 {} ∧ Out.before ∈ explore true 10 {} ∧
    Out.after ∈ explore true 10 {} := by decide +kernel

/-- the deadlock is reachable with DropPrefix (the real code hangs on this schedule) -/
theorem C29_conc_late_sender_deadlock : Out.deadlock ∈ explore true 10 {} := by decide +kernel

/-- the deadlock needs a send between the drain and the unblock: without it every
    interleaving ends rejected / before / after, for DropPrefix as well. -/
theorem C29_conc_dropPrefix_no_late_sender :
    ∀ o ∈ exploreNoLate true 10 {}, o = .rejected ∨ o = .before ∨ o = .after := by decide +kernel

end Badger

namespace Badger.C29Conc

/-- what survives of a transaction with keys `ks` (`true` = under the dropped prefix) -/
def survivors (o : Out) (ks : List (Bytes × Bool)) : List (Bytes × Bool) :=
  match o with
  | .rejected => []
  | .before => ks.filter (fun k => !k.2)
  | .after => ks
  | .deadlock => []

end Badger.C29Conc

namespace Badger
open C29Conc

/-- **never a mix**: of the keys under the dropped prefix either none survives or all do, and
    when the commit was applied (before or after the drop) every key outside the prefix survives. -/
theorem C29_conc_atomic (o : Out) (ks : List (Bytes × Bool)) :
    ((survivors o ks).filter (·.2) = [] ∨ (survivors o ks).filter (·.2) = ks.filter (·.2)) ∧
    (o = .before ∨ o = .after → (survivors o ks).filter (fun k => !k.2) = ks.filter (fun k => !k.2)) := by
  cases o
  · exact ⟨.inl rfl, nofun⟩
  · refine ⟨.inl ?_, fun _ => ?_⟩
    · exact List.filter_eq_nil_iff.mpr (fun k hk => by simpa using (List.mem_filter.mp hk).2)
    · simp only [survivors, List.filter_filter, Bool.and_self]
  · exact ⟨.inr rfl, fun _ => rfl⟩
  · exact ⟨.inl rfl, nofun⟩

end Badger
