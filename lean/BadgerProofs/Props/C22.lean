import BadgerProofs.Lemmas.SkipList
import BadgerProofs.Props.C21
import BadgerProofs.Lemmas.Lists
/-!
# C22 — the memtable skiplist behaves as a sorted map (sequential half)

Model: `BadgerModel/Skiplist.lean` (`skl/skl.go`: `Put`, `findSpliceForLevel`, `findNear`,
`findLast`, `Get`, `Iterator`, `UniIterator`; tower structure = one key chain per level).
Spec: `sortedInsert` / `sortedInsertAll` (sorted association list under `compareKeys` with
insert-or-replace), `lowerBound / upperBound / lastLE / lastLT`.

Everything is for every sequence of `Put`s with every choice of tower heights in `1 … maxHeight`.

The concurrent half (CAS interleavings) is in `C22Conc.lean` and `C22ConcNP.lean`; what of it is
proved and what is not is said in props/C22.json `partial`.
-/
namespace Badger
open Skiplist

/-- **Invariant**: `NewSkiplist` satisfies it and every `Put` (any key, value, tower height
    `1 ≤ h ≤ maxHeight`) completes without a failed assertion and preserves it. -/
theorem C22_seq_inv :
    Inv Skiplist.empty ∧
    ∀ (s : Skiplist) (key v : Bytes) (h : Nat), Inv s → 1 ≤ h → h ≤ sklMaxHeight →
      ∃ s', s.put key v h = some s' ∧ Inv s' := by
  refine ⟨inv_empty, ?_⟩
  intro s key v h hi _ h2
  obtain ⟨s', e, _, hcase⟩ := put_spec s hi key v h
  refine ⟨s', e, ?_⟩
  rcases hcase with ⟨_, hh, hl⟩ | ⟨hk0, hh, hl⟩
  · exact ⟨hh ▸ hi.height_pos, hh ▸ hi.height_le, fun i => hl i ▸ hi.sorted i,
      fun i => by rw [hl, hl]; exact hi.sublist i,
      fun i hle => by rw [hl]; exact hi.above i (hh ▸ hle)⟩
  · have hk : ∀ j, key ∉ s.level j := fun j hm => hk0 (hi.mem0 hm)
    refine ⟨?_, ?_, ?_, ?_, ?_⟩
    · exact hh ▸ Nat.le_trans hi.height_pos (Nat.le_max_left _ _)
    · exact hh ▸ Nat.max_le.mpr ⟨hi.height_le, h2⟩
    · intro i; rw [hl]; split
      · exact kSorted_kIns (hi.sorted i)
      · exact hi.sorted i
    · intro i; rw [hl, hl]
      by_cases c1 : i + 1 < h
      · rw [if_pos c1, if_pos (Nat.lt_of_succ_lt c1)]
        exact kIns_sublist (hi.sublist i)
      · rw [if_neg c1]
        by_cases c2 : i < h
        · rw [if_pos c2]; exact (hi.sublist i).trans (sublist_kIns (hi.sorted i) (hk i))
        · rw [if_neg c2]; exact hi.sublist i
    · intro i hle
      rw [hh] at hle
      rw [hl, if_neg (Nat.not_lt.mpr (Nat.le_trans (Nat.le_max_right _ _) hle))]
      exact hi.above i (Nat.le_trans (Nat.le_max_left _ _) hle)

theorem C22_seq_inv_unfold (s : Skiplist) (hi : Inv s) :
    1 ≤ s.height ∧ s.height ≤ sklMaxHeight ∧
    (∀ i, (s.level i).Pairwise (fun a b => compareKeys a b = .lt)) ∧
    (∀ i, (s.level (i + 1)).Sublist (s.level i)) ∧
    (∀ i, s.height ≤ i → s.level i = []) :=
  ⟨hi.height_pos, hi.height_le, hi.sorted, hi.sublist, hi.above⟩

theorem C22_seq_put (s : Skiplist) (hi : Inv s) (key v : Bytes) (h : Nat) (h1 : 1 ≤ h)
    (s' : Skiplist) (hput : s.put key v h = some s') :
    s'.toList = sortedInsert key v s.toList := by
  obtain ⟨s'', e, hv, hcase⟩ := put_spec s hi key v h
  rw [e] at hput
  injection hput with hput
  subst hput
  -- present or not, afterwards `key` sits between the smaller and the greater keys
  have hnew : s''.level 0 = kIns key (s.level 0) := by
    rcases hcase with ⟨hm, _, hl⟩ | ⟨_, _, hl⟩
    · rw [hl 0, kIns_of_mem (hi.sorted 0) hm]
    · rw [hl 0, if_pos (show 0 < h from h1)]
  have hval := valueOf_of_vals hv
  have hne : ∀ k, k ≠ key → (⟨k, s''.valueOf k⟩ : ItEntry) = ⟨k, s.valueOf k⟩ :=
    fun k hk => by rw [hval k, if_neg hk]
  unfold toList
  rw [hnew, sortedInsert_kIns s.valueOf key v (hi.sorted 0), kIns, List.map_append, List.map_cons,
    hval key, if_pos rfl,
    List.map_congr_left fun k hk => hne k (ck_ne_of_gt (mem_kLo.mp hk).2).symm,
    List.map_congr_left (l := kHi _ _) fun k hk =>
      hne k (compareKeys_total.ne_of_lt (mem_kHi.mp hk).2).symm]

/-- value slots are immutable: a `Put` adds exactly one fresh slot in front of `vals` (the arena's
    value slots) and leaves every existing slot as it is -/
theorem C22_seq_value_immutable (s : Skiplist) (hi : Inv s) (key v : Bytes) (h : Nat) (h1 : 1 ≤ h)
    (s' : Skiplist) (hput : s.put key v h = some s') : s'.vals = (key, v) :: s.vals := by
  obtain ⟨s'', e, hv, _⟩ := put_spec s hi key v h
  rw [e] at hput
  injection hput with hput
  subst hput
  exact hv

theorem putAll_spec (s : Skiplist) (hi : Inv s) (ops : List (Bytes × Bytes × Nat))
    (hh : ∀ o ∈ ops, 1 ≤ o.2.2 ∧ o.2.2 ≤ sklMaxHeight) :
    ∃ s', s.putAll ops = some s' ∧ Inv s' ∧
      s'.toList = (ops.map (fun o => (o.1, o.2.1))).foldl (fun acc p => sortedInsert p.1 p.2 acc)
        s.toList := by
  induction ops generalizing s with
  | nil => exact ⟨s, rfl, hi, rfl⟩
  | cons o ops ih =>
    obtain ⟨k, v, h⟩ := o
    have ho := hh (k, v, h) (by simp)
    obtain ⟨s1, e1, hi1⟩ := C22_seq_inv.2 s k v h hi ho.1 ho.2
    obtain ⟨s', e2, hi2, ht⟩ := ih s1 hi1 (fun o h => hh o (List.mem_cons_of_mem _ h))
    refine ⟨s', by simp [putAll, e1, e2], hi2, ?_⟩
    rw [ht, C22_seq_put s hi k v h ho.1 s1 e1]
    rfl

/-- **Sorted map**: after any sequence of puts, with any tower heights, the level-0 chain
    (keys with their current values) is `sortedInsertAll` of the puts. -/
theorem C22_seq_toList (ops : List (Bytes × Bytes × Nat))
    (hh : ∀ o ∈ ops, 1 ≤ o.2.2 ∧ o.2.2 ≤ sklMaxHeight) :
    ∃ s, Skiplist.empty.putAll ops = some s ∧ Inv s ∧
      s.toList = sortedInsertAll (ops.map (fun o => (o.1, o.2.1))) := by
  obtain ⟨s, e, hi, ht⟩ := putAll_spec Skiplist.empty inv_empty ops hh
  exact ⟨s, e, hi, ht⟩

/-- **findNear**: `(less, allowEqual)` = `(false,true)`: first key `≥ key`; `(false,false)`:
    first `> key`; `(true,true)`: last `≤ key`; `(true,false)`: last `< key`; `nil` when there
    is none.  The flag is true iff `allowEqual` and `key` itself is in the list. -/
theorem C22_seq_findNear (s : Skiplist) (hi : Inv s) (key : Bytes) (less allowEqual : Bool) :
    s.findNear key less allowEqual =
      (refOfOpt (nearSpec (s.toList.map ItEntry.key) key less allowEqual),
        allowEqual && (s.toList.map ItEntry.key).contains key) := by
  rw [s.keys_toList]
  exact findNear_spec s hi key less allowEqual

/-- **Get**: the first entry with internal key `≥ key` if it has the same user key (that is
    the newest version `≤` the version encoded in `key`), with `Version = ParseTs` of the
    found key; otherwise the zero `ValueStruct`. -/
theorem C22_seq_get (s : Skiplist) (hi : Inv s) (key : Bytes) :
    s.get key =
      match s.toList.find? (fun e => compareKeys key e.key != .gt) with
      | some e => if sameKey key e.key then (e.val, parseTs e.key) else (Skiplist.emptyValue, 0)
      | none => (Skiplist.emptyValue, 0) := by
  unfold Skiplist.get
  rw [findNear_spec s hi key false true, Skiplist.toList, List.find?_map]
  simp only [nearResult, nearSpec, lowerBound, Function.comp_def]
  cases (s.level 0).find? (fun k => compareKeys key k != .gt) <;> rfl

theorem sortedBy_toList (s : Skiplist) (hi : Inv s) : SortedBy compareKeys s.toList := by
  unfold SortedBy Skiplist.toList
  rw [List.pairwise_map]
  exact hi.sorted 0

theorem Skiplist.keysOf_dirList (s : Skiplist) (rev : Bool) :
    keysOf (dirList rev s.toList) = if rev then (s.level 0).reverse else s.level 0 := by
  cases rev
  · exact s.keys_toList
  · exact List.map_reverse.trans (congrArg List.reverse s.keys_toList)

/-! A `UniIterator` stands on the first of the keys still to come: the three facts that depend on
    the direction. -/

theorem uniRewind_eq (s : Skiplist) (hi : Inv s) (rev : Bool) :
    s.uniRewind rev = refOfList (keysOf (dirList rev s.toList)) := by
  rw [s.keysOf_dirList]
  cases rev
  · rfl
  · exact (findLastFrom_spec s hi _ .head (.inl rfl)).trans (refOfList_reverse _).symm

/-- in either direction `lowerBound`/`lastLE` of a chain satisfying `Inv` is the first key in
    iteration order that is not before `k` -/
theorem uniSeek_eq (s : Skiplist) (hi : Inv s) (rev : Bool) (k : Bytes) :
    s.uniSeek rev k =
      refOfList ((keysOf (dirList rev s.toList)).dropWhile (fun x => dcmp rev x k == .lt)) := by
  rw [← refOfOpt_head?, head?_dropWhile, s.keysOf_dirList]
  cases rev
  · rw [dcmp_false]
    refine (congrArg Prod.fst (findNear_spec s hi k false true)).trans ?_
    refine congrArg (fun p => refOfOpt ((s.level 0).find? p)) (funext fun x => ?_)
    show (compareKeys k x != .gt) = !(compareKeys x k == .lt)
    rw [← compareKeys_total.swap x k]
    cases compareKeys x k <;> rfl
  · rw [dcmp_true]
    exact (congrArg Prod.fst (findNear_spec s hi k true true)).trans
      (congrArg refOfOpt List.getLast?_filter)

theorem uniNext_eq (s : Skiplist) (hi : Inv s) (rev : Bool) {done todo : List Bytes} {k : Bytes}
    (hc : keysOf (dirList rev s.toList) = done ++ k :: todo) :
    s.uniNext rev (.node k) = some (refOfList todo) := by
  rw [s.keysOf_dirList] at hc
  cases rev
  · have hc : s.level 0 = done ++ k :: todo := hc
    show some (s.getNext (.node k) 0) = _
    rw [getNext, hc, after_sorted (hc ▸ hi.sorted 0)]
  · have hc : s.level 0 = todo.reverse ++ ([k] ++ done.reverse) := by
      rw [← List.reverse_reverse (s.level 0), show (s.level 0).reverse = _ from hc]
      simp
    have hs : KSorted (todo.reverse ++ k :: done.reverse) := hc ▸ hi.sorted 0
    show some (s.findNear k true false).1 = _
    rw [findNear_spec s hi, nearResult_decomp (n := 1) hc hs.around.1 hs.around.2, ← refOfList_reverse,
      List.reverse_reverse]

def uniSpec (s : Skiplist) (hi : Inv s) (rev : Bool) :
    IterSpec (uniOps s rev) (dcmp rev) (dirList rev s.toList) where
  R n L := n = refOfList (keysOf L) ∧ L <:+ dirList rev s.toList
  sorted_all := sortedBy_dirList.mpr (sortedBy_toList s hi)
  R_sorted h := (sortedBy_dirList.mpr (sortedBy_toList s hi)).sublist h.2.sublist
  rewind _ := ⟨uniRewind_eq s hi rev, List.suffix_refl _⟩
  seek k _ := by
    refine ⟨?_, List.dropWhile_suffix _⟩
    show s.uniSeek rev k = _
    rw [uniSeek_eq s hi rev k, keysOf, keysOf, List.dropWhile_map]
    rfl
  next := by
    rintro _ e L ⟨rfl, done, h⟩
    refine ⟨?_, (List.suffix_cons e L).trans ⟨done, h⟩⟩
    show (s.uniNext rev (.node e.key)).getD _ = _
    rw [uniNext_eq s hi rev (done := keysOf done) (todo := keysOf L)
      (by rw [← h, keysOf_append, keysOf_cons])]
    rfl
  next_nil := by
    rintro _ ⟨rfl, h⟩
    exact ⟨by cases rev <;> rfl, h⟩
  valid := by
    rintro _ L ⟨rfl, _⟩
    show isNode _ = _
    rw [isNode_refOfList, keysOf, List.isEmpty_map]
  key := by
    rintro _ e L ⟨rfl, _⟩
    rfl
  value := by
    rintro _ e L ⟨rfl, h⟩
    obtain ⟨k, _, rfl⟩ := List.mem_map.mp (mem_dirList (h.subset List.mem_cons_self))
    rfl

/-- **UniIterator is a cursor**: a fresh `NewUniIterator(reversed)` on a skiplist satisfying
    the invariant (and not modified during the iteration) satisfies the leaf assumption of
    C21 for the list `toList` (reversed for a reversed iterator). -/
theorem C22_seq_uni_cursor (s : Skiplist) (hi : Inv s) (reversed : Bool) :
    Sat (dcmp reversed) (s.uniIter reversed) (dirList reversed s.toList) :=
  ⟨uniSpec s hi reversed, rfl, List.nil_suffix⟩

theorem uniCollect_eq (s : Skiplist) (n : Nat) (x : SkRef) :
    s.collectFwd n x = (uniOps s false).collect n x ∧
      s.collectRev n x = (uniOps s true).collect n x := by
  induction n generalizing x with
  | zero => cases x <;> exact ⟨rfl, rfl⟩
  | succ n ih =>
    cases x with
    | node k => simp only [collectFwd, collectRev, IterOps.collect, ih]; exact ⟨rfl, rfl⟩
    | _ => exact ⟨rfl, rfl⟩

/-- **Forward iteration**: `SeekToFirst` then `Next` enumerates `toList`; `Seek(target)` then
    `Next` enumerates the entries with key `≥ target`. -/
theorem C22_seq_iter_fwd (s : Skiplist) (hi : Inv s) (n : Nat) :
    s.collectFwd n s.seekToFirst = s.toList.take n ∧
    ∀ target, s.collectFwd n (s.seek target) =
      (s.toList.dropWhile (fun e => compareKeys e.key target == .lt)).take n := by
  have h := C22_seq_uni_cursor s hi false
  rw [dirList, if_neg Bool.false_ne_true, dcmp_false] at h
  exact ⟨(uniCollect_eq s n _).1.trans (h.rewind_collect [] n),
    fun target => (uniCollect_eq s n _).1.trans (h.seek_collect [] target n)⟩

/-- **Reverse iteration**: `SeekToLast` then `Prev` enumerates `toList` backwards;
    `SeekForPrev(target)` then `Prev` enumerates the entries with key `≤ target` backwards. -/
theorem C22_seq_iter_rev (s : Skiplist) (hi : Inv s) (n : Nat) :
    s.collectRev n s.seekToLast = s.toList.reverse.take n ∧
    ∀ target, s.collectRev n (s.seekForPrev target) =
      (s.toList.reverse.dropWhile (fun e => compareKeys e.key target == .gt)).take n := by
  have h := C22_seq_uni_cursor s hi true
  refine ⟨(uniCollect_eq s n _).2.trans (h.rewind_collect [] n), fun target => ?_⟩
  simp only [← dcmp_true_lt]
  exact (uniCollect_eq s n _).2.trans (h.seek_collect [] target n)

/-- C21 ∘ C22: a `MergeIterator` over the `UniIterator`s of any number of skiplists (newest
    first) iterates `mergeSpec` of their contents — the memtable part of badger's read path. -/
theorem C22_merge_of_skiplists (lists : List Skiplist) (hne : lists ≠ [])
    (hinv : ∀ s ∈ lists, Inv s) (reversed : Bool) :
    ∃ it, newMergeIterator (lists.map (fun s => s.uniIter reversed)) reversed = some it ∧
      ∀ (hist : List IterOp) (n : Nat),
        ((it.run hist).rewind).collect n =
          (dirList reversed (mergeSpec (lists.map Skiplist.toList))).take n := by
  obtain ⟨it, hit, hsat⟩ := merge_map_sat reversed lists (fun s => s.uniIter reversed)
    Skiplist.toList hne fun s hs => C22_seq_uni_cursor s (hinv s hs) reversed
  exact ⟨it, hit, hsat.rewind_collect⟩

section Examples
private def k (c : UInt8) (ts : Nat) : Bytes := keyWithTs [c] ts

private def demoOps : List (Bytes × Bytes × Nat) :=
  [(k 0x62 5, [0, 0, 0, 1], 2), (k 0x61 5, [0, 0, 0, 2], 1), (k 0x62 7, [0, 0, 0, 3], 4),
   (k 0x61 5, [0, 0, 0, 4], 3), (k 0x63 1, [0, 0, 0, 5], 1)]

-- non-vacuity: towers of different heights, an overwrite, and what Get/findNear/iterators answer
example : (Skiplist.empty.putAll demoOps).map (fun s => s.toList) =
    some [⟨k 0x61 5, [0, 0, 0, 4]⟩, ⟨k 0x62 7, [0, 0, 0, 3]⟩, ⟨k 0x62 5, [0, 0, 0, 1]⟩,
          ⟨k 0x63 1, [0, 0, 0, 5]⟩] := by decide +kernel

example : (Skiplist.empty.putAll demoOps).map (fun s => (s.height, s.level 1, s.level 3)) =
    some (4, [k 0x62 7, k 0x62 5], [k 0x62 7]) := by decide +kernel

example : (Skiplist.empty.putAll demoOps).map (fun s => s.get (k 0x62 6)) =
    some ([0, 0, 0, 1], 5) := by decide +kernel

example : (Skiplist.empty.putAll demoOps).map (fun s => (s.findNear (k 0x62 6) true false).1) =
    some (.node (k 0x62 7)) := by decide +kernel

-- the hypotheses of the theorems above (`Inv s`, heights in range) hold for this instance
example : ∃ s, Skiplist.empty.putAll demoOps = some s ∧ Inv s ∧ s.toList.length = 4 := by
  obtain ⟨s, e, hi, ht⟩ := C22_seq_toList demoOps (by decide +kernel)
  refine ⟨s, e, hi, ?_⟩
  rw [ht]
  decide +kernel
end Examples

end Badger
