import BadgerProofs.Props.C22Conc
/-!
# C22, concurrent half: no assertion of `Put` fails, and which value wins

`SkipConc` has an explicit `Pc.panic` state for the three `y.AssertTrue`s of `Put`
(`i > 1` when `prev[i] == nil`; `prev[i] != next[i]` above the old list height;
`i == 0` when the key shows up after a failed CAS).  Here: `Pc.panic` is unreachable under
every schedule (`C22_conc_no_assert_fails`).

The argument: (1) `prev[i]`/`next[i]` are recorded for all levels `≤ listHeight ≥ 1`, so
`prev[i] == nil` implies `i ≥ 2`; (2) a key is on a level `≥ 1` only through the goroutine that
linked it on level 0 — at most one goroutine per key is ever past its level-0 CAS (a second one
would have had to CAS the key in between two adjacent nodes of a sorted chain that already
contains it) — so a goroutine working on level `i ≥ 1` never finds its own key there.

Values (`C22_conc_step_value`, `C22_conc_value_of_put`): every atomic step either leaves every
node's value alone or is the publishing access (`setValue`, or the level-0 CAS) of one `Put` and
makes that `Put`'s value the value of its key; so the value of a key is always the value of the
last publishing access on it in the schedule, and it is the value of one of the `Put`s.
-/
namespace Badger
namespace SkipConc
open Skiplist

/-- `prev[j]`/`next[j]` have been computed -/
def hasSpl (l : PutLocal) (j : Nat) : Prop := lookupSpl l.spl j ≠ none

/-- past the level-0 CAS: working on a level `≥ 1` -/
def isUpper : Pc → Prop
  | .link i => 1 ≤ i
  | .cas i => 1 ≤ i
  | .linkScan i _ _ => 1 ≤ i
  | _ => False

/-- the goroutine's key is on no level `≥ i` (claimed only for `i ≥ 1`) -/
def AbsentFrom (s : Skiplist) (key : Bytes) (i : Nat) : Prop :=
  1 ≤ i → ∀ i', i ≤ i' → key ∉ s.level i'

/-- splices are recorded for all levels `≤ lh`, and `lh ≥ 1` -/
def Spl (l : PutLocal) : Prop := 1 ≤ l.lh ∧ ∀ j, j ≤ l.lh → hasSpl l j

/-- what rules out the three assertions at each program point -/
def PcNP (s : Skiplist) (l : PutLocal) : Prop :=
  match l.pc with
  | .scan i _ => 1 ≤ l.lh ∧ i < l.lh ∧ ∀ j, i < j → j ≤ l.lh → hasSpl l j
  | .loadH => Spl l
  | .casH seen => Spl l ∧ seen < l.h
  | .link i => Spl l ∧ AbsentFrom s l.key i
  | .cas i => hasSpl l i ∧ Spl l ∧ AbsentFrom s l.key i
  | .linkScan i _ retry => Spl l ∧ (retry = false → 1 < i) ∧ AbsentFrom s l.key i
  | .panic => False
  | _ => True

theorem Effect.height_pos {s s' : Skiplist} {l : PutLocal} (he : Effect s l s') (hh : 1 ≤ s.height)
    (hn : PcNP s l) : 1 ≤ s'.height := by
  cases he with
  | none | setValue => exact hh
  | height hpc =>
    unfold PcNP at hn
    rw [hpc] at hn
    exact Nat.lt_of_le_of_lt (Nat.zero_le _) hn.2
  | link =>
    split <;> exact hh

/-- the step keeps what rules out the assertions, and a goroutine gets past its level-0 CAS only
    by linking its key, which was not in the list -/
theorem stepPut_np (s : Skiplist) (l : PutLocal)
    (hsorted : ∀ i, KSorted (s.level i)) (hsub : ∀ i k, k ∈ s.level (i + 1) → k ∈ s.level i)
    (hl : LocalOK s l) (hh : 1 ≤ s.height) (hn : PcNP s l) :
    PcNP (stepPut s l).1 (stepPut s l).2 ∧
    (isUpper (stepPut s l).2.pc → isUpper l.pc ∨ (l.pc = .cas 0 ∧ l.key ∉ s.level 0)) := by
  obtain ⟨hspl, hpc⟩ := hl
  obtain ⟨key, v, h, pc, lh, spl⟩ := l
  fun_cases stepPut s ⟨key, v, h, pc, lh, spl⟩ with
  | case1 e =>  -- start
    refine ⟨?_, ?_⟩
    · show PcNP s ⟨key, v, h, if s.height = 0 then .loadH else .scan (s.height - 1) .head, _, _⟩
      rw [if_neg (Nat.ne_of_gt hh)]
      refine ⟨hh, Nat.sub_lt hh Nat.one_pos, ?_⟩
      intro j h1 (h2 : j ≤ s.height)
      exact lookupSpl_cons_ne_none (.inl (Nat.le_antisymm (Nat.le_of_pred_lt h1) h2))
    · show isUpper (if s.height = 0 then .loadH else .scan (s.height - 1) .head) → _
      rw [if_neg (Nat.ne_of_gt hh)]
      exact False.elim
  | case2 i b e nk hsc => cases e; exact ⟨hn, False.elim⟩  -- scan, move right
  | case4 i b e p n hsc =>  -- scan, splice found
    cases e
    cases i with
    | zero =>
      refine ⟨⟨hn.1, fun j hj => lookupSpl_cons_ne_none ?_⟩, False.elim⟩
      exact (Nat.eq_zero_or_pos j).imp Eq.symm (hn.2.2 j · hj)
    | succ i =>
      refine ⟨⟨hn.1, Nat.lt_of_succ_lt hn.2.1, fun j h1 h2 => lookupSpl_cons_ne_none ?_⟩, False.elim⟩
      exact (Nat.eq_or_lt_of_le h1).imp id (hn.2.2 j · h2)
  | case6 e hgt => cases e; exact ⟨⟨hn, hgt⟩, False.elim⟩  -- loadH, h above the height
  | case7 e hgt =>  -- loadH, h not above
    cases e
    exact ⟨⟨hn, fun h0 => absurd h0 (Nat.not_succ_le_zero 0)⟩, fun hu => absurd hu (Nat.not_succ_le_zero 0)⟩
  | case8 e =>  -- casH, success
    cases e
    exact ⟨⟨hn.1, fun h0 => absurd h0 (Nat.not_succ_le_zero 0)⟩, fun hu => absurd hu (Nat.not_succ_le_zero 0)⟩
  | case9 seen e hne => cases e; exact ⟨hn.1, False.elim⟩  -- casH, failure
  | case11 i e hge pn hlk =>  -- link, splice known
    cases e
    exact ⟨⟨fun e => Option.some_ne_none _ (hlk.symm.trans e), hn⟩, .inl⟩
  | case12 i e hge hlk h1 => cases e; exact ⟨⟨hn.1, fun _ => h1, hn.2⟩, .inl⟩  -- link, search from the head
  | case13 i e hge hlk h1 =>  -- link, assertion i > 1
    -- `prev[i] == nil` with `i ≤ 1` cannot be: splices are recorded for all levels `≤ lh`
    cases e
    exact absurd hlk (hn.1.2 i (Nat.le_trans (Nat.le_of_not_lt h1) hn.1.1))
  | case14 i b r e nk hsc => cases e; exact ⟨hn, .inl⟩  -- linkScan, move right
  | case3 | case5 | case10 | case15 => exact ⟨trivial, False.elim⟩  -- on to setval or done
  | case16 i b r e nk hsc hr =>  -- linkScan, key found otherwise
    -- the key was found on level `i` although this is not a level-0 retry
    cases e
    have hs := scanStep_spec hpc.1 hsc
    exfalso
    cases i with
    | succ i => exact hn.2.2 (Nat.le_add_left 1 i) _ (Nat.le_refl _) hs.2
    | zero =>
      cases r with
      | false => exact absurd (hn.2.1 rfl) (Nat.not_lt_zero 1)
      | true => exact hr rfl
  | case17 i b r e p n hsc =>  -- linkScan, splice found
    cases e
    exact ⟨⟨lookupSpl_cons_ne_none (.inl rfl), ⟨hn.1.1, fun j hj =>
      lookupSpl_cons_ne_none (.inr (hn.1.2 j hj))⟩, hn.2.2⟩, .inl⟩
  | case18 i e hlk => cases e; exact absurd hlk hn.1  -- cas, no splice
  | case19 i e p nx hlk hcas =>  -- cas, success
    cases e
    obtain ⟨_, hmem, hnot⟩ := link_spec hsorted ⟨hspl, hpc⟩ hlk (beq_iff_eq.mp hcas)
    refine ⟨⟨hn.2.1, fun _ i' hi' hm => ?_⟩, fun _ => ?_⟩
    · have hm' := ((hmem i' key).mp hm).resolve_right fun h => Nat.ne_of_gt hi' h.1
      cases i with
      | succ i => exact hn.2.2 (Nat.le_add_left 1 i) i' (Nat.le_of_succ_le hi') hm'
      | zero => exact hnot (mem_level_zero hsub i' _ hm')
    · cases i with
      | succ i => exact .inl (Nat.succ_le_succ (Nat.zero_le i))
      | zero => exact .inr ⟨rfl, hnot⟩
  | case20 i e p nx hlk hcas => cases e; exact ⟨⟨hn.2.1, Bool.noConfusion, hn.2.2⟩, .inl⟩  -- cas, failure
  | case21 e => cases e; exact ⟨trivial, False.elim⟩  -- done
  | case22 e => cases e; exact hn.elim  -- panic

/-- at most one goroutine per key is past its level-0 CAS -/
def Uniq (c : CState) : Prop :=
  ∀ (a b : Nat) (la lb : PutLocal), a ≠ b → c.ts[a]? = some la → c.ts[b]? = some lb → la.key = lb.key →
    ¬ (isUpper la.pc ∧ isUpper lb.pc)

structure NPInv (c : CState) : Prop where
  inv : CInv c
  height : 1 ≤ c.s.height
  np : ∀ (b : Nat) (l : PutLocal), c.ts[b]? = some l → PcNP c.s l
  uniq : Uniq c

theorem upper_mem0 {s : Skiplist} {l : PutLocal} (h : LocalOK s l) (hu : isUpper l.pc) :
    l.key ∈ s.level 0 := by
  have hp := h.pc
  obtain ⟨key, v, h', pc, lh, spl⟩ := l
  cases pc with
  | link i | cas i => exact hp 0 hu
  | linkScan i b r => exact hp.2 0 hu
  | _ => exact hu.elim

/-- the facts about a goroutine survive a step of another goroutine that does not put the
    same key on an upper level -/
theorem PcNP.other {s s' : Skiplist} {l : PutLocal} (h : PcNP s l)
    (hkeep : isUpper l.pc → ∀ j, 1 ≤ j → l.key ∈ s'.level j → l.key ∈ s.level j) :
    PcNP s' l := by
  obtain ⟨key, v, h', pc, lh, spl⟩ := l
  have habs : ∀ {i}, isUpper pc = (1 ≤ i) → AbsentFrom s key i → AbsentFrom s' key i :=
    fun e ha hi i' hi' hm => ha hi i' hi' (hkeep (e ▸ hi) i' (Nat.le_trans hi hi') hm)
  cases pc with
  | link i => exact ⟨h.1, habs rfl h.2⟩
  | cas i | linkScan i b r => exact ⟨h.1, h.2.1, habs rfl h.2.2⟩
  | _ => exact h

theorem step_np (c : CState) (t : Nat) (hc : NPInv c) : NPInv (step c t) := by
  have hinv' := step_inv c t hc.inv
  unfold step at hinv' ⊢
  cases ht : c.ts[t]? with
  | none => exact hc
  | some l =>
    rw [ht] at hinv'
    simp only at hinv' ⊢
    have hlm : l ∈ c.ts := List.mem_of_getElem? ht
    have hlok := hc.inv.locals l hlm
    obtain ⟨h1, h4⟩ := stepPut_np c.s l hc.inv.sorted hc.inv.subset hlok hc.height (hc.np t l ht)
    have h3 := (stepPut_frame c.s l).2.1
    have h5 := ((stepPut_effect c.s l).inv hc.inv.sorted hc.inv.subset hlok).2.2.2
    refine ⟨hinv', (stepPut_effect c.s l).height_pos hc.height (hc.np t l ht), ?_, ?_⟩
    · intro b l2 hb
      rcases getElem?_set_cases hb with ⟨_, rfl, _⟩ | ⟨hbt, hb'⟩
      · exact h1
      · apply (hc.np b l2 hb').other
        intro hu j hj hm
        rcases h5 j _ hm with h | ⟨hk, hpc⟩
        · exact h
        · exfalso
          refine hc.uniq t b l l2 (fun e => hbt e.symm) ht hb' hk.symm ⟨?_, hu⟩
          rw [hpc]; exact hj
    · intro a b la lb hab ha hb hkey ⟨hua, hub⟩
      rcases getElem?_set_cases ha with ⟨rfl, rfl, _⟩ | ⟨hat, ha'⟩
      · rcases getElem?_set_cases hb with ⟨rfl, _, _⟩ | ⟨hbt, hb'⟩
        · exact hab rfl
        · rw [h3] at hkey
          rcases h4 hua with h | ⟨_, hnot⟩
          · exact hc.uniq a b l lb hab ht hb' hkey ⟨h, hub⟩
          · exact hnot (hkey ▸ upper_mem0 (hc.inv.locals lb (List.mem_of_getElem? hb')) hub)
      · rcases getElem?_set_cases hb with ⟨rfl, rfl, _⟩ | ⟨hbt, hb'⟩
        · rw [h3] at hkey
          rcases h4 hub with h | ⟨_, hnot⟩
          · exact hc.uniq a b la l hab ha' ht hkey ⟨hua, h⟩
          · exact hnot (hkey ▸ upper_mem0 (hc.inv.locals la (List.mem_of_getElem? ha')) hua)
        · exact hc.uniq a b la lb hab ha' hb' hkey ⟨hua, hub⟩

theorem init_np (puts : List (Bytes × Bytes × Nat)) : NPInv (initState puts) := by
  refine ⟨init_inv puts, by simp [initState, Skiplist.empty], ?_, ?_⟩
  · intro b l hb
    have hm := List.mem_of_getElem? hb
    simp only [initState, List.mem_map] at hm
    obtain ⟨p, _, rfl⟩ := hm
    unfold PcNP; trivial
  · intro a b la lb _ ha hb _ ⟨hua, _⟩
    have hm := List.mem_of_getElem? ha
    simp only [initState, List.mem_map] at hm
    obtain ⟨p, _, rfl⟩ := hm
    exact hua

theorem run_np (c : CState) (sched : List Nat) (hc : NPInv c) : NPInv (run c sched) :=
  run_induction step_np sched hc

end SkipConc

open SkipConc in
/-- **No assertion of `Put` fails under contention**: for any set of concurrent `Put`s and any
    interleaving of their atomic steps no goroutine ever reaches `Pc.panic`
    (`y.AssertTrue(i > 1)`, `y.AssertTrue(prev[i] != next[i])`,
    `y.AssertTruef(i == 0, "Equality can happen only on base level")`). -/
theorem C22_conc_no_assert_fails (puts : List (Bytes × Bytes × Nat)) (sched : List Nat) :
    ∀ l ∈ (run (initState puts) sched).ts, l.pc ≠ .panic := by
  intro l hl hp
  have hc := run_np _ sched (init_np puts)
  obtain ⟨b, hb⟩ := List.getElem?_of_mem hl
  have := hc.np b l hb
  unfold PcNP at this
  rw [hp] at this
  exact this

open SkipConc in
/-- … and of several racing `Put`s of the same key at most one is past its level-0 CAS at any
    time (no key is ever linked twice: `C22_conc_sorted`). -/
theorem C22_conc_single_owner (puts : List (Bytes × Bytes × Nat)) (sched : List Nat) :
    ∀ (a b : Nat) (la lb : PutLocal), a ≠ b → (run (initState puts) sched).ts[a]? = some la →
      (run (initState puts) sched).ts[b]? = some lb → la.key = lb.key →
      ¬ (isUpper la.pc ∧ isUpper lb.pc) :=
  (run_np _ sched (init_np puts)).uniq

namespace SkipConc

/-- the step is a publishing access: `setValue`, or a level-0 CAS that succeeds (no theorem is stated
    with it: `Effect.publish` and `C22_conc_step_value` list the two cases) -/
def publishes (s : Skiplist) (l : PutLocal) : Prop :=
  (stepPut s l).1.vals ≠ s.vals

/-- A step publishes nothing and puts no new key on level 0, or it is a publishing access of its
    `Put`: a fresh slot `(key, v)`, and no key other than `key` is new on level 0. -/
theorem Effect.publish {s s' : Skiplist} {l : PutLocal} (he : Effect s l s')
    (hsorted : ∀ i, KSorted (s.level i)) (hl : LocalOK s l) :
    (s'.vals = s.vals ∧ ∀ k ∈ s'.level 0, k ∈ s.level 0) ∨
    (s'.vals = (l.key, l.v) :: s.vals ∧ ∀ k ∈ s'.level 0, k ∈ s.level 0 ∨ k = l.key) := by
  cases he with
  | none | height => exact .inl ⟨rfl, fun _ h => h⟩
  | setValue hpc =>
    have hp := hl.pc
    unfold PcOK at hp
    rw [hpc] at hp
    exact .inr ⟨hp.1 ▸ rfl, fun _ h => .inl h⟩
  | @link i p nx hpc hlk hcas =>
    have hmem := (link_spec hsorted hl hlk hcas).2.1 0
    cases i with
    | zero => exact .inr ⟨rfl, fun k hk => ((hmem k).mp hk).imp id (·.2)⟩
    | succ i => exact .inl ⟨rfl, fun k hk => ((hmem k).mp hk).resolve_right fun h => nomatch h.1⟩

structure ValInv (puts : List (Bytes × Bytes × Nat)) (c : CState) : Prop where
  threads : ∀ l ∈ c.ts, ∃ p ∈ puts, l.key = p.1 ∧ l.v = p.2.1
  values : ∀ k ∈ c.s.level 0, ∃ p ∈ puts, p.1 = k ∧ c.s.valueOf k = p.2.1

theorem ValInv.step {puts : List (Bytes × Bytes × Nat)} {c : CState} (hc : CInv c)
    (hv : ValInv puts c) (t : Nat) : ValInv puts (step c t) := by
  unfold SkipConc.step
  cases ht : c.ts[t]? with
  | none => exact hv
  | some l =>
    have hlm := List.mem_of_getElem? ht
    obtain ⟨pl, hpl, hk, hvv⟩ := hv.threads l hlm
    have hkv := (stepPut_frame c.s l).2
    refine ⟨?_, fun k hk0 => ?_⟩
    · intro l' hl'
      rcases List.mem_or_eq_of_mem_set hl' with h | rfl
      · exact hv.threads l' h
      · exact ⟨pl, hpl, hkv.1 ▸ hk, hkv.2 ▸ hvv⟩
    · rcases (stepPut_effect c.s l).publish hc.sorted (hc.locals l hlm) with ⟨hvals, hmem⟩ | ⟨hvals, hmem⟩
      · obtain ⟨p, hp, h1, h2⟩ := hv.values k (hmem k hk0)
        exact ⟨p, hp, h1, (congrArg (fun vs => (vs.lookup k).getD Skiplist.emptyValue) hvals).trans h2⟩
      · show ∃ p ∈ puts, p.1 = k ∧ (stepPut c.s l).1.valueOf k = p.2.1
        rw [Skiplist.valueOf_of_vals hvals]
        by_cases e : k = l.key
        · rw [if_pos e]
          exact ⟨pl, hpl, (e.trans hk).symm, hvv⟩
        · rw [if_neg e]
          exact hv.values k ((hmem k hk0).resolve_right e)

theorem ValInv.init (puts : List (Bytes × Bytes × Nat)) : ValInv puts (initState puts) := by
  refine ⟨?_, fun k hk => nomatch hk⟩
  intro l hl
  obtain ⟨p, hp, rfl⟩ := List.mem_map.mp hl
  exact ⟨p, hp, rfl, rfl⟩

theorem ValInv.run {puts : List (Bytes × Bytes × Nat)} (sched : List Nat) {c : CState} (hc : CInv c)
    (hv : ValInv puts c) : ValInv puts (run c sched) :=
  (run_induction (P := fun c => CInv c ∧ ValInv puts c)
    (fun c t h => ⟨step_inv c t h.1, h.2.step h.1 t⟩) sched ⟨hc, hv⟩).2

end SkipConc

open SkipConc in
/-- **Last publishing access wins**: a step of goroutine `t` (executing `Put(key, v)`) either
    leaves the value of every key unchanged, or it is that `Put`'s publishing access and then
    `key` has value `v` and every other key keeps its value. -/
theorem C22_conc_step_value (c : CState) (hc : CInv c) (t : Nat) (l : PutLocal)
    (ht : c.ts[t]? = some l) :
    (∀ k, (step c t).s.valueOf k = c.s.valueOf k) ∨
    ((step c t).s.valueOf l.key = l.v ∧ ∀ k, k ≠ l.key → (step c t).s.valueOf k = c.s.valueOf k) := by
  have hlok := hc.locals l (List.mem_of_getElem? ht)
  have hv : (step c t).s.vals = (stepPut c.s l).1.vals := by unfold step; rw [ht]
  rcases (stepPut_effect c.s l).publish hc.sorted hlok with ⟨h, _⟩ | ⟨h, _⟩
  · left; intro k; unfold Skiplist.valueOf; rw [hv, h]
  · have hval := Skiplist.valueOf_of_vals (hv.trans h)
    exact .inr ⟨by rw [hval, if_pos rfl], fun k hk => by rw [hval, if_neg hk]⟩

open SkipConc in
/-- **The value of a key is the value of one of the `Put`s of that key**, in every reachable
    state, for every key that is in the list. -/
theorem C22_conc_value_of_put (puts : List (Bytes × Bytes × Nat)) (sched : List Nat) :
    ∀ k ∈ (run (initState puts) sched).s.level 0,
      ∃ p ∈ puts, p.1 = k ∧ (run (initState puts) sched).s.valueOf k = p.2.1 :=
  (ValInv.run (puts := puts) sched (init_inv puts) (ValInv.init puts)).values

end Badger
