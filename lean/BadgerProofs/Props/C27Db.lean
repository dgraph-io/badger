import BadgerProofs.Props.C27
import BadgerProofs.Lemmas.Txn
/-!
# C27 — the buffer theorems carried over to the database model `Db` of `Mvcc.lean`

The driver runs `wbHandleEntry` / `wbCommit` / `wbFlush` (BadgerModel/Batch.lean), which are
`Db.modify` and `Db.commit` on the batch's current internal transaction. One internal transaction
of that concrete machine *is* the buffer of `C27.lean`: an accepted `Txn.modify` is `Buf.add` on
`(pendingWrites, duplicateWrites)`, and a commit that reaches the write path applies `Buf.emit`,
finalised by `finEnt` (version resolution, `bitTxn`, value-pointer bit), to the memtable.
-/
namespace Badger

def TxnM.buf (t : TxnM) : Buf := { pending := t.pending, dups := t.dups }

theorem finEnt_resolves (d : Db) (keep : Bool) (cts : Nat) : Resolves cts (finEnt d keep cts) :=
  ⟨finEnt_key d keep cts, fun e => by rw [finEnt_eq, lsmForm_eq]; rfl⟩

/-- an accepted `Txn.modify` is `Buf.add`; the LSM is untouched -/
theorem C27_modify_refines {d : Db} {id : Nat} {t : TxnM} (e : Ent) (h : d.findTxn id = some t)
    (hok : (d.modify id e).2 = none) :
    ∃ t', (d.modify id e).1.findTxn id = some t' ∧ t'.buf = t.buf.add e ∧
      (d.modify id e).1.lsm = d.lsm := by
  obtain ⟨hmod, hfind⟩ := modify_accepted e h hok
  rw [hmod]
  exact ⟨modTxn d t e, hfind, rfl, rfl⟩

theorem C27_modify_refused {d : Db} {id : Nat} {t : TxnM} (e : Ent) (h : d.findTxn id = some t)
    (err : ModErr) (hr : (d.modify id e).2 = some err) : (d.modify id e).1 = d :=
  modify_refused e hr

theorem C27_commit_refines {d : Db} {id : Nat} {t : TxnM} (mts : Nat) (h : d.findTxn id = some t)
    (hg : commitGoes d t mts = true) :
    (d.commit id mts).1.lsm.mem =
      applyWrites d.lsm.mem (t.buf.emit.map (finEnt d (keepTogetherOf t) (commitTsOf d mts))) := by
  rw [(commit_goes mts h hg).lsm]
  rfl

/-- **one internal transaction of the concrete machine**: the transaction received exactly the
    operations `ops` (its buffer is `Buf.addAll {} ops` — by `C27_modify_refines` that is what
    a sequence of accepted `modify` calls produces) and the commit reaches the write path: then
    every read of the memtable equals the read after applying the issued operations one by one,
    in issue order (later ones winning). No side condition. -/
theorem C27_commit_last_wins {d : Db} {id : Nat} {t : TxnM} (mts : Nat) (ops : List Ent)
    (h : d.findTxn id = some t) (hg : commitGoes d t mts = true) (hb : t.buf = Buf.addAll {} ops)
    (k : Bytes) (ts : Nat) :
    newestLE (d.commit id mts).1.lsm.mem k ts =
      newestLE (applyWrites d.lsm.mem (ops.map (finEnt d (keepTogetherOf t) (commitTsOf d mts)))) k ts := by
  rw [C27_commit_refines mts h hg, hb]
  exact applyWrites_read_congr (C27_buf_last_wins (finEnt_resolves d _ _) ops k ts) _

end Badger
