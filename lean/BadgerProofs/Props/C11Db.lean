import BadgerProofs.Props.C01Db
/-!
# C11 at database level: timestamps after a re-open lie above every stored version

`Db.closeOpen` is the model of `Close` + `Open` (`BadgerModel/Reopen.lean`, replayed against the
implementation by the `reopen` op of the mvcc engine).  The first theorem needs no hypothesis on
the state at all; the second one is about every history of `DbReach` (every step, re-opens
included; from the invariant `DbL.Inv`, not from the first theorem): at every reachable state the next commit timestamp is above every version stored in any
table or the memtable, and so is the version of every entry a commit writes.
-/
namespace Badger

/-- **C11, one re-open**: whatever the state before `Close`, after `Open` the next transaction
    timestamp is above every version stored anywhere in the tree. -/
theorem C11_db_next_above_stored (d : Db) :
    ∀ e ∈ d.closeOpen.lsm.allEntries, e.ver < d.closeOpen.nextTs := by
  intro e he
  show e.ver < d.closeOpen.lsm.allEntries.foldl (fun m e => max m e.ver) 0 + 1
  exact Nat.lt_succ_of_le ((foldl_max_ge (·.ver) d.closeOpen.lsm.allEntries 0).2 e he)

/-- **C11 over every history** (normal mode; any number of re-opens anywhere in the history): the
    next timestamp is above every stored version, and every entry a commit writes has a version
    above every stored version. -/
theorem C11_db_commit_above_stored {o : Opts} {hist : List Ent} {d : Db} (hm : o.managed = false)
    (r : DbReach o hist d) :
    (∀ e ∈ d.lsm.allEntries, e.ver < d.nextTs) ∧
    ∀ id, ∀ w ∈ d.commitHist id, ∀ e ∈ d.lsm.allEntries, e.ver < w.ver := by
  have hs : ∀ e ∈ d.lsm.allEntries, e.ver < d.nextTs := fun e he =>
    (DbL.inv_of_reach hm r).l.histLt e ((DbL.tree_of_reach hm r).tracks.stored e he)
  refine ⟨hs, fun id w hw e he => ?_⟩
  have := (C03_db_commit_fresh hm r id w hw).1
  have := hs e he
  omega

end Badger
