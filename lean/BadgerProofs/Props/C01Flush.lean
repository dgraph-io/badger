import BadgerModel.Lsm
/-!
# A read that overlaps a memtable flush misses nothing (C01, the reader–flusher protocol)

`DB.flushMemtable` publishes the new level-0 table (`handleMemTableFlush`) and only then removes
the memtable from `db.imm`; every reader (`DB.get`, `Txn.NewIterator`) picks the memtables
(`getMemTables`) and only then the tables of the levels.  Both orders are regenerated facts
(`ord_flusher_l0_imm`, `ord_newiterator_mem_levels`, `ord_dbget_mem_levels`, `Props/Tgen.lean`;
C12 and C31 take the same two orders from there, `C12_`/`C31_tgen_reader_flusher_order`).

The model: immutable memtables with a "published" flag and the list of level-0 tables, as entry
lists; the flusher's two steps in any number and interleaved with the reader's two picks at any two
points of the run.  With the two orders of the code the reader's sources contain every entry that
was stored when it started; with the reader's order reversed there is a run in which an entry is
missed; with the flusher's reversed, the state between its two steps (no `Step` of the model leads
there) holds the entry nowhere.
-/
namespace Badger.FlushRace

structure St where
  imm : List (List Ent × Bool)   -- immutable memtables, `true` = its table is already in level 0
  l0 : List (List Ent)
  deriving Repr

def St.memEnts (s : St) : List Ent := (s.imm.map (·.1)).flatten
def St.l0Ents (s : St) : List Ent := s.l0.flatten
def St.all (s : St) : List Ent := s.memEnts ++ s.l0Ents

/-- the flusher as in the code: publish, then retire (only a published memtable is retired);
    `write`: a full memtable joins `db.imm` (new data never hurts a reader that started before) -/
inductive Step : St → St → Prop
  | publish (pre post : List (List Ent × Bool)) (m : List Ent) (l0 : List (List Ent)) :
      Step ⟨pre ++ (m, false) :: post, l0⟩ ⟨pre ++ (m, true) :: post, l0 ++ [m]⟩
  | retire (pre post : List (List Ent × Bool)) (m : List Ent) (l0 : List (List Ent)) :
      Step ⟨pre ++ (m, true) :: post, l0⟩ ⟨pre ++ post, l0⟩
  | write (imm : List (List Ent × Bool)) (m : List Ent) (l0 : List (List Ent)) :
      Step ⟨imm, l0⟩ ⟨(m, false) :: imm, l0⟩

inductive Steps : St → St → Prop
  | refl (s : St) : Steps s s
  | tail {a b c : St} : Steps a b → Step b c → Steps a c

/-- every published memtable has its entries in level 0 -/
def Inv (s : St) : Prop := ∀ m, (m, true) ∈ s.imm → ∀ e ∈ m, e ∈ s.l0Ents

theorem step_l0_mono {a b : St} (h : Step a b) : ∀ e ∈ a.l0Ents, e ∈ b.l0Ents := by
  cases h with
  | publish pre post m l0 =>
    intro e he
    simp only [St.l0Ents, List.flatten_append, List.mem_append]
    exact .inl he
  | retire pre post m l0 => exact fun _ he => he
  | write imm m l0 => exact fun _ he => he

theorem memEnts_mid (pre post : List (List Ent × Bool)) (m : List Ent) (b : Bool) (l0 : List (List Ent))
    (e : Ent) : e ∈ (⟨pre ++ (m, b) :: post, l0⟩ : St).memEnts ↔
      e ∈ m ∨ e ∈ (⟨pre ++ post, l0⟩ : St).memEnts := by
  simp only [St.memEnts, List.map_append, List.map_cons, List.flatten_append, List.flatten_cons,
    List.mem_append]
  exact or_left_comm

theorem step_inv {a b : St} (h : Step a b) (hi : Inv a) : Inv b := by
  intro m' hm' e he
  -- a memtable published before has its entries in level 0, which only grows
  have old (hm : (m', true) ∈ a.imm) : e ∈ b.l0Ents := step_l0_mono h e (hi m' hm e he)
  cases h with
  | publish pre post m l0 =>
    rcases List.mem_append.1 hm' with hm' | hm'
    · exact old (List.mem_append_left _ hm')
    · rcases List.mem_cons.1 hm' with hm' | hm'
      · cases hm'; simp [St.l0Ents, he]
      · exact old (List.mem_append_right _ (List.mem_cons_of_mem _ hm'))
  | retire pre post m l0 =>
    exact old ((List.mem_append.1 hm').elim (List.mem_append_left _)
      fun h => List.mem_append_right _ (List.mem_cons_of_mem _ h))
  | write imm m l0 =>
    rcases List.mem_cons.1 hm' with hm' | hm'
    · cases hm'
    · exact old hm'

theorem step_all_mono {a b : St} (h : Step a b) (hi : Inv a) : ∀ e ∈ a.all, e ∈ b.all := by
  intro e he
  cases h with
  | publish pre post m l0 =>
    simp only [St.all, List.mem_append, memEnts_mid, St.l0Ents, List.flatten_append] at he ⊢
    exact he.imp_right .inl
  | retire pre post m l0 =>
    simp only [St.all, List.mem_append, memEnts_mid] at he ⊢
    rcases he with (he | he) | he
    · exact .inr (hi m (by simp) e he)
    · exact .inl he
    · exact .inr he
  | write imm m l0 =>
    simp only [St.all, List.mem_append] at he ⊢
    exact he.imp_left fun h => (memEnts_mid [] imm m false l0 e).2 (.inr h)

theorem steps_l0_mono {a b : St} (h : Steps a b) : ∀ e ∈ a.l0Ents, e ∈ b.l0Ents := by
  induction h with
  | refl => intro e he; exact he
  | tail _ st ih => intro e he; exact step_l0_mono st _ (ih e he)

theorem steps_inv {a b : St} (h : Steps a b) (hi : Inv a) : Inv b := by
  induction h with
  | refl => exact hi
  | tail _ st ih => exact step_inv st ih

def ex (k : Nat) : Ent := { key := [1], ver := k, emeta := 0, umeta := 0, exp := 0, val := [] }

end Badger.FlushRace

namespace Badger
open FlushRace

/-- **The reader of the code** picks the memtables in state `s1` and the level tables in a later
    state `s2`: its sources contain every entry stored in `s1`, whatever the flusher did in between. -/
theorem C01_flush_reader_sees_all {s1 s2 : St} (h : Steps s1 s2) :
    ∀ e ∈ s1.all, e ∈ s1.memEnts ∨ e ∈ s2.l0Ents := by
  intro e he
  simp only [St.all, List.mem_append] at he
  rcases he with he | he
  · exact Or.inl he
  · exact Or.inr (steps_l0_mono h e he)

/-- … and, over a whole run from a state that satisfies the invariant, every entry stored at ANY
    earlier point of the run (nothing is ever lost by the flusher). -/
theorem C01_flush_reader_sees_history {s0 s1 s2 : St} (hi : Inv s0) (h01 : Steps s0 s1) (h12 : Steps s1 s2) :
    ∀ e ∈ s0.all, e ∈ s1.memEnts ∨ e ∈ s2.l0Ents := by
  intro e he
  have : e ∈ s1.all := by
    clear h12
    induction h01 with
    | refl => exact he
    | tail h st ih => exact step_all_mono st (steps_inv h hi) e ih
  exact C01_flush_reader_sees_all h12 e this

/-- **Reader with the two picks reversed** (level tables first, memtables later — the seeded change
    C31e): a flush that completes in between is seen in neither place. -/
theorem C01_flush_reversed_reader_misses :
    ∃ s1 s2 : St, Inv s1 ∧ Steps s1 s2 ∧ ∃ e ∈ s1.all, ¬ (e ∈ s1.l0Ents ∨ e ∈ s2.memEnts) := by
  refine ⟨⟨[([ex 1], false)], []⟩, ⟨[], [[ex 1]]⟩, ?_, ?_, ex 1, by decide, by decide⟩
  · intro m hm; simp at hm
  · have a := Step.publish [] [] [ex 1] []
    have b := Step.retire [] [] [ex 1] [[ex 1]]
    exact Steps.tail (Steps.tail (Steps.refl _) a) b

/-- **Flusher with its two steps reversed** (memtable retired before its table is published): the
    state `⟨[], []⟩` between the two steps holds none of the entries of the start state, so no
    reader could find them. The statement compares the two states only: the reversed step is not a
    `Step` of the model, and no run or reader occurs in it. -/
theorem C01_flush_reversed_flusher_loses :
    ∃ mid : St, (∃ e, e ∈ (⟨[([ex 1], false)], []⟩ : St).all ∧ e ∉ mid.all) ∧
      mid = ⟨[], []⟩ := ⟨⟨[], []⟩, ⟨ex 1, by decide, by decide⟩, rfl⟩

end Badger
