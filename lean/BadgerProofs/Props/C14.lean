import BadgerProofs.Lemmas.LsmReads
/-!
# C14 — the structural invariant of the LSM tree is preserved

`LsmInv` (`Lemmas/LsmInv.lean`): memtables sorted, every table non-empty and sorted, and on every
level `≥ 1` the tables are ordered and disjoint by USER key (all versions of a user key on a level
live in one table), versions positive. Flush, put and every well-formed compaction keep it (`C14_flush_inv`,
`C14_put_inv`, `C14_compact_inv`, the last given the cut condition `CutsAtKeyChange`;
`C14_cut_inside_key_breaks_inv` shows it is needed). The rest of the file is the same for the other components of
`LsmGood` (Props/C12.lean): `VerBound`, recency `LayeredX` and `Layered` (`C14_*_layeredX`, `C14_*_layered`;
`C14_L0L0_breaks_layered`: L0 → L0 keeps only `LayeredX`), uniqueness of internal keys (`C14_*_keyVerUnique`).
-/
namespace Badger

/-- `LevelOk` on a level `≥ 1` in the textbook form: every table non-empty and sorted, and for
    consecutive tables the last user key of the first is strictly below the first user key of the
    second — i.e. all versions of a user key on the level live in one table. -/
theorem C14_levelOk_iff_consecutive {i : Nat} {tbls : List Tbl} (hi : 1 ≤ i) :
    LevelOk i tbls ↔ (∀ t ∈ tbls, TblOk t) ∧ KeyDisjointC tbls := by
  unfold LevelOk
  constructor
  · rintro ⟨h1, h2⟩; exact ⟨h1, (LL.keyDisjoint_iff_consecutive h1).mp (h2 hi)⟩
  · rintro ⟨h1, h2⟩; exact ⟨h1, fun _ => (LL.keyDisjoint_iff_consecutive h1).mpr h2⟩

/-- C14 proper: under the invariant, on a level `≥ 1` two stored versions of the same user key are
    in the same table. -/
theorem C14_one_table_per_key {s : Lsm} (h : LsmInv s) {i : Nat} {tbls : List Tbl} (hi : 1 ≤ i)
    (hl : s.levels[i]? = some tbls) {j j' : Nat} {a b : Tbl} (hj : tbls[j]? = some a) (hj' : tbls[j']? = some b)
    {x y : Ent} (hx : x ∈ a.ents) (hy : y ∈ b.ents) (hk : x.key = y.key) : j = j' := by
  apply Classical.byContradiction
  intro hne
  rcases LL.level_sep_of_ne ((h.level hl).2 hi) hj hj' hne with hs | hs
  · exact LL.klt_ne (hs x hx y hy) hk
  · exact LL.klt_ne (hs y hy x hx) hk.symm

/-- a flush (the memtable becomes the newest L0 table) preserves the invariant -/
theorem C14_flush_inv {s : Lsm} (h : LsmInv s) (id : Nat) : LsmInv (s.flush id) := by
  rcases LL.flush_eq_self_or s id with he | ⟨l0, rest, hl, hne, he⟩
  · rw [he]; exact h
  · have hpos : PosVer (s.flush id) := fun e he' => h.2.2.2 e ((LL.mem_allEntries_flush s id e).mp he')
    rw [he] at hpos ⊢
    refine ⟨sortedEnts_nil, h.2.1, LL.levels_ok_of_l0 h hl fun t ht => ?_, hpos⟩
    rcases List.mem_append.mp ht with ht | ht
    · exact (h.level (i := 0) (tbls := l0) (by rw [hl]; rfl)).1 t ht
    · simp at ht; subst ht; exact ⟨hne, h.1⟩

/-- a well-formed compaction preserves the invariant — in particular C14 proper: on every
    level `≥ 1` all versions of a user key live in one table. Needs that the implementation cut its
    output tables only where the user key changes (`CutsAtKeyChange`, which `addKeys` guarantees and
    the harness checks on every real compaction) and that versions fit a `uint64` (`VerBound`: the
    overlap test widens the range to `key@MaxUint64 … key@0`). -/
theorem C14_compact_inv {s s' : Lsm} {cd : CompactDef} {d n now : Nat} (h : LsmInv s) (hv : VerBound s)
    (hc : CompactOk s cd) (hs : s.compact cd d n now = some s')
    (hcut : ∀ new0, splitSizes cd.outSizes (compactOutput s cd d n now).1 = some new0 →
      CutsAtKeyChange (withIds new0 cd.outIds)) : LsmInv s' := by
  obtain ⟨new0, hsp, rfl⟩ := LL.compact_some hs
  refine ⟨h.1, h.2.1, ?_, fun e he => h.2.2.2 e (LL.mem_allEntries_compact hc.1.1 hc.1.2.1 hs he)⟩
  rintro ⟨i, tbls⟩ hp
  have hi := (LL.mem_zipIdx _ _ _).mp hp
  have hN := LL.cuts_pairwise (fun t ht => ((LL.new_tables h hc hsp).1 t ht).1) (LL.new_tables h hc hsp).2
    (hcut new0 hsp)
  exact LL.compact_levels h hv hc hsp .inl (fun _ _ hab => hab) hN hi

theorem C14_compact_verBound {s s' : Lsm} {cd : CompactDef} {d n now : Nat} (hv : VerBound s)
    (hc : CompactOk s cd) (hs : s.compact cd d n now = some s') : VerBound s' :=
  fun e he => hv e (LL.mem_allEntries_compact hc.1.1 hc.1.2.1 hs he)

/-- without the cut condition the levels are still sorted by internal key (enough for `get`) -/
theorem C14_compact_inv_weak {s s' : Lsm} {cd : CompactDef} {d n now : Nat} (h : LsmInv s) (hv : VerBound s)
    (hc : CompactOk s cd) (hs : s.compact cd d n now = some s') : LsmInvW s' :=
  LL.compact_invW h hv hc hs

/-- `Layered` = `LayeredX` (recency across sources, L0 taken as one source) + L0 in age order -/
theorem C14_layered_iff_X (s : Lsm) : Layered s ↔ LayeredX s ∧ LL.L0Aged s := LL.layered_iff_X s

/-- what EVERY well-formed compaction preserves, L0 → L0 included: recency across sources with
    L0 taken as one source. (L0 → Lbase: under `TopsOldest`, automatic when L0 is in age order.)
    Together with `KeyVerUnique` this is the invariant that suffices for the reads (C12). Only the tops move,
    past the tables left on their level and the empty levels in between. -/
theorem C14_compact_layeredX {s s' : Lsm} {cd : CompactDef} {d n now : Nat} (h : LsmInv s) (hl : LayeredX s)
    (hc : CompactOk s cd) (hto : IsL0Lbase s cd → TopsOldest s cd)
    (hs : s.compact cd d n now = some s') : LayeredX s' := by
  obtain ⟨new0, hsp, rfl⟩ := LL.compact_some hs
  refine LL.layeredX_of_origin (s := s) rfl rfl hl ?_
  rintro j x ⟨tbls, t, hj, ht, hx⟩
  rcases LL.entry_origin_level hc.1.1 hc.1.2.1 hsp hj ht hx with h1 | ⟨rfl, gtop, h1⟩
  · exact ⟨j, Nat.le_refl _, h1, fun i' y h2 h3 => by omega⟩
  · refine ⟨cd.thisLevel, LL.this_le_next hc, h1, ?_⟩
    rintro i' y h2 h3 ⟨tbls', t', hi', ht', hy⟩ hk
    rcases LL.entry_origin hc.1.1 hc.1.2.1 hsp hi' ht' hy with ⟨n1, _, f3⟩ | ⟨_, f2, f3⟩ | ⟨f1, _⟩ | ⟨f1, _⟩ | ⟨f1, _⟩
    · rw [LL.between_empty hc (by omega) h3 f3] at ht'
      cases ht'
    · exact LL.rem_vs_tops h hc (fun h0 => hto ((LL.kind_of_ne hc f2).resolve_right (by omega))) f2 f3 hy gtop hk
    · omega
    · omega
    · omega

/-- the full recency invariant `Layered` (L0 in age order) survives every well-formed compaction
    other than L0 → L0 (data only moves down; L0 → Lbase takes the oldest L0 tables). For L0 → L0
    see `C14_L0L0_breaks_layered` and `C14_compact_layeredX`. -/
theorem C14_compact_layered {s s' : Lsm} {cd : CompactDef} {d n now : Nat} (h : LsmInv s) (hl : Layered s)
    (hc : CompactOk s cd) (hnot : ¬ IsL0L0 s cd) (hs : s.compact cd d n now = some s') : Layered s' := by
  obtain ⟨hX, p4⟩ := (LL.layered_iff_X s).mp hl
  refine (LL.layered_iff_X s').mpr
    ⟨C14_compact_layeredX h hX hc (fun hh => LL.topsOldest_of_layered hl hc.1 hh) hs, ?_⟩
  obtain ⟨new0, hsp, rfl⟩ := LL.compact_some hs
  intro l0 j j' a b h0 hj hj' hlt
  simp only at h0
  rcases LL.level0_after_compact hc new0 with ⟨hh, e⟩ | ⟨hh, _⟩ | ⟨_, e⟩
  · rw [e] at h0; cases h0
    rw [List.getElem?_drop] at hj hj'
    exact p4 _ _ _ a b (LL.levels_getD (by have := hc.1.1; rw [hh.1] at this; exact this)) hj hj' (by omega)
  · exact absurd hh hnot
  · rw [e] at h0
    exact p4 l0 j j' a b h0 hj hj' hlt

theorem C14_flush_layeredX {s : Lsm} (hl : LayeredX s) (himm : s.imm = []) (id : Nat) : LayeredX (s.flush id) := by
  rcases LL.flush_eq_self_or s id with he | ⟨l0, rest, hlv, _, _⟩
  · rw [he]; exact hl
  · have e : s.flushAll [id] = s.flush id := LL.flushAll_eq_flush himm [id]
    rw [← e]
    exact flushAll_layeredX hl hlv [id]

theorem C14_put_layeredX {s : Lsm} (hl : LayeredX s) {e : Ent}
    (hnew : ∀ x ∈ s.allEntries, x.key = e.key → x.ver ≤ e.ver) : LayeredX (s.putEnt e) :=
  LL.put_layeredX hl fun c hc y hy => hnew y (LL.mem_allEntries.mpr (.inr (LL.mem_lowerChunks.mp ⟨c, hc, hy⟩)))

/-- uniqueness of internal keys is preserved by every step (entries are only moved or dropped;
    a commit brings a fresh, larger version) -/
theorem C14_compact_keyVerUnique {s s' : Lsm} {cd : CompactDef} {d n now : Nat}
    (hu : KeyVerUnique s) (hc : CompactOk s cd) (hs : s.compact cd d n now = some s') : KeyVerUnique s' :=
  LL.kvFun_subset hu fun _ => LL.mem_allEntries_compact hc.1.1 hc.1.2.1 hs

theorem C14_flush_keyVerUnique {s : Lsm} (hu : KeyVerUnique s) (id : Nat) : KeyVerUnique (s.flush id) :=
  LL.kvFun_subset hu (fun x hx => (LL.mem_allEntries_flush s id x).mp hx)

theorem C14_put_keyVerUnique {s : Lsm} (hu : KeyVerUnique s) {e : Ent}
    (hnew : ∀ x ∈ s.allEntries, x.key = e.key → x.ver < e.ver) : KeyVerUnique (s.putEnt e) :=
  LL.kvFun_subset (LL.kvFun_cons hu hnew) fun _ hx => List.mem_cons.mpr (LL.mem_allEntries_put hx)

def C14_l0l0State : Lsm :=
  { mem := [], imm := [],
    levels := [[{ ents := [⟨[1], 1, 0, 0, 0, [1]⟩] }, { ents := [⟨[1], 2, 0, 0, 0, [2]⟩] },
                { ents := [⟨[1], 3, 0, 0, 0, [3]⟩] }], []] }
def C14_l0l0Cd : CompactDef :=
  { thisLevel := 0, nextLevel := 0, top := [0, 2], bot := [], outSizes := [2], dropPrefixes := [] }
def C14_l0l0State' : Lsm :=
  { mem := [], imm := [],
    levels := [[{ ents := [⟨[1], 3, 0, 0, 0, [3]⟩, ⟨[1], 1, 0, 0, 0, [1]⟩] }, { ents := [⟨[1], 2, 0, 0, 0, [2]⟩] }], []] }

/-- full `Layered` (L0 in age order) is NOT preserved by L0 → L0: merging the oldest and the newest
    table leaves a table that is both older and newer than the one left out, so no order of L0 is
    an age order; `LayeredX` and `KeyVerUnique` survive. -/
theorem C14_L0L0_breaks_layered :
    LsmInv C14_l0l0State ∧ VerBound C14_l0l0State ∧ Layered C14_l0l0State ∧ KeyVerUnique C14_l0l0State ∧
      CompactOk C14_l0l0State C14_l0l0Cd ∧ IsL0L0 C14_l0l0State C14_l0l0Cd ∧
      C14_l0l0State.compact C14_l0l0Cd 0 2 0 = some C14_l0l0State' ∧
      ¬ Layered C14_l0l0State' ∧ LayeredX C14_l0l0State' ∧ KeyVerUnique C14_l0l0State' := by
  refine ⟨by decide, by decide, by decide, by decide, by decide, by decide, by decide +kernel, by decide, by decide,
    by decide⟩

/-- flushing keeps `Layered` (no immutable memtable: the only way the model's `flush` is used) -/
theorem C14_flush_layered {s : Lsm} (hl : Layered s) (himm : s.imm = []) (id : Nat) : Layered (s.flush id) := by
  obtain ⟨hX, p4⟩ := (LL.layered_iff_X s).mp hl
  refine (LL.layered_iff_X _).mpr ⟨C14_flush_layeredX hX himm id, ?_⟩
  rcases LL.flush_eq_self_or s id with he | ⟨l0, rest, hlv, _, he⟩
  · rw [he]; exact p4
  · rw [he]
    intro l0' j j' a b h0 hj hj' hlt
    simp at h0; subst h0
    have h0s : s.levels[0]? = some l0 := by rw [hlv]; rfl
    exact LL.aged_append (m := 0) (fun j j' a b hlt _ hj hj' => p4 l0 j j' a b h0s hj hj' hlt)
      (fun b hb x hx e he' hk => LL.layeredX_mem_level hX (LL.mem_memEnts.mpr ⟨s.mem, by simp, hx⟩) ⟨l0, b, h0s, hb, he'⟩ hk)
      j j' a b hlt (Nat.zero_le _) hj hj'

theorem C14_put_inv {s : Lsm} (h : LsmInv s) {e : Ent} (he : 0 < e.ver) : LsmInv (s.putEnt e) := by
  refine ⟨memPut_sorted h.1, h.2.1, h.2.2.1, ?_⟩
  intro x hx
  rcases LL.mem_allEntries_put hx with rfl | hx
  · exact he
  · exact h.2.2.2 x hx

/-- commit timestamps increase: the new version is at least as new as every stored version of its key -/
theorem C14_put_layered {s : Lsm} (hl : Layered s) {e : Ent}
    (hnew : ∀ x ∈ s.allEntries, x.key = e.key → x.ver ≤ e.ver) : Layered (s.putEnt e) :=
  have ⟨hX, h0⟩ := (LL.layered_iff_X s).mp hl
  (LL.layered_iff_X _).mpr ⟨C14_put_layeredX hX hnew, h0⟩

def C14_cutState : Lsm :=
  { mem := [], imm := [], levels := [[{ ents := [⟨[1], 2, 0, 0, 0, []⟩, ⟨[1], 1, 0, 0, 0, []⟩] }], []] }
def C14_cutCd : CompactDef :=
  { thisLevel := 0, nextLevel := 1, top := [0], bot := [], outSizes := [1, 1], dropPrefixes := [] }
def C14_cutState' : Lsm :=
  { mem := [], imm := [], levels := [[], [{ ents := [⟨[1], 2, 0, 0, 0, []⟩] }, { ents := [⟨[1], 1, 0, 0, 0, []⟩] }]] }

/-- `CutsAtKeyChange` is needed: cutting the output in the middle of a user key puts two versions of
    that key into different tables of level 1. -/
theorem C14_cut_inside_key_breaks_inv :
    LsmInv C14_cutState ∧ VerBound C14_cutState ∧ CompactOk C14_cutState C14_cutCd ∧
      C14_cutState.compact C14_cutCd 0 2 0 = some C14_cutState' ∧ ¬ LsmInv C14_cutState' := by
  refine ⟨by decide, by decide, by decide, by decide +kernel, by decide⟩

/-! non-vacuity: an L0→L2 compaction with a non-empty bottom run -/
def C14_exState : Lsm :=
  { mem := [], imm := [],
    levels := [[{ ents := [⟨[1], 3, 0, 0, 0, []⟩, ⟨[2], 2, 0, 0, 0, []⟩] }, { ents := [⟨[1], 4, 0, 0, 0, []⟩] }], [],
               [{ ents := [⟨[1], 1, 0, 0, 0, []⟩] }, { ents := [⟨[3], 1, 0, 0, 0, []⟩] }]] }
def C14_exCd : CompactDef :=
  { thisLevel := 0, nextLevel := 2, top := [0], bot := [0], outSizes := [2, 1], dropPrefixes := [] }

example : LsmInv C14_exState ∧ VerBound C14_exState ∧ CompactOk C14_exState C14_exCd := by decide
def C14_exState' : Lsm :=
  { mem := [], imm := [],
    levels := [[{ ents := [⟨[1], 4, 0, 0, 0, []⟩] }], [],
               [{ ents := [⟨[1], 3, 0, 0, 0, []⟩, ⟨[1], 1, 0, 0, 0, []⟩] }, { ents := [⟨[2], 2, 0, 0, 0, []⟩] },
                { ents := [⟨[3], 1, 0, 0, 0, []⟩] }]] }
example : C14_exState.compact C14_exCd 0 2 0 = some C14_exState' ∧ LsmInv C14_exState' := by
  refine ⟨by decide +kernel, by decide⟩

end Badger
