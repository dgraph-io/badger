import BadgerProofs.Lemmas.Header
/-!
# C20 — encodings part: uvarint, entry header, `y.ValueStruct`, `valuePointer`.
(Keys: `C20.lean`.) All theorems are for every field value of the Go types
(`uint32` lengths, `uint64` expiry) and any trailing bytes.
-/
namespace Badger

/-- `binary.Uvarint(PutUvarint(n) ++ rest) = (n, len)` for every `uint64` and every `rest`. -/
theorem C20_uvarint_roundtrip (n : Nat) (rest : Bytes) (hn : n < 2 ^ 64) :
    uvarint (putUvarint n ++ rest) = (n, ((putUvarint n).length : Int)) :=
  uvarint_put n rest hn

/-- The streaming decoder (`binary.ReadUvarint`) agrees and consumes exactly the encoding. -/
theorem C20_readUvarint_roundtrip (n : Nat) (rest : Bytes) (hn : n < 2 ^ 64) :
    readUvarint (putUvarint n ++ rest) = .ok (n, rest) :=
  readUvarint_put n rest hn

theorem C20_sizeVarint (n : Nat) : sizeVarint n = (putUvarint n).length :=
  sizeVarintF_eq 9 n

theorem C20_putUvarint_length (n : Nat) : 1 ≤ (putUvarint n).length ∧ (putUvarint n).length ≤ 10 :=
  ⟨putUvarint_length_pos n, putUvarint_length_le n⟩

/-- `header.DecodeFrom` (stream) reads the same header, consumes exactly the encoding —
    so `reader.bytesRead = header.Decode`'s result — and leaves `rest` unread. -/
theorem C20_header_decodeFrom (h : Header) (rest : Bytes) (wf : h.WF) :
    headerDecodeFrom (headerEncode h ++ rest) = .ok (h, rest) :=
  headerDecodeFrom_headerEncode h rest wf

/-- `header.Decode(header.Encode(h) ++ rest) = (h, len)` for all field values. -/
theorem C20_header_roundtrip (h : Header) (rest : Bytes) (wf : h.WF) :
    headerDecode (headerEncode h ++ rest) = some (h, ((headerEncode h).length : Int)) := by
  obtain ⟨a, ha, hd⟩ := headerDecode_of_decodeFrom (headerDecodeFrom_headerEncode h rest wf)
  rw [hd, List.append_cancel_right ha]

/-- `Decode` and `DecodeFrom` agree on every well-formed input: same header, and the count
    returned by `Decode` is the number of bytes `DecodeFrom` consumed. -/
theorem C20_header_decode_agree (h : Header) (rest : Bytes) (wf : h.WF) :
    ∃ h' r, headerDecodeFrom (headerEncode h ++ rest) = .ok (h', r) ∧
      headerDecode (headerEncode h ++ rest) =
        some (h', (((headerEncode h ++ rest).length - r.length : Nat) : Int)) := by
  obtain ⟨a, ha, hd⟩ := headerDecode_of_decodeFrom (C20_header_decodeFrom h rest wf)
  exact ⟨h, rest, C20_header_decodeFrom h rest wf, by rw [hd, ha, List.length_append, Nat.add_sub_cancel]⟩

/-- The truncation of `klen`/`vlen` to `uint32` on decode: a header written with a 64-bit length
    field decodes to the low 32 bits (the Go code does `uint32(klen)`). -/
theorem C20_header_decode_truncates (klen vlen exp : Nat) (m um : UInt8) (rest : Bytes)
    (hk : klen < 2 ^ 64) (hv : vlen < 2 ^ 64) (he : exp < 2 ^ 64) :
    headerDecodeFrom (headerEncode ⟨klen, vlen, exp, m, um⟩ ++ rest) =
      .ok (⟨klen % 2 ^ 32, vlen % 2 ^ 32, exp, m, um⟩, rest) :=
  headerDecodeFrom_encode ⟨klen, vlen, exp, m, um⟩ rest hk hv he

/-- `ValueStruct.Decode(Encode(v)) = v` (Decode infers the value length from the slice). -/
theorem C20_valueStruct_roundtrip (v : ValueStruct) (he : v.expiresAt < 2 ^ 64) :
    vsDecode (vsEncode v) = some v := by
  obtain ⟨m, um, exp, val⟩ := v
  simp only at he
  simp only [vsEncode, vsDecode, uvarint_put exp val he, sliceFrom_hdr1]

/-- `EncodedSize` is exactly the number of bytes `Encode` writes. -/
theorem C20_valueStruct_encodedSize (v : ValueStruct) : vsEncodedSize v = (vsEncode v).length := by
  simp [vsEncodedSize, vsEncode, C20_sizeVarint]; omega

/-- `valuePointer.Decode(Encode(p) ++ rest) = p` for all `uint32` fields. -/
theorem C20_valuePointer_roundtrip (p : ValuePointer) (rest : Bytes)
    (hf : p.fid < 2 ^ 32) (hl : p.len < 2 ^ 32) (ho : p.offset < 2 ^ 32) :
    vpDecode (vpEncode p ++ rest) = some p := by
  have h4 : (256 : Nat) ^ 4 = 2 ^ 32 := by decide
  rw [vpDecode, vpEncode, if_neg (by simp; omega),
    List.append_assoc (leBytes p.fid 4 ++ leBytes p.len 4),
    List.drop_left' (i := 8) (by simp), List.append_assoc (leBytes p.fid 4),
    List.drop_left' (leBytes_length _ 4), List.take_left' (leBytes_length _ 4),
    List.take_left' (leBytes_length _ 4), List.take_left' (leBytes_length _ 4),
    leNat_leBytes _ 4 (h4 ▸ hf), leNat_leBytes _ 4 (h4 ▸ hl), leNat_leBytes _ 4 (h4 ▸ ho)]

theorem C20_valuePointer_size (p : ValuePointer) : (vpEncode p).length = 12 := by
  simp [vpEncode]

example : uvarint (putUvarint (2 ^ 64 - 1) ++ [0xff]) = (2 ^ 64 - 1, 10) := by decide +kernel
example : putUvarint 300 = [0xac, 0x02] := by decide
example : sizeVarint (2 ^ 63) = 10 := by decide
example : headerDecode (headerEncode ⟨2 ^ 32 - 1, 128, 2 ^ 64 - 1, 0x40, 7⟩ ++ [1, 2]) =
    some (⟨2 ^ 32 - 1, 128, 2 ^ 64 - 1, 0x40, 7⟩, 19) := by decide +kernel
example : headerDecodeFrom (headerEncode ⟨2 ^ 32 + 5, 0, 0, 0, 0⟩) = .ok (⟨5, 0, 0, 0, 0⟩, []) := by
  rfl
example : vsDecode (vsEncode ⟨1, 2, 16384, [9, 9]⟩) = some ⟨1, 2, 16384, [9, 9]⟩ := by decide +kernel
example : vpEncode ⟨1, 2, 3⟩ = [1, 0, 0, 0, 2, 0, 0, 0, 3, 0, 0, 0] := by decide +kernel
-- what the Go decoders do on inputs no encoder produces (mirrored, not "fixed"):
example : uvarint [0xff, 0xff, 0xff, 0xff, 0xff, 0xff, 0xff, 0xff, 0xff, 0x02] = (0, -10) := by decide
example : headerDecode [0, 0, 0x80] = some (⟨0, 0, 0, 0, 0⟩, 2) := by decide

end Badger
