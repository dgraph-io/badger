import BadgerProofs.Lemmas.LsmReads
import BadgerProofs.Props.C01
/-!
# C29 — DropPrefix on the LSM state machine

`C29_prefix_gone`: after `Lsm.dropPrefixRun` (flush, same-level rewrites of the table groups of
every level `≥ 1` bottom-up, L0 → base level) no entry of any source has a user key with a
dropped prefix; hence (`C29_prefix_invisible`) such a key reads as absent.

`flushAll_eq` (Lemmas/LsmReads.lean) says what the flush computes; `groupCd` and `l0Cd` are the compactions the steps of the
run issue. What a part of the run leaves alone (`DropFrame`: memtables, number of levels, the levels
outside `P`) holds without any hypothesis. "No prefixed key is left" (`…_clean`): the groups cover every table that holds a
prefixed key (`C29_dropGroups_cover` + `C29_containsAnyPrefixes_iff`), a same-level compaction
replaces the group's tables by tables without prefixed keys (`C29_filter_no_prefix`) and touches
nothing else, and the L0 → base compaction takes *all* of L0.
-/
namespace Badger

open LL

def NoPrefixT (ps : List Bytes) (t : Tbl) : Prop := ∀ e ∈ t.ents, hasAnyPrefix e.key ps = false

/-- what `containsPrefix` needs of a table: non-empty, sorted, `uint64` versions -/
def TblV (t : Tbl) : Prop := t.ents ≠ [] ∧ SortedEnts t.ents ∧ ∀ e ∈ t.ents, e.ver ≤ maxU64

theorem getD_congr {s s' : Lsm} {j : Nat} (h : s'.levels[j]? = s.levels[j]?) :
    s'.levels.getD j [] = s.levels.getD j [] := by
  rw [List.getD_eq_getElem?_getD, List.getD_eq_getElem?_getD, h]

structure DropFrame (P : Nat → Prop) (s s' : Lsm) : Prop where
  mem : s'.mem = s.mem
  imm : s'.imm = s.imm
  len : s'.levels.length = s.levels.length
  other : ∀ j, ¬ P j → s'.levels[j]? = s.levels[j]?

theorem DropFrame.refl (P : Nat → Prop) (s : Lsm) : DropFrame P s s := ⟨rfl, rfl, rfl, fun _ _ => rfl⟩

theorem DropFrame.trans {P P1 P2 : Nat → Prop} {s s1 s2 : Lsm} (h1 : DropFrame P1 s s1)
    (h2 : DropFrame P2 s1 s2) (hP1 : ∀ j, P1 j → P j) (hP2 : ∀ j, P2 j → P j) : DropFrame P s s2 :=
  ⟨h2.mem.trans h1.mem, h2.imm.trans h1.imm, h2.len.trans h1.len,
    fun j hj => (h2.other j (fun h => hj (hP2 j h))).trans (h1.other j (fun h => hj (hP1 j h)))⟩

theorem DropFrame.getD {P : Nat → Prop} {s s' : Lsm} (f : DropFrame P s s') {j : Nat} (hj : ¬ P j) :
    s'.levels.getD j [] = s.levels.getD j [] := getD_congr (f.other j hj)

private theorem mem_getD_set {ls : List (List Tbl)} {i j : Nat} {x : List Tbl} {t : Tbl}
    (h : t ∈ (ls.set i x).getD j []) : (j = i ∧ t ∈ x) ∨ (j ≠ i ∧ t ∈ ls.getD j []) := by
  by_cases hij : i = j
  · subst hij
    by_cases hi : i < ls.length
    · rw [List.getD_eq_getElem?_getD, List.getElem?_set_self hi] at h; exact .inl ⟨rfl, h⟩
    · rw [List.getD_eq_getElem?_getD, List.getElem?_eq_none (by simpa using hi)] at h; cases h
  · rw [List.getD_eq_getElem?_getD, List.getElem?_set_ne hij, ← List.getD_eq_getElem?_getD] at h
    exact .inr ⟨Ne.symm hij, h⟩

section SameLevel

variable {s s' : Lsm} {cd : CompactDef} {d n now : Nat} {new0 : List Tbl}

theorem sameLevel_frame (hn : cd.nextLevel = cd.thisLevel)
    (h : s.compact cd d n now = some s') : DropFrame (· = cd.nextLevel) s s' := by
  obtain ⟨new0, _, rfl⟩ := compact_same_level hn h
  exact ⟨rfl, rfl, List.length_set, fun j hj => List.getElem?_set_ne (Ne.symm hj)⟩

theorem mem_newNext_same (hn : cd.nextLevel = cd.thisLevel) (htop : cd.top = []) {t : Tbl} :
    t ∈ newNext s cd new0 ↔ t ∈ removeIdx (cdNextT s cd) cd.bot ∨ t ∈ withIds new0 cd.outIds := by
  unfold newNext takenIdx
  rw [mem_sortBySmallest, if_pos hn.symm, htop, List.nil_append, List.mem_append]

theorem sameLevel_level (hn : cd.nextLevel = cd.thisLevel) (htop : cd.top = [])
    (h : s.compact cd d n now = some s') :
    ∃ new0, splitSizes cd.outSizes (compactOutput s cd d n now).1 = some new0 ∧
      ∀ t ∈ s'.levels.getD cd.nextLevel [],
        t ∈ removeIdx (cdNextT s cd) cd.bot ∨ t ∈ withIds new0 cd.outIds := by
  obtain ⟨new0, hsp, rfl⟩ := compact_same_level hn h
  exact ⟨new0, hsp, fun t ht => (mem_newNext_same hn htop).mp
    ((mem_getD_set ht).elim (·.2) fun h => absurd rfl h.1)⟩

theorem new_tables_noPrefix (hsp : splitSizes cd.outSizes (compactOutput s cd d n now).1 = some new0) :
    ∀ t ∈ withIds new0 cd.outIds, NoPrefixT cd.dropPrefixes t := by
  intro t ht e he
  exact C29_filter_no_prefix _ _ e (PF.output_eq s cd d n now ▸ (mem_output_iff hsp).mpr ⟨t, ht, he⟩)

end SameLevel

/-- positions (in `cur`) of the tables of a group -/
def groupPos (cur grp : List Tbl) : List Nat :=
  (zipIdx cur).filterMap (fun (p : Nat × Tbl) => if p.2 ∈ grp then some p.1 else none)

theorem mem_groupPos {cur grp : List Tbl} {j : Nat} :
    j ∈ groupPos cur grp ↔ ∃ t, cur[j]? = some t ∧ t ∈ grp := by
  simp only [groupPos, List.mem_filterMap, Option.ite_none_right_eq_some, Option.some.injEq, Prod.exists,
    mem_zipIdx]
  exact ⟨fun ⟨i, t, hm, ht, e⟩ => ⟨t, e ▸ hm, ht⟩, fun ⟨t, hj, ht⟩ => ⟨j, t, hj, ht, rfl⟩⟩

theorem groupPos_incr (cur grp : List Tbl) : (groupPos cur grp).Pairwise (· < ·) := by
  have h1 : ((zipIdx cur).map (·.1)).Pairwise (· < ·) := by
    unfold zipIdx
    rw [List.map_fst_zip (by simp)]
    exact List.pairwise_lt_range
  have h2 : (zipIdx cur).Pairwise (fun p q => p.1 < q.1) := List.pairwise_map.mp h1
  unfold groupPos
  apply List.Pairwise.filterMap _ _ h2
  intro a a' haa b hb b' hb'
  rw [← Option.some.inj (Option.ite_none_right_eq_some.mp hb).2,
    ← Option.some.inj (Option.ite_none_right_eq_some.mp hb').2]
  exact haa

/-- the compaction a group step issues -/
def groupCd (s : Lsm) (lvl : Nat) (ps : List Bytes) (grp : List Tbl) (st : DropStep) : CompactDef :=
  { thisLevel := lvl, nextLevel := lvl, top := [], bot := groupPos (s.levels.getD lvl []) grp,
    outSizes := st.outSizes, outIds := st.outIds, dropPrefixes := ps }

/-- the compaction `dropL0Run` issues -/
def l0Cd (s : Lsm) (ps : List Bytes) (base : Nat) (st : DropStep) : CompactDef :=
  { thisLevel := 0, nextLevel := base, top := List.range (s.levels.getD 0 []).length,
    bot := match keyRangeOf (s.levels.getD 0 []) with
      | some (lo, hi) =>
        List.range' (overlapRange (s.levels.getD base []) lo hi).1
          ((overlapRange (s.levels.getD base []) lo hi).2 - (overlapRange (s.levels.getD base []) lo hi).1)
      | none => [],
    outSizes := st.outSizes, outIds := st.outIds, dropPrefixes := ps }

theorem l0Cd_tops (s : Lsm) (ps : List Bytes) (base : Nat) (st : DropStep) :
    cdTops s (l0Cd s ps base st) = s.levels.getD 0 [] := by
  unfold cdTops cdThisT l0Cd
  simp only
  rw [LL.pickIdx_range _ _ (Nat.le_refl _), List.take_length]

section Run

variable {s s' : Lsm} {ps : List Bytes} {lvl base numKeep : Nat} {steps steps' : List DropStep}
  {r : Lsm × List DropStep}

theorem dropGroupStep_some {grp : List Tbl} {st : DropStep}
    (h : s.dropGroupStep lvl ps numKeep grp st = some s') :
    s.compact (groupCd s lvl ps grp st) st.discardTs numKeep st.now = some s' := by
  unfold Lsm.dropGroupStep at h
  simp only at h
  split at h
  · cases h
  · exact h

theorem dropGroupsRun_cons_some {g : List Tbl} {gs : List (List Tbl)}
    (h : Lsm.dropGroupsRun lvl ps numKeep (g :: gs) s steps = some r) :
    ∃ st steps1 s1, steps = st :: steps1 ∧ s.dropGroupStep lvl ps numKeep g st = some s1 ∧
      Lsm.dropGroupsRun lvl ps numKeep gs s1 steps1 = some r := by
  cases steps with
  | nil => simp [Lsm.dropGroupsRun] at h
  | cons st steps1 =>
    rw [Lsm.dropGroupsRun] at h
    cases hs : s.dropGroupStep lvl ps numKeep g st with
    | none => rw [hs] at h; cases h
    | some s1 => rw [hs] at h; exact ⟨st, steps1, s1, rfl, hs, h⟩

theorem dropLevelsRun_cons_some {l : Nat} {ls : List Nat}
    (h : Lsm.dropLevelsRun ps numKeep (l :: ls) s steps = some r) :
    ∃ s1 steps1, s.dropLevelRun l ps numKeep steps = some (s1, steps1) ∧
      Lsm.dropLevelsRun ps numKeep ls s1 steps1 = some r := by
  rw [Lsm.dropLevelsRun] at h
  cases h1 : s.dropLevelRun l ps numKeep steps with
  | none => rw [h1] at h; cases h
  | some r1 => rw [h1] at h; exact ⟨r1.1, r1.2, rfl, h⟩

theorem dropLevelRun_nil (hnil : s.levels.getD lvl [] = []) (ps : List Bytes) (numKeep : Nat)
    (steps : List DropStep) : s.dropLevelRun lvl ps numKeep steps = some (s, steps) := by
  unfold Lsm.dropLevelRun
  rw [hnil]
  rfl

theorem dropGroupsRun_frame (gs : List (List Tbl))
    (h : Lsm.dropGroupsRun lvl ps numKeep gs s steps = some (s', steps')) :
    DropFrame (· = lvl) s s' ∧ ∀ st ∈ steps', st ∈ steps := by
  induction gs generalizing s steps with
  | nil =>
    rw [Lsm.dropGroupsRun] at h
    cases h
    exact ⟨DropFrame.refl _ _, fun _ h => h⟩
  | cons g gs ih =>
    obtain ⟨st, steps1, s1, rfl, h1, h2⟩ := dropGroupsRun_cons_some h
    obtain ⟨f, hsub⟩ := ih h2
    exact ⟨(sameLevel_frame rfl (dropGroupStep_some h1)).trans f (fun _ h => h) (fun _ h => h),
      fun st' h => List.mem_cons_of_mem _ (hsub st' h)⟩

theorem dropLevelsRun_frame (lvls : List Nat)
    (h : Lsm.dropLevelsRun ps numKeep lvls s steps = some (s', steps')) :
    DropFrame (· ∈ lvls) s s' ∧ (∀ st ∈ steps', st ∈ steps) ∧
      ∀ j, s.levels.getD j [] = [] → s'.levels.getD j [] = [] := by
  induction lvls generalizing s steps with
  | nil =>
    rw [Lsm.dropLevelsRun] at h
    cases h
    exact ⟨DropFrame.refl _ _, fun _ h => h, fun _ h => h⟩
  | cons l ls ih =>
    obtain ⟨s1, steps1, h1, h2⟩ := dropLevelsRun_cons_some h
    obtain ⟨f1, hsub1⟩ := dropGroupsRun_frame _ h1
    obtain ⟨f2, hsub2, hemp⟩ := ih h2
    refine ⟨f1.trans f2 (fun _ h => h ▸ List.mem_cons_self) (fun _ h => List.mem_cons_of_mem _ h),
      fun st h => hsub1 st (hsub2 st h), fun j hj => hemp j ?_⟩
    by_cases hjl : j = l
    · subst hjl
      rw [dropLevelRun_nil hj] at h1
      cases h1
      exact hj
    · rw [f1.getD hjl]; exact hj

theorem dropGroupsRun_clean (groups : List (List Tbl))
    (h : Lsm.dropGroupsRun lvl ps numKeep groups s steps = some (s', steps'))
    (hinv : ∀ t ∈ s.levels.getD lvl [], NoPrefixT ps t ∨ ∃ g ∈ groups, t ∈ g) :
    ∀ t ∈ s'.levels.getD lvl [], NoPrefixT ps t := by
  induction groups generalizing s steps with
  | nil =>
    rw [Lsm.dropGroupsRun] at h
    cases h
    intro t ht
    rcases hinv t ht with h | ⟨g, hg, _⟩
    · exact h
    · cases hg
  | cons g gs ih =>
    obtain ⟨st, steps1, s1, rfl, h1, h2⟩ := dropGroupsRun_cons_some h
    have hc := dropGroupStep_some h1
    obtain ⟨new0, hsp, hlv⟩ := sameLevel_level (cd := groupCd s lvl ps g st) rfl rfl hc
    refine ih h2 (fun t ht => ?_)
    rcases hlv t ht with hkept | hnew
    · obtain ⟨j, hj, hnb⟩ := mem_removeIdx.mp hkept
      rcases hinv t (List.mem_of_getElem? hj) with h | ⟨g', hg', htg⟩
      · exact .inl h
      · rcases List.mem_cons.mp hg' with rfl | hg'
        · exact absurd (mem_groupPos.mpr ⟨t, hj, htg⟩) hnb
        · exact .inr ⟨g', hg', htg⟩
    · exact .inl (new_tables_noPrefix hsp t hnew)

theorem dropLevelRun_clean (hv : ∀ t ∈ s.levels.getD lvl [], TblV t)
    (h : s.dropLevelRun lvl ps numKeep steps = some (s', steps')) :
    ∀ t ∈ s'.levels.getD lvl [], NoPrefixT ps t := by
  refine dropGroupsRun_clean _ h (fun t ht => ?_)
  obtain ⟨hne, hs, hver⟩ := hv t ht
  by_cases hc : t.containsAnyPrefixes ps = true
  · right
    obtain ⟨j, hj⟩ := List.getElem?_of_mem ht
    obtain ⟨g, hg, hjg⟩ := C29_dropGroups_cover hj hc
    exact ⟨_, List.mem_map.mpr ⟨g, hg, rfl⟩, mem_pickIdx.mpr ⟨j, hjg, hj⟩⟩
  · left
    intro e he
    cases hp : hasAnyPrefix e.key ps with
    | false => rfl
    | true => exact absurd ((C29_containsAnyPrefixes_iff hne hs hver ps).mpr ⟨e, he, hp⟩) hc

theorem dropLevelsRun_clean (lvls : List Nat) (hnd : lvls.Nodup)
    (hv : ∀ l ∈ lvls, ∀ t ∈ s.levels.getD l [], TblV t)
    (h : Lsm.dropLevelsRun ps numKeep lvls s steps = some (s', steps')) :
    ∀ l ∈ lvls, ∀ t ∈ s'.levels.getD l [], NoPrefixT ps t := by
  induction lvls generalizing s steps with
  | nil => intro l hl; cases hl
  | cons lvl lvls ih =>
    obtain ⟨s1, steps1, h1, h2⟩ := dropLevelsRun_cons_some h
    obtain ⟨hnl, hnd'⟩ := List.nodup_cons.mp hnd
    have f1 := (dropGroupsRun_frame _ h1).1
    have hne : ∀ l ∈ lvls, l ≠ lvl := fun l hl e => hnl (e ▸ hl)
    have c2 := ih hnd' (fun l hl t ht => hv l (List.mem_cons_of_mem _ hl) t (f1.getD (hne l hl) ▸ ht)) h2
    intro l hl t ht
    rcases List.mem_cons.mp hl with rfl | hl
    · rw [(dropLevelsRun_frame _ h2).1.getD hnl] at ht
      exact dropLevelRun_clean (hv l List.mem_cons_self) h1 t ht
    · exact c2 l hl t ht

/-- nothing happens for an empty L0; otherwise one step is used for the compaction `l0Cd` -/
theorem dropL0Run_cases (hrun : s.dropL0Run ps base numKeep steps = some (s', steps')) :
    (s' = s ∧ s.levels.getD 0 [] = []) ∨
    (∃ st, steps = st :: steps' ∧ s.levels.getD 0 [] ≠ [] ∧ 0 < base ∧
      s.compact (l0Cd s ps base st) st.discardTs numKeep st.now = some s') := by
  revert hrun
  fun_cases Lsm.dropL0Run s ps base numKeep steps <;> intro hrun <;> cases hrun
  case case1 hemp => exact .inl ⟨rfl, List.isEmpty_iff.mp hemp⟩  -- L0 is empty
  case case4 hemp hb st s2 hc =>  -- the compaction succeeds
    exact .inr ⟨st, rfl, fun h => hemp (List.isEmpty_iff.mpr h), Nat.pos_of_ne_zero (by simpa using hb), hc⟩

theorem dropL0Run_clean (h : s.dropL0Run ps base numKeep steps = some (s', steps'))
    (hclean : ∀ j, 1 ≤ j → ∀ t ∈ s.levels.getD j [], NoPrefixT ps t) :
    s'.mem = s.mem ∧ s'.imm = s.imm ∧ ∀ j, ∀ t ∈ s'.levels.getD j [], NoPrefixT ps t := by
  rcases dropL0Run_cases h with ⟨rfl, hemp⟩ | ⟨st, _, _, hb, hc⟩
  · refine ⟨rfl, rfl, fun j t ht => ?_⟩
    cases j with
    | zero => rw [hemp] at ht; cases ht
    | succ j => exact hclean (j + 1) (Nat.succ_pos j) t ht
  · obtain ⟨new0, hsp, rfl⟩ := compact_some hc
    refine ⟨rfl, rfl, fun j t ht => ?_⟩
    have hne : (l0Cd s ps base st).thisLevel ≠ (l0Cd s ps base st).nextLevel := Nat.ne_of_lt hb
    simp only [newLevels] at ht
    rcases mem_getD_set ht with ⟨rfl, ht⟩ | ⟨_, ht⟩
    · unfold newNext takenIdx at ht
      rw [mem_sortBySmallest, if_neg hne] at ht
      rcases List.mem_append.mp ht with ht | ht
      · obtain ⟨i, hi, _⟩ := mem_removeIdx.mp ht
        exact hclean _ hb t (List.mem_of_getElem? hi)
      · exact new_tables_noPrefix hsp t ht
    · rcases mem_getD_set ht with ⟨_, ht⟩ | ⟨hj0, ht⟩
      · simp only [cdThisT, l0Cd, removeIdx_range, List.drop_length] at ht
        cases ht
      · exact hclean j (Nat.pos_of_ne_zero hj0) t ht

end Run

theorem flushAll_spec {s : Lsm} (h0 : 0 < s.levels.length) (ids : List Nat) :
    (s.flushAll ids).mem = [] ∧ (s.flushAll ids).imm = [] ∧
      (s.flushAll ids).levels.length = s.levels.length ∧
      ∀ j, 1 ≤ j → (s.flushAll ids).levels[j]? = s.levels[j]? := by
  obtain ⟨l0, rest, hl⟩ := List.exists_cons_of_length_pos h0
  rw [flushAll_eq hl, hl]
  exact ⟨rfl, rfl, rfl, fun j hj => by cases j with | zero => cases hj | succ j => rfl⟩

theorem mem_dropLevels {s : Lsm} {l : Nat} : l ∈ dropLevels s ↔ 1 ≤ l ∧ l < s.levels.length := by
  simp [dropLevels, and_comm]

theorem dropLevels_nodup (s : Lsm) : (dropLevels s).Nodup := by
  unfold dropLevels
  rw [List.Nodup, List.pairwise_reverse]
  exact (List.Pairwise.sublist List.filter_sublist List.nodup_range).imp (fun h => Ne.symm h)

/-- the run is either nothing (no prefixes) or: flush, the passes over the levels `≥ 1`, and the
    L0 → base compaction that uses up the remaining steps -/
theorem dropPrefixRun_some {s s' : Lsm} {ps : List Bytes} {flushIds : List Nat} {base numKeep : Nat}
    {steps : List DropStep} (h : s.dropPrefixRun ps flushIds base numKeep steps = some s') :
    (ps = [] ∧ s' = s) ∨ ∃ s2 steps2,
      Lsm.dropLevelsRun ps numKeep (dropLevels (s.flushAll flushIds)) (s.flushAll flushIds) steps =
        some (s2, steps2) ∧ s2.dropL0Run ps base numKeep steps2 = some (s', []) := by
  revert h
  fun_cases Lsm.dropPrefixRun s ps flushIds base numKeep steps <;> intro h <;> cases h
  case case1 hemp => exact .inl ⟨List.isEmpty_iff.mp hemp, rfl⟩  -- no prefixes
  case case3 s2 steps2 h1 h3 => exact .inr ⟨s2, steps2, h1, h3⟩  -- both parts succeed, no step is left

/-- **C29** — after `DropPrefix(ps)` no entry of any source (memtables, L0, deeper levels) has a
    user key with one of the prefixes. `LsmInv`: tables non-empty and sorted, levels `≥ 1`
    key-disjoint; `VerBound`: versions are `uint64`s (the `isPresent` seek uses
    `KeyWithTs(prefix, MaxUint64)`). -/
theorem C29_prefix_gone {s s' : Lsm} {ps : List Bytes} {flushIds : List Nat} {base numKeep : Nat}
    {steps : List DropStep} (hinv : LsmInv s) (hv : VerBound s) (h0 : 0 < s.levels.length)
    (h : s.dropPrefixRun ps flushIds base numKeep steps = some s') :
    ∀ e ∈ s'.allEntries, hasAnyPrefix e.key ps = false := by
  rcases dropPrefixRun_some h with ⟨rfl, _⟩ | ⟨s2, steps2, h1, h3⟩
  · intro e _; rfl
  · obtain ⟨fm, fi, fl, fo⟩ := flushAll_spec h0 flushIds
    have f2 := (dropLevelsRun_frame _ h1).1
    have c2 := dropLevelsRun_clean _ (dropLevels_nodup _)
      (fun l hl t ht => by
        have hl' := mem_dropLevels.mp hl
        have hj := (fo l hl'.1).symm.trans (levels_getD hl'.2)
        have hok := (hinv.level hj).1 t ht
        exact ⟨hok.1, hok.2, fun e he => hv e (mem_allEntries_of_level ⟨_, t, hj, ht, he⟩)⟩) h1
    obtain ⟨m3, i3, c3⟩ := dropL0Run_clean h3 (fun j hj t ht => by
      by_cases hjl : j < s2.levels.length
      · exact c2 j (mem_dropLevels.mpr ⟨hj, f2.len ▸ hjl⟩) t ht
      · rw [List.getD_eq_getElem?_getD, List.getElem?_eq_none (by omega)] at ht
        cases ht)
    intro e he
    rcases mem_allEntries.mp he with hm | ⟨m, hm, _⟩ | ⟨i, tbls, t, hi, ht, het⟩
    · rw [m3, f2.mem, fm] at hm; cases hm
    · rw [i3, f2.imm, fi] at hm; cases hm
    · exact c3 i t (by rw [List.getD_eq_getElem?_getD, hi]; exact ht) e het

/-- **C29** — what a read must return (`Lsm.specGet`) for a key with a dropped prefix after
    `DropPrefix`: absent, at every timestamp and on every clock. -/
theorem C29_prefix_invisible_spec {s s' : Lsm} {ps : List Bytes} {flushIds : List Nat} {base numKeep : Nat}
    {steps : List DropStep} (hinv : LsmInv s) (hv : VerBound s) (h0 : 0 < s.levels.length)
    (h : s.dropPrefixRun ps flushIds base numKeep steps = some s') {k : Bytes}
    (hk : hasAnyPrefix k ps = true) (ts now : Nat) : s'.specGet k ts now = none := by
  unfold Lsm.specGet
  rw [newestLE_none_of_noPrefix (C29_prefix_gone hinv hv h0 h) hk]
  rfl

/-- the same for the model's real read path `Lsm.get`, given that the resulting state is
    well-formed (levels sorted by internal key: `LsmInvW`) -/
theorem C29_prefix_invisible {s s' : Lsm} {ps : List Bytes} {flushIds : List Nat} {base numKeep : Nat}
    {steps : List DropStep} (hinv : LsmInv s) (hv : VerBound s) (h0 : 0 < s.levels.length)
    (h : s.dropPrefixRun ps flushIds base numKeep steps = some s') (hinv' : LsmInvW s') {k : Bytes}
    (hk : hasAnyPrefix k ps = true) (ts : Nat) : s'.get k ts = none := by
  rw [C01_get_spec_weak hinv']
  exact newestLE_none_of_noPrefix (C29_prefix_gone hinv hv h0 h) hk ts

/-! ## sanity: a concrete run (memtable + immutable + L0 + a deeper level, two prefixed tables
forming one group, one of them skipped by `keepTable`) -/

namespace C29Sample

def mk (k : List Nat) (v : Nat) : Ent :=
  { key := k.map UInt8.ofNat, ver := v, emeta := 0, umeta := 0, exp := 0, val := [] }

def deep : List Tbl :=
  [{ ents := [mk [1] 1, mk [1, 5] 1], id := 1 }, { ents := [mk [2] 1, mk [2, 0] 1], id := 2 },
   { ents := [mk [2, 1] 1, mk [3] 1], id := 3 }, { ents := [mk [4] 1, mk [5] 1], id := 4 },
   { ents := [mk [8] 1, mk [9] 1], id := 6 }]

def s0 : Lsm :=
  { mem := [mk [2, 1] 9], imm := [[mk [1] 3]], levels := [[{ ents := [mk [1] 2, mk [5] 2], id := 10 }], [], deep] }

def sF : Lsm :=
  { mem := [], imm := [], levels := [[{ ents := [mk [1] 2, mk [5] 2], id := 10 }, { ents := [mk [1] 3], id := 20 },
      { ents := [mk [2, 1] 9], id := 21 }], [], deep] }

def sA : Lsm :=
  { sF with levels := [[{ ents := [mk [1] 2, mk [5] 2], id := 10 }, { ents := [mk [1] 3], id := 20 },
      { ents := [mk [2, 1] 9], id := 21 }], [],
    [{ ents := [mk [1] 1, mk [1, 5] 1], id := 1 }, { ents := [mk [3] 1], id := 30 },
     { ents := [mk [4] 1, mk [5] 1], id := 4 }, { ents := [mk [8] 1, mk [9] 1], id := 6 }]] }

def sEnd : Lsm :=
  { mem := [], imm := [], levels := [[], [],
    [{ ents := [mk [1] 3, mk [1] 2, mk [1] 1, mk [1, 5] 1, mk [3] 1], id := 31 },
     { ents := [mk [4] 1, mk [5] 2, mk [5] 1], id := 32 }, { ents := [mk [8] 1, mk [9] 1], id := 6 }]] }

def st1 : DropStep := { outSizes := [1], outIds := [30], discardTs := 0, now := 0 }
def st2 : DropStep := { outSizes := [5, 3], outIds := [31, 32], discardTs := 0, now := 0 }

theorem s0_inv : LsmInv s0 := by decide +kernel
theorem s0_ver : VerBound s0 := by decide +kernel

example : LsmInv s0 ∧ VerBound s0 ∧ 0 < s0.levels.length := ⟨s0_inv, s0_ver, by decide +kernel⟩
example : (s0.flushAll [20, 21]).dropPlan [[2]] = [(2, [[2, 3]])] := by decide +kernel

theorem e1 : s0.flushAll [20, 21] = sF := by decide +kernel
theorem e2 : dropLevels sF = [2, 1] := by decide +kernel
theorem hg : (dropGroups (sF.levels.getD 2 []) [[2]]).map (fun g => pickIdx (sF.levels.getD 2 []) g) =
    [[{ ents := [mk [2] 1, mk [2, 0] 1], id := 2 }, { ents := [mk [2, 1] 1, mk [3] 1], id := 3 }]] := by
  decide +kernel
theorem e3 : sF.dropLevelRun 2 [[2]] 1 [st1, st2] = some (sA, [st2]) := by decide +kernel
theorem e4 : sA.dropLevelRun 1 [[2]] 1 [st2] = some (sA, [st2]) := by decide +kernel

end C29Sample

open C29Sample in
/-- the run on the sample state: the memtable entry `[2,1]@9`, the all-prefix table #2 (skipped by
    `keepTable`) and the prefixed half of table #3 disappear, everything else stays -/
theorem C29_sample_run : s0.dropPrefixRun [[2]] [20, 21] 2 1 [st1, st2] = some sEnd := by decide +kernel

open C29Sample in
example : ∀ e ∈ sEnd.allEntries, hasAnyPrefix e.key [[2]] = false :=
  C29_prefix_gone s0_inv s0_ver (by decide +kernel) C29_sample_run

end Badger
