import BadgerProofs.Props.C26
import BadgerProofs.Lemmas.LsmInv
/-!
# C26 ↔ the LSM invariant of `Lemmas/LsmInv.lean`
`SwLevelOk` (C26.lean) is `LevelOk` (the C14 shape used by C01/C12/C14) spelled out; this module
restates `C26_levels_valid` with `LevelOk`.
-/
namespace Badger

theorem swLevelOk_iff_levelOk (i : Nat) (tbls : List Tbl) : SwLevelOk i tbls ↔ LevelOk i tbls :=
  Iff.rfl

theorem C26_levels_valid_LevelOk (d : Db) (st0 st : SwState) (bufs : List (List SKV)) (sizes ids : List Nat)
    (d' : Db) (valid : Bool) (h0 : SwFresh d st0) (hin : SwInputOk bufs.flatten)
    (hempty : d.lsm.levels.getD (swTarget d st0) [] = [])
    (hdata : dataEnts bufs.flatten ≠ [])
    (hw : d.swWriteAll st0 bufs = (st, .ok)) (hf : d.swFlush st sizes ids = some (d', valid)) :
    LevelOk (swTarget d st0) (d'.lsm.levels.getD (swTarget d st0) []) :=
  (swLevelOk_iff_levelOk _ _).mp (C26_levels_valid d st0 st bufs sizes ids d' valid h0 hin hempty hdata hw hf).1

end Badger
