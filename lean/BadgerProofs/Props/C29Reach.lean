import BadgerProofs.Props.C01Reach
import BadgerProofs.Props.C29Run
/-!
# C29 over the HISTORY of commits: DropPrefix / DropAll remove exactly the requested data

`ReachD` extends the reachability relation `Reach` of `C01Reach.lean` (commits, flushes,
re-orderings of level 0, picker-valid compactions) by two more steps:

* `dropPrefix`: the whole `DB.DropPrefix(ps)` run of `BadgerModel/Drop.lean`
  (`Lsm.dropPrefixRun`: flush, same-level rewrites of the table groups bottom-up, L0 → base);
  the committed history becomes `hist.filter (notDropped ps)` (`notDropped`: Props/C13.lean);
* `dropAll`: `DB.DropAll`; the history becomes `[]`.

`C29_reachD_good`, `C29_reachD_stored`: every state reached this way is good (`LsmGood`) and
everything stored is in the *filtered* history. `C29_reachD_reads`: a read at `ts ≥` every discard timestamp used
returns the newest committed write `≤ ts` **that was not dropped** — for a key under a dropped
prefix only the writes committed after the drop, for every other key exactly what it returned
before. That is "DropPrefix / DropAll remove exactly the requested data" for every history.
All of them are fields of `Tracks` (`C01Reach.lean`), which both drops preserve
(`Tracks.dropPrefix`, `Tracks.dropAll`; `ReachD.tracks`).

Scope (finding F27b): `ps` is the list of prefixes the run actually drops, i.e. the list *after*
`filterPrefixesToDrop`, which skips a requested prefix under which its iterator finds no visible
key. That filter (a `Txn` iterator over the whole store) is not modelled here; leftovers under a
skipped prefix are versions that were invisible to that iterator (deleted / expired), and for them
the theorem says what it says for every undropped key: reads are unchanged.
-/
namespace Badger

theorem flushAll_eq_flush {s : Lsm} (himm : s.imm = []) (ids : List Nat) :
    s.flushAll ids = s.flush (ids.getD 0 0) := LL.flushAll_eq_flush himm ids

/-- the cut condition for *every* compaction of the run: the same-level rewrites (`DropCuts`) and
    the final L0 → base compaction -/
def DropCutsAll (s : Lsm) (ps : List Bytes) (flushIds : List Nat) (base numKeep : Nat)
    (steps : List DropStep) : Prop :=
  DropCuts s ps flushIds numKeep steps ∧
  ∀ s2 st rest,
    Lsm.dropLevelsRun ps numKeep (dropLevels (s.flushAll flushIds)) (s.flushAll flushIds) steps =
      some (s2, st :: rest) →
    StepCuts s2 (l0Cd s2 ps base st) st.discardTs numKeep st.now

theorem dropPrefixRun_good {s s' : Lsm} {ps : List Bytes} {flushIds : List Nat} {base numKeep : Nat}
    {steps : List DropStep} (hg : LsmGood s) (hbl : base < s.levels.length)
    (hbetween : ∀ j, 0 < j → j < base → s.levels.getD j [] = [])
    (hcuts : DropCutsAll s ps flushIds base numKeep steps)
    (hrun : s.dropPrefixRun ps flushIds base numKeep steps = some s') :
    LsmGood s' ∧ ∀ e ∈ s'.allEntries, e ∈ s.allEntries := by
  obtain ⟨h, hv, hl, hu, himm⟩ := hg
  rcases dropPrefixRun_some hrun with ⟨_, rfl⟩ | ⟨s2, steps2, h2, h3⟩
  · exact ⟨⟨h, hv, hl, hu, himm⟩, fun _ he => he⟩
  · obtain ⟨o2, _, imm2, hbl2, hbetween2⟩ := levelsPart_out h hv hl hbl hbetween hcuts.1 h2
    have g2 : LsmGood s2 := ⟨o2.inv, o2.ver, o2.lay, LL.kvFun_subset hu o2.sub, imm2⟩
    rcases dropL0Run_cases h3 with ⟨rfl, _⟩ | ⟨st, hst, hne, hbpos, hc⟩
    · exact ⟨g2, o2.sub⟩
    · obtain ⟨hok, hto⟩ := l0Cd_ok o2.inv (ps := ps) st hne hbpos hbl2 hbetween2
      exact ⟨g2.compact hok (fun _ => hto) hc (hcuts.2 s2 st [] (hst ▸ h2)),
        fun e he => o2.sub e (LL.mem_allEntries_compact hok.1.1 hok.1.2.1 hc he)⟩

/-- the largest discard timestamp the compactions of a run reported -/
def stepsD (steps : List DropStep) : Nat := steps.foldr (fun st m => max st.discardTs m) 0
/-- the largest clock the compactions of a run reported -/
def stepsN (steps : List DropStep) : Nat := steps.foldr (fun st m => max st.now m) 0

private theorem le_foldr_max {α : Type} (f : α → Nat) {l : List α} {a : α} (h : a ∈ l) :
    f a ≤ l.foldr (fun x m => max (f x) m) 0 := by
  induction l with
  | nil => cases h
  | cons b l ih =>
    rw [List.foldr_cons]
    rcases List.mem_cons.mp h with rfl | h'
    · exact Nat.le_max_left _ _
    · exact Nat.le_trans (ih h') (Nat.le_max_right _ _)

/-- `Reach` (commits, flushes, re-orderings of level 0, picker-valid compactions) plus `DropPrefix` runs and `DropAll`.
    `hist` = every committed entry that has not been dropped since. The hypotheses of `dropPrefix`
    are the ones that are not invariants of reachable states: the base level is a level, nothing lies
    between L0 and it (`levelTargets`), the reported steps fit (`hrun`), and the implementation cut
    every output table where the user key changes (`DropCutsAll`). -/
inductive ReachD (nlev : Nat) : List Ent → Nat → Nat → Lsm → Prop
  | init : ReachD nlev [] 0 0 (Lsm.init nlev)
  | put {hist : List Ent} {dm nm : Nat} {s : Lsm} (r : ReachD nlev hist dm nm s) (e : Ent)
      (hpos : 0 < e.ver) (hmax : e.ver ≤ maxU64)
      (hfresh : ∀ x ∈ hist, x.key = e.key → x.ver < e.ver) : ReachD nlev (e :: hist) dm nm (s.putEnt e)
  | flush {hist : List Ent} {dm nm : Nat} {s : Lsm} (r : ReachD nlev hist dm nm s) (id : Nat) :
      ReachD nlev hist dm nm (s.flush id)
  | resort {hist : List Ent} {dm nm : Nat} {s : Lsm} (r : ReachD nlev hist dm nm s) {l0 l0' : List Tbl}
      {rest : List (List Tbl)} (hl : s.levels = l0 :: rest) (hp : l0'.Perm l0) :
      ReachD nlev hist dm nm { s with levels := l0' :: rest }
  | compact {hist : List Ent} {dm nm : Nat} {s s' : Lsm} (r : ReachD nlev hist dm nm s) (cd : CompactDef)
      (d n now' : Nat) (hi : ChoiceIdxOk s cd) (htop : cd.top ≠ []) (hvc : validChoice s cd = true)
      (hdp : cd.dropPrefixes = []) (hs : s.compact cd d n now' = some s')
      (hcut : ∀ new0, splitSizes cd.outSizes (compactOutput s cd d n now').1 = some new0 →
        CutsAtKeyChange (withIds new0 cd.outIds)) :
      ReachD nlev hist (max dm d) (max nm now') s'
  | dropPrefix {hist : List Ent} {dm nm : Nat} {s s' : Lsm} (r : ReachD nlev hist dm nm s)
      (ps : List Bytes) (flushIds : List Nat) (base numKeep : Nat) (steps : List DropStep)
      (hbl : base < s.levels.length) (hbetween : ∀ j, 0 < j → j < base → s.levels.getD j [] = [])
      (hcuts : DropCutsAll s ps flushIds base numKeep steps)
      (hrun : s.dropPrefixRun ps flushIds base numKeep steps = some s') :
      ReachD nlev (hist.filter (notDropped ps)) (max dm (stepsD steps)) (max nm (stepsN steps)) s'
  | dropAll {hist : List Ent} {dm nm : Nat} {s : Lsm} (r : ReachD nlev hist dm nm s) :
      ReachD nlev [] dm nm s.dropAll

theorem Reach.toReachD {nlev : Nat} {hist : List Ent} {dm nm : Nat} {s : Lsm}
    (r : Reach nlev hist dm nm s) : ReachD nlev hist dm nm s := by
  induction r with
  | init => exact .init
  | put _ e hpos hmax hfresh ih => exact .put ih e hpos hmax hfresh
  | flush _ id ih => exact .flush ih id
  | resort _ hl hp ih => exact .resort ih hl hp
  | compact _ cd d n now' hi htop hvc hdp hs hcut ih => exact .compact ih cd d n now' hi htop hvc hdp hs hcut

theorem dropAll_no_entries (s : Lsm) (e : Ent) : e ∉ s.dropAll.allEntries := by
  rw [C29_dropAll_empty]
  exact List.not_mem_nil

theorem newestLE_notDropped_of_prefix {ps : List Bytes} {k : Bytes} (hk : hasAnyPrefix k ps = true)
    (hist : List Ent) (ts : Nat) : newestLE (hist.filter (notDropped ps)) k ts = none :=
  newestLE_none_of_noPrefix (fun e he => by simpa [notDropped] using (List.mem_filter.mp he).2) hk ts

/-- a whole `DropPrefix(ps)` run: the history loses the entries under `ps`; a key under `ps` reads as
    absent, every other key as before -/
theorem Tracks.dropPrefix {hist : List Ent} {dm nm : Nat} {s s' : Lsm} (h : Tracks hist dm nm s)
    {ps : List Bytes} {flushIds : List Nat} {base numKeep : Nat} {steps : List DropStep}
    (hbl : base < s.levels.length) (hbetween : ∀ j, 0 < j → j < base → s.levels.getD j [] = [])
    (hcuts : DropCutsAll s ps flushIds base numKeep steps)
    (hrun : s.dropPrefixRun ps flushIds base numKeep steps = some s') :
    Tracks (hist.filter (notDropped ps)) (max dm (stepsD steps)) (max nm (stepsN steps)) s' := by
  obtain ⟨hg, hsub, hu, hr⟩ := h
  obtain ⟨hg', hsub'⟩ := dropPrefixRun_good hg hbl hbetween hcuts hrun
  have h0 : 0 < s.levels.length := Nat.zero_lt_of_lt hbl
  have hgone := C29_prefix_gone hg.1 hg.2.1 h0 hrun
  refine ⟨hg', fun e he => List.mem_filter.mpr ⟨hsub e (hsub' e he), by rw [notDropped, hgone e he]; rfl⟩,
    LL.kvFun_subset hu (fun x hx => (List.mem_filter.mp hx).1), fun {ts now} hts hnow k => ?_⟩
  obtain ⟨hd1, hd2⟩ := Nat.max_le.mp hts
  obtain ⟨hn1, hn2⟩ := Nat.max_le.mp hnow
  cases hk : hasAnyPrefix k ps with
  | true =>
    rw [C01_get_spec hg'.1, newestLE_none_of_noPrefix hgone hk, newestLE_notDropped_of_prefix hk]
  | false =>
    rw [C29_others_unchanged hg.1 hg.2.1 hg.2.2.1 h0 hbl hbetween hcuts.1 hrun hk
      (fun st hst => ⟨Nat.le_trans (le_foldr_max (·.discardTs) hst) hd2,
        Nat.le_trans (le_foldr_max (·.now) hst) hn2⟩),
      hr hd1 hn1, newestLE_notDropped_of_other hk]

theorem Tracks.dropAll (s : Lsm) (dm nm : Nat) : Tracks [] dm nm s.dropAll := by
  rw [Lsm.dropAll_eq_init]
  exact (Tracks.init _).mono (Nat.zero_le _) (Nat.zero_le _)

theorem ReachD.tracks {nlev : Nat} {hist : List Ent} {dm nm : Nat} {s : Lsm} (r : ReachD nlev hist dm nm s) :
    Tracks hist dm nm s := by
  induction r with
  | init => exact .init nlev
  | put _ e hpos hmax hfresh ih => exact ih.put hpos hmax hfresh
  | flush _ id ih => exact ih.flush id
  | resort _ hl hp ih => exact ih.resort hl hp
  | compact _ cd d n now' hi htop hvc hdp hs hcut ih => exact ih.compact hi htop hvc hdp hs hcut
  | dropPrefix _ ps flushIds base numKeep steps hbl hbetween hcuts hrun ih => exact ih.dropPrefix hbl hbetween hcuts hrun
  | dropAll _ _ => exact .dropAll _ _ _

/-- **C29 over histories (good states)** — every state reached by commits, flushes, re-orderings of
    level 0, picker-valid compactions, `DropPrefix` runs and `DropAll` is good -/
theorem C29_reachD_good {nlev : Nat} {hist : List Ent} {dm nm : Nat} {s : Lsm} (r : ReachD nlev hist dm nm s) :
    LsmGood s := r.tracks.good

/-- **C29 over histories** — such a state stores only committed entries that have not been dropped -/
theorem C29_reachD_stored {nlev : Nat} {hist : List Ent} {dm nm : Nat} {s : Lsm} (r : ReachD nlev hist dm nm s) :
    ∀ e ∈ s.allEntries, e ∈ hist := r.tracks.stored

/-- in particular nothing under a dropped prefix is stored until it is committed again -/
theorem C29_reachD_dropped_gone {nlev : Nat} {hist : List Ent} {dm nm : Nat} {s s' : Lsm}
    (r : ReachD nlev hist dm nm s) (ps : List Bytes) (flushIds : List Nat) (base numKeep : Nat)
    (steps : List DropStep) (hbl : base < s.levels.length)
    (hrun : s.dropPrefixRun ps flushIds base numKeep steps = some s') :
    ∀ e ∈ s'.allEntries, hasAnyPrefix e.key ps = false := by
  obtain ⟨h, hv, _⟩ := C29_reachD_good r
  exact C29_prefix_gone h hv (Nat.zero_lt_of_lt hbl) hrun

/-- **C29 over histories (reads)** — in a state reached by any sequence of commits, flushes,
    re-orderings of level 0, picker-valid compactions, `DropPrefix` runs and `DropAll`s, a read at `ts ≥` every discard
    timestamp used so far (clock `≥` every compaction's clock) returns the newest committed write
    `≤ ts` of the key **among the writes that were not dropped**: `hist` is the committed history
    with, at every `DropPrefix(ps)`, the entries under `ps` removed, and emptied at every `DropAll`. -/
theorem C29_reachD_reads {nlev : Nat} {hist : List Ent} {dm nm : Nat} {s : Lsm} (r : ReachD nlev hist dm nm s)
    {ts now : Nat} (hts : dm ≤ ts) (hnow : nm ≤ now) (k : Bytes) :
    visible now (s.get k ts) = visible now (newestLE hist k ts) := r.tracks.reads hts hnow k

/-- the two readings of `C29_reachD_reads` right after a `DropPrefix(ps)`:
    a key under a dropped prefix reads as absent, every other key as before the drop -/
theorem C29_reachD_after_drop {nlev : Nat} {hist : List Ent} {dm nm : Nat} {s s' : Lsm}
    (r : ReachD nlev hist dm nm s) (ps : List Bytes) (flushIds : List Nat) (base numKeep : Nat)
    (steps : List DropStep) (hbl : base < s.levels.length)
    (hbetween : ∀ j, 0 < j → j < base → s.levels.getD j [] = [])
    (hcuts : DropCutsAll s ps flushIds base numKeep steps)
    (hrun : s.dropPrefixRun ps flushIds base numKeep steps = some s')
    {ts now : Nat} (hts : max dm (stepsD steps) ≤ ts) (hnow : max nm (stepsN steps) ≤ now) (k : Bytes) :
    (hasAnyPrefix k ps = true → visible now (s'.get k ts) = none) ∧
    (hasAnyPrefix k ps = false → visible now (s'.get k ts) = visible now (s.get k ts)) := by
  have hr' := C29_reachD_reads (ReachD.dropPrefix r ps flushIds base numKeep steps hbl hbetween hcuts hrun)
    hts hnow k
  exact ⟨fun hk => by rw [hr', newestLE_notDropped_of_prefix hk]; rfl,
    fun hk => by
      rw [hr', C29_reachD_reads r (Nat.max_le.mp hts).1 (Nat.max_le.mp hnow).1 k,
        newestLE_notDropped_of_other hk]⟩

/-- the filtered history stays well formed: an internal key determines the entry -/
theorem C29_reachD_hist_unique {nlev : Nat} {hist : List Ent} {dm nm : Nat} {s : Lsm}
    (r : ReachD nlev hist dm nm s) : LL.KVFun hist := r.tracks.uniq

namespace C29ReachSample

def E2 : Ent := ⟨[2], 1, 0, 0, 0, [20]⟩
def E3 : Ent := ⟨[3], 1, 0, 0, 0, [30]⟩
def E1 : Ent := ⟨[1], 2, 0, 0, 0, [10]⟩
def E2' : Ent := ⟨[2], 3, 0, 0, 0, [21]⟩

def S3 : Lsm := (((Lsm.init 2).putEnt E2).putEnt E3).flush 5
def cd4 : CompactDef :=
  { thisLevel := 0, nextLevel := 1, top := [0], bot := [], outSizes := [2], dropPrefixes := [] }
def S4 : Lsm := { mem := [], imm := [], levels := [[], [{ ents := [E2, E3] }]] }
def S5 : Lsm := S4.putEnt E1
def SF : Lsm := { mem := [], imm := [], levels := [[{ ents := [E1], id := 7 }], [{ ents := [E2, E3] }]] }
def SA : Lsm := { mem := [], imm := [], levels := [[{ ents := [E1], id := 7 }], [{ ents := [E3], id := 8 }]] }
def S6 : Lsm := { mem := [], imm := [], levels := [[], [{ ents := [E1], id := 9 }, { ents := [E3], id := 8 }]] }
def st1 : DropStep := { outSizes := [1], outIds := [8], discardTs := 0, now := 0 }
def st2 : DropStep := { outSizes := [1], outIds := [9], discardTs := 0, now := 0 }

theorem r4 : ReachD 2 [E3, E2] (max 0 0) (max 0 0) S4 := by
  have r1 : ReachD 2 [E2] 0 0 ((Lsm.init 2).putEnt E2) :=
    ReachD.put ReachD.init E2 (by decide) (by decide) (by simp)
  have r2 : ReachD 2 [E3, E2] 0 0 (((Lsm.init 2).putEnt E2).putEnt E3) :=
    ReachD.put r1 E3 (by decide) (by decide) (by decide)
  have r3 : ReachD 2 [E3, E2] 0 0 S3 := ReachD.flush r2 5
  exact ReachD.compact r3 cd4 0 1 0 (by decide) (by decide) (by decide) rfl
    (by decide +kernel)
    (stepCuts_of_le_one (Nat.le_refl 1))

theorem r5 : ReachD 2 [E1, E3, E2] (max 0 0) (max 0 0) S5 :=
  ReachD.put r4 E1 (by decide) (by decide)
    (by decide)

theorem e1 : S5.flushAll [7] = SF := by decide +kernel
theorem e2 : dropLevels SF = [1] := by decide +kernel
theorem hg : (dropGroups (SF.levels.getD 1 []) [[2]]).map (fun g => pickIdx (SF.levels.getD 1 []) g) =
    [[{ ents := [E2, E3] }]] := by decide +kernel
theorem e3 : SF.dropLevelRun 1 [[2]] 1 [st1, st2] = some (SA, [st2]) := by decide +kernel
theorem run6 : S5.dropPrefixRun [[2]] [7] 1 1 [st1, st2] = some S6 := by decide +kernel

theorem cuts6 : DropCutsAll S5 [[2]] [7] 1 1 [st1, st2] := by
  refine ⟨?_, ?_⟩
  · unfold DropCuts
    rw [e1, e2]
    simp only [levelsCuts, e3, levelCuts, hg, groupsCuts, and_true]
    exact ⟨stepCuts_of_le_one (Nat.le_refl 1), by split <;> trivial⟩
  · intro s2 st rest h
    simp only [e1, e2, Lsm.dropLevelsRun, e3] at h
    cases h
    exact stepCuts_of_le_one (Nat.le_refl 1)

/-- commits, a flush, a picker-valid compaction, a commit, `DropPrefix([2])` (one same-level
    rewrite on L1 and the L0 → L1 compaction), and a commit under the dropped prefix afterwards -/
theorem r7 : ReachD 2 [E2', E1, E3] (max (max 0 0) (stepsD [st1, st2])) (max (max 0 0) (stepsN [st1, st2]))
    (S6.putEnt E2') := by
  have r6 := ReachD.dropPrefix r5 [[2]] [7] 1 1 [st1, st2] (by decide)
    (by intro j h1 h2; omega) cuts6 run6
  have hh : [E1, E3, E2].filter (notDropped [[2]]) = [E1, E3] := by decide +kernel
  rw [hh] at r6
  exact ReachD.put r6 E2' (by decide) (by decide)
    (by decide)

end C29ReachSample

open C29ReachSample in
/-- non-vacuity of `C29_reachD_reads`: after the drop the old `[2]@1` is gone for good (a read of
    key `[2]` at `ts = 2` finds nothing although `[2]@1` was committed), the write committed after the
    drop is found at `ts = 5`, and key `[3]` reads as ever -/
theorem C29_reachD_sample :
    LsmGood (S6.putEnt E2') ∧
    visible 0 ((S6.putEnt E2').get [2] 2) = none ∧
    visible 0 ((S6.putEnt E2').get [2] 5) = some E2' ∧
    visible 0 ((S6.putEnt E2').get [3] 5) = some E3 := by
  refine ⟨C29_reachD_good r7, ?_, ?_, ?_⟩
  · rw [C29_reachD_reads r7 (by decide +kernel) (by decide +kernel)]; decide +kernel
  · rw [C29_reachD_reads r7 (by decide +kernel) (by decide +kernel)]; decide +kernel
  · rw [C29_reachD_reads r7 (by decide +kernel) (by decide +kernel)]; decide +kernel

end Badger
