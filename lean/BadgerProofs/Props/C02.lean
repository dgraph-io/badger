import BadgerProofs.Lemmas.Oracle
import BadgerProofs.Lemmas.OracleManaged
/-!
# C02 — read-write transactions are serializable (SSI conflict detection), oracle level

Model: `BadgerModel/Oracle.lean` (`Oracle`, `Sys`, `Label`, `OReach`). `C02_sound`, `C02_serial` and
`C02_cleanup_safe` quantify over all reachable states `OReach false true n s` of a database opened in
**normal mode** with **DetectConflicts** at `MaxVersion() = n` (`C02_readMark_counts`,
`C02_complete` and `C02_conflict_no_trace_step` also without conflict detection; `C02_conflict_no_trace`
is about any oracle): any number of transactions, any interleaving of
begin / WaitForMark / read / write / commit / discard / doneCommit steps and of the two watermark
`process` goroutines (which may lag arbitrarily behind the marks sent), plus `cleanup` at
arbitrary moments. `s.hist` is the ghost history of *every* transaction that obtained a commit
timestamp (`allocated` in DESIGN §6; never pruned), in allocation order.

Fingerprints are arbitrary numbers: "up to 64-bit fingerprint collisions" is built in (a
collision is a genuine overlap for the model).

Managed mode (`OReach true true n s`): `C02_sound_managed` / `C02_complete_managed` under the API
contract "`discardTs ≤ readTs` of the committing transaction" (stated hypothesis; without it the
statement is false by design, `C02_managed_needs_contract`).
-/
namespace Badger

/-- **The invariant linking the read mark to open transactions.** In every reachable state the
    read watermark, once its channel is drained, has a pending count at `r` equal to the number
    of transactions that hold the read mark at read timestamp `r` (begun, `doneRead` not yet
    called). Hence (`C34_not_ahead`) `readMark.DoneUntil()` is `≤` the read timestamp of every such
    transaction. -/
theorem C02_readMark_counts {d : Bool} {n : Nat} {s : Sys} (h : OReach false d n s) (r : Nat) :
    s.o.readMark.virt.pending.val r = ((s.txns.countP (holdsAt r) : Nat) : Int) ∧
    (∀ x ∈ s.txns, x.holdsRead = true → s.o.readMark.doneUntil ≤ x.t.readTs) := by
  have hI := h.inv
  refine ⟨?_, fun x hx hh => hI.readMark_le x hx hh⟩
  rw [hI.rmTracks.virt, hI.rmVirt.cnt]
  exact hI.rmCnt r

/-- **`cleanupCommittedTransactions` is safe.** (a) the pruning bound never exceeds the read
    watermark: `lastCleanupTs ≤ readMark.DoneUntil()`; (b) every transaction still holding the read
    mark (in particular every open update transaction) has `readTs ≥ readMark.DoneUntil()`;
    (c) therefore every history entry with a commit timestamp above such a transaction's read
    timestamp is still present in `committedTxns`: nothing it could conflict with was pruned;
    (d) `committedTxns` is exactly the history above `lastCleanupTs`. -/
theorem C02_cleanup_safe {n : Nat} {s : Sys} (h : OReach false true n s) :
    s.o.lastCleanupTs ≤ s.o.readMark.doneUntil ∧
    (∀ x ∈ s.txns, x.holdsRead = true → s.o.readMark.doneUntil ≤ x.t.readTs) ∧
    (∀ x ∈ s.txns, x.holdsRead = true → ∀ c ∈ s.hist, x.t.readTs < c.ts →
      (⟨c.ts, c.conflictKeys⟩ : CommittedTxn) ∈ s.o.committedTxns) ∧
    s.o.committedTxns =
      (s.hist.filter (fun c => decide (s.o.lastCleanupTs < c.ts))).map (fun c => ⟨c.ts, c.conflictKeys⟩) := by
  have hI := h.inv
  refine ⟨hI.cleanupLe, fun x hx hh => hI.readMark_le x hx hh,
    fun x hx hh c hc hlt => hI.cleanup_safe x hx hh c hc hlt, ?_⟩
  have := hI.committed
  simp only [if_true] at this
  rw [this]; rfl

/-- **Soundness of conflict detection.** In every reachable state, if `Commit` of an active
    transaction `x` would be accepted (`newCommitTs` returns a timestamp `ts`), then `ts` is
    `nextTxnTs`, every history entry with a timestamp above `x.readTs` is below `ts`, and none of
    them wrote a fingerprint that `x` read. -/
theorem C02_sound {n : Nat} {s : Sys} (h : OReach false true n s) (tid : Nat) (x : TxnSt)
    (hx : s.txns[tid]? = some x) (hph : x.phase = .active) (ts : Nat)
    (hok : s.commitResult tid = some (.ok ts)) :
    ts = s.o.nextTxnTs ∧
    ∀ c ∈ s.hist, x.t.readTs < c.ts → c.ts < ts ∧ ∀ fp ∈ x.t.reads, fp ∉ c.conflictKeys := by
  have hI := h.inv
  have hxm := List.mem_of_getElem? hx
  have hdr := hI.doneRead_false x hxm (by rw [hph]; decide)
  have hh : x.holdsRead = true := by simp [TxnSt.holdsRead, hph, hdr]
  obtain ⟨hc, rfl⟩ := hI.commitResult_ok hx hph hok
  exact ⟨rfl, fun c hcm hlt => ⟨(hI.histLt c hcm).2, hI.no_conflict_hist x hxm hh hc c hcm hlt⟩⟩

/-- **Completeness (no false aborts up to fingerprint collisions).** If `Commit` of `x` is
    rejected, some transaction that obtained a commit timestamp after `x.readTs` did write a
    fingerprint that `x` read. (Stated over the history of *allocated* timestamps: a transaction
    whose `sendToWriteCh` failed after `newCommitTs` stays in `committedTxns`, DESIGN F11.) -/
theorem C02_complete {d : Bool} {n : Nat} {s : Sys} (h : OReach false d n s) (tid : Nat) (x : TxnSt)
    (hx : s.txns[tid]? = some x) (hcf : s.commitResult tid = some .conflict) :
    ∃ fp ∈ x.t.reads, ∃ c ∈ s.hist, x.t.readTs < c.ts ∧ fp ∈ c.conflictKeys := by
  simp only [Sys.commitResult, hx, Option.some.injEq] at hcf
  obtain ⟨c, hcm, hlt, fp, hfp, hmem⟩ :=
    (Oracle.hasConflict_eq_true _ _).mp (Oracle.hasConflict_of_conflict hcf)
  -- the conflict log holds nothing that is not in the history
  rw [h.inv.committed] at hcm
  cases d with
  | false => cases hcm
  | true =>
    obtain ⟨c0, hc0, rfl⟩ := List.mem_map.mp hcm
    exact ⟨fp, hfp, c0, (List.mem_filter.mp hc0).1, hlt, hmem⟩

/-- **A rejected commit leaves no trace in the oracle**: whatever the state (reachable or not),
    when `newCommitTs` reports a conflict the oracle is returned unchanged — `nextTxnTs`,
    `committedTxns`, `lastCleanupTs` and both watermarks (no `doneRead`, no `txnMark.Begin`). -/
theorem C02_conflict_no_trace (o : Oracle) (t : Txn) (hcf : (o.newCommitTs t).2.2 = .conflict) :
    (o.newCommitTs t).1 = o ∧ (o.newCommitTs t).2.1 = t := by
  rw [Oracle.newCommitTs_of_conflict (Oracle.hasConflict_of_conflict hcf)]
  exact ⟨rfl, rfl⟩

/-- … and at the level of the transition system: the step of a rejected `Commit` changes neither
    the oracle nor the history (the transaction merely waits for its deferred `Discard`). -/
theorem C02_conflict_no_trace_step {d : Bool} {n : Nat} {s s' : Sys} (h : OReach false d n s) (tid : Nat)
    (hcf : s.commitResult tid = some .conflict) (hs : s.step (.commit tid) = some s') :
    s'.o.nextTxnTs = s.o.nextTxnTs ∧ s'.o.committedTxns = s.o.committedTxns ∧
    s'.o.lastCleanupTs = s.o.lastCleanupTs ∧ s'.hist = s.hist ∧ s'.doneCommits = s.doneCommits ∧
    s'.rmSent = s.rmSent ∧ s'.tmSent = s.tmSent := by
  have conflict : ∀ x, s.txns[tid]? = some x → s.o.hasConflict x.t = true := fun x hx =>
    Oracle.hasConflict_of_conflict (by simpa [Sys.commitResult, hx] using hcf)
  cases Sys.Step.of_step h.inv hs with
  | commitConflict => exact ⟨rfl, rfl, rfl, rfl, rfl, rfl, rfl⟩
  | commitOk hx _ hc => rw [conflict _ hx] at hc; cases hc

/-- **Serializability in commit-timestamp order (fingerprint level).** In every reachable
    state, for every transaction `h` of the history and every fingerprint it read, the committed
    writers of that fingerprint visible at its snapshot (`ts ≤ h.readTs`) are exactly the writers
    that precede it in commit-timestamp order (`ts < h.ts`): re-executing the history serially in
    commit-timestamp order, `h` reads the same versions it read at its snapshot. (No write skew /
    lost update on tracked reads; range phantoms are outside the statement, DESIGN §8.1.) -/
theorem C02_serial {n : Nat} {s : Sys} (h : OReach false true n s) (e : HistEntry) (he : e ∈ s.hist)
    (fp : Nat) (hfp : fp ∈ e.reads) :
    s.hist.filter (fun c => decide (fp ∈ c.conflictKeys ∧ c.ts ≤ e.readTs)) =
    s.hist.filter (fun c => decide (fp ∈ c.conflictKeys ∧ c.ts < e.ts)) ∧
    e.readTs < e.ts := by
  have hI := h.inv
  have hlt := h.hist_readTs_lt
  refine ⟨?_, hlt e he⟩
  apply List.filter_congr
  intro c hc
  have hel := hlt e he
  by_cases hk : fp ∈ c.conflictKeys
  · simp only [hk, true_and, decide_eq_decide]
    constructor
    · intro h1; omega
    · intro h2
      -- a writer of `fp` strictly between the snapshot and the commit would contradict `ssi`
      rcases Nat.lt_or_ge e.readTs c.ts with h3 | h3
      · exact absurd hk (hI.ssi rfl e he c hc h3 h2 fp hfp)
      · exact h3
  · simp [hk]

/-- **Soundness in managed mode, under the API contract.** In every reachable state of a managed
    database with conflict detection, if `CommitAt(ts)` of a transaction `x` is accepted and
    the discard timestamp has not been moved past `x`'s read timestamp (`discardTs ≤ x.readTs`: an
    assumption of this development about the caller, which /repo documents nowhere), then no
    transaction committed with a timestamp above `x.readTs` wrote a fingerprint that `x` read. -/
theorem C02_sound_managed {n : Nat} {s : Sys} (h : OReach true true n s) (tid : Nat) (x : TxnSt)
    (hx : s.txns[tid]? = some x) (ts cts : Nat) (hcontract : s.o.discardTs ≤ x.t.readTs)
    (hok : (s.o.newCommitTs { x.t with commitTs := ts }).2.2 = .ok cts) :
    cts = ts ∧ ∀ c ∈ s.hist, x.t.readTs < c.ts → ∀ fp ∈ x.t.reads, fp ∉ c.conflictKeys := by
  have hI := h.mgdInv
  rw [Oracle.newCommitTs_managed _ _ hI.managed hI.detect] at hok
  by_cases hcf : s.o.hasConflict { x.t with commitTs := ts } = true
  · rw [if_pos hcf] at hok; cases hok
  · rw [if_neg hcf] at hok
    by_cases hlc : ts < s.o.lastCleanupTs
    · rw [if_pos hlc] at hok; cases hok
    · rw [if_neg hlc] at hok
      cases hok
      refine ⟨rfl, fun c hc hlt fp hfp => ?_⟩
      have hle := hI.lcLe
      -- under the contract nothing above `x.readTs` has been pruned from the conflict log
      exact (Oracle.hasConflict_eq_false _ _).mp (Bool.eq_false_iff.mpr hcf) _
        (hI.kept c hc (by omega)) hlt fp hfp

/-- **Completeness in managed mode**: a rejected `CommitAt` has a witness in the history. -/
theorem C02_complete_managed {n : Nat} {s : Sys} (h : OReach true true n s) (t : Txn)
    (hcf : (s.o.newCommitTs t).2.2 = .conflict) :
    ∃ fp ∈ t.reads, ∃ c ∈ s.hist, t.readTs < c.ts ∧ fp ∈ c.conflictKeys := by
  obtain ⟨c, hcm, hlt, fp, hfp, hmem⟩ :=
    (Oracle.hasConflict_eq_true _ _).mp (Oracle.hasConflict_of_conflict hcf)
  obtain ⟨c0, hc0, rfl⟩ := h.mgdInv.fromHist c hcm
  exact ⟨fp, hfp, c0, hc0, hlt, hmem⟩

/-- The contract is needed: transaction 0 reads fingerprint 1 at read timestamp 5, transaction 1
    commits a write of 1 at 7, the user moves `discardTs` to 9 (past 0's read timestamp), and
    `CommitAt(10)` of transaction 0 is accepted although 7 ∈ (5, 10) wrote what it read. -/
theorem C02_managed_needs_contract :
    ((Sys.opened true true 0).runLabels
      [.beginAt 5 true, .read 0 1, .write 0 2, .beginAt 5 true, .write 1 1, .commitAt 1 7,
       .setDiscardTs 9]).map (fun s => ((s.txns[0]?).map (fun x => (s.o.newCommitTs { x.t with commitTs := 10 }).2.2),
         s.hist.map (fun c => (c.ts, c.conflictKeys)), s.o.discardTs)) =
    some (some (.ok 10), [(7, [1])], 9) := by decide

/-- `OReach true true n` puts no order on `commitAt` timestamps (they are caller-chosen): the
    managed-mode theorems cover non-monotonic histories. Witness (seeded/C02-hasconflict-break):
    0 reads fingerprint 1 at read timestamp 5, 1 overwrites it at 10, an unrelated commit lands at 3
    — the history is `[10, 3]` — and `CommitAt(11)` of 0 is rejected. -/
theorem C02_managed_nonmonotonic_witness :
    ((Sys.opened true true 0).runLabels
      [.beginAt 5 true, .read 0 1, .write 0 1, .beginAt 5 true, .write 1 1, .commitAt 1 10,
       .beginAt 2 true, .write 2 2, .commitAt 2 3]).map
      (fun s => ((s.txns[0]?).map (fun x => (s.o.newCommitTs { x.t with commitTs := 11 }).2.2),
        s.hist.map (·.ts))) = some (some .conflict, [10, 3]) := by decide

/-- Two update transactions start at read timestamp 0; 0 reads fingerprint 7 and writes 8, 1 writes
    7 and commits (ts 1); then `Commit` of 0 is rejected (it read 7, written at 1 > 0). -/
def exConflict : List Label :=
  [.begin true, .waitCheck 0, .begin true, .waitCheck 1, .read 0 7, .write 0 8, .write 1 7,
   .commit 1, .procReadMark, .procReadMark]

example : ((Sys.opened false true 0).runLabels exConflict).isSome = true := by decide
example : (((Sys.opened false true 0).runLabels exConflict).bind (·.commitResult 0)) = some .conflict := by
  decide
/-- The same schedule where transaction 0 read another key: accepted at timestamp 2, and the
    premises of `C02_sound`/`C02_serial` are met by a non-empty history (the state a run arrives in is
    reachable: `OReach.ofRun`). -/
def exOk : List Label :=
  [.begin true, .waitCheck 0, .begin true, .waitCheck 1, .read 0 9, .write 0 8, .write 1 7,
   .commit 1, .procReadMark, .procReadMark, .cleanup]

example : (((Sys.opened false true 0).runLabels exOk).bind (·.commitResult 0)) = some (.ok 2) := by decide
example : (((Sys.opened false true 0).runLabels (exOk ++ [.commit 0])).map (fun s => s.hist.map (·.ts))) =
    some [1, 2] := by decide
/-- A long-running reader (transaction 0, read timestamp 0) keeps the entry of commit 1 alive
    across cleanups: `committedTxns` still holds it after `cleanup`, although transaction 1 is done. -/
example : (((Sys.opened false true 0).runLabels exOk).map (fun s => (s.o.committedTxns.map (·.ts), s.o.lastCleanupTs))) =
    some ([1], 0) := by decide
/-- Once the reader is gone, commit 1 is applied, a later reader (read timestamp 1) has come and
    gone and the read mark has caught up, the entry is pruned. -/
example : (((Sys.opened false true 0).runLabels
      (exOk ++ [.discard 0, .doneCommit 1, .procTxnMark, .procTxnMark, .procTxnMark, .begin false,
        .waitCheck 2, .discard 2, .procReadMark, .procReadMark, .procReadMark, .procReadMark,
        .procReadMark, .cleanup])).map
        (fun s => (s.o.committedTxns.map (·.ts), s.o.lastCleanupTs))) = some ([], 1) := by decide

end Badger
