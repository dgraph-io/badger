import BadgerModel.Mvcc
import BadgerProofs.Lemmas.Txn
import BadgerProofs.Lemmas.LsmInv
/-!
# C03 (model part) — commits are atomic, uniquely timestamped, and rejected commits leave no trace

The sequential model `Db.commit` applies a transaction in ONE step (`commitAndSend` +
`writeRequests`, txn.go:525 / db.go:847): these theorems are the step-granularity content of
C03. The concurrent part of the property (a reader starting between timestamp allocation and
the memtable write; `writeChLock` ordering) belongs to `Props/C03Pipe.lean` and the harness's `pipe`
engine (props/C03.json) and is not claimed here.
-/
namespace Badger

/-- Normal mode: a successful commit returns `nextTxnTs` and increments it (`newCommitTs`). -/
theorem C03_commit_ts_fresh_db (d : Db) (id mts ts : Nat) (hm : d.opts.managed = false)
    (h : (d.commit id mts).2 = .ok ts) :
    ts = d.nextTs ∧ (d.commit id mts).1.nextTs = d.nextTs + 1 := by
  obtain ⟨t, hf, hg, hts⟩ := exists_txn_of_commit_ok h
  have := (commit_goes mts hf hg).nextTs
  simp only [commitTsOf, hm, Bool.false_eq_true, if_false] at hts this
  exact ⟨hts, this⟩

/-- No operation decreases `nextTxnTs`, and none switches the timestamp mode. -/
theorem C03_nextTs_monotone (d : Db) (ops : List Op) :
    d.nextTs ≤ (d.run ops).nextTs ∧ (d.run ops).opts.managed = d.opts.managed :=
  ⟨(run_inv d ops).nextTs, (run_inv d ops).managed⟩

/-- Commit timestamps strictly increase along any operation sequence (normal mode): a commit
    answered `ts1`, then any operations, then a commit answered `ts2` ⟹ `ts1 < ts2`. In
    particular they are distinct. -/
theorem C03_commit_ts_strictly_increasing (d : Db) (id1 m1 ts1 : Nat) (ops : List Op)
    (id2 m2 ts2 : Nat) (hm : d.opts.managed = false)
    (h1 : (d.commit id1 m1).2 = .ok ts1)
    (h2 : (((d.commit id1 m1).1.run ops).commit id2 m2).2 = .ok ts2) : ts1 < ts2 := by
  obtain ⟨e1, e2⟩ := C03_commit_ts_fresh_db d id1 m1 ts1 hm h1
  have hm' : ((d.commit id1 m1).1.run ops).opts.managed = false := by
    rw [(run_inv _ ops).managed, (commit_modeKept d id1 m1).1]; exact hm
  obtain ⟨e3, -⟩ := C03_commit_ts_fresh_db _ id2 m2 ts2 hm' h2
  have := (run_inv (d.commit id1 m1).1 ops).nextTs
  omega

/-- Atomic application: after `ok cts`
    * every entry of the transaction occupies its `(key, version)` slot of the memtable
      (version = `cts`, or the entry's own non-zero version);
    * nothing else of the LSM tree changed (immutable memtables and levels are the same);
    * a read at any timestamp below all written versions — in normal mode: any `ts < cts` —
      sees none of them: the abstract read `newestLE` and the concrete `DB.get` are unchanged
      for every key.
    Together with `C06_commit_newest` (reads at `ts ≥ cts` see each written key) no reader
    of the model observes part of a transaction. -/
theorem C03_commit_atomic (d : Db) (id mts cts : Nat) (t : TxnM)
    (hf : d.findTxn id = some t) (hok : (d.commit id mts).2 = .ok cts) :
    (∀ e ∈ t.pending ++ t.dups, ∃ x ∈ (d.commit id mts).1.lsm.mem,
        x.key = e.key ∧ x.ver = (if e.ver = 0 then cts else e.ver)) ∧
    (d.commit id mts).1.lsm.imm = d.lsm.imm ∧ (d.commit id mts).1.lsm.levels = d.lsm.levels ∧
    (∀ ts, (∀ e ∈ t.pending ++ t.dups, ts < (if e.ver = 0 then cts else e.ver)) →
      ∀ k, newestLE (d.commit id mts).1.lsm.allEntries k ts = newestLE d.lsm.allEntries k ts ∧
           (d.commit id mts).1.lsm.get k ts = d.lsm.get k ts) := by
  rw [(commit_ok hf hok).2.2]
  refine ⟨?_, rfl, rfl, ?_⟩
  · intro e he
    have hin : finEnt d (keepTogetherOf t) cts e ∈ commitEntries d t cts :=
      mem_commitEntries.mpr ⟨e, he, rfl⟩
    obtain ⟨x, hx, h1, h2⟩ := slot_foldl_memPut (m := d.lsm.mem) (.inl hin)
    exact ⟨x, hx, by rw [h1, finEnt_key], by rw [h2, finEnt_ver]⟩
  · intro ts hts k
    have hnew : ∀ x ∈ commitEntries d t cts, ts < x.ver := by
      intro x hx
      obtain ⟨e, he, rfl⟩ := mem_commitEntries.mp hx
      rw [finEnt_ver]; exact hts e he
    constructor
    · -- the batch reads like its entries in front of the memtable, and none of them is a candidate at `ts`
      rw [allEntries_eq, allEntries_eq d.lsm, newestLE_append, newestLE_foldl_memPut, newestLE_append,
        newestLE_eq_none_iff.mpr fun x hx hc => Nat.not_le_of_lt (hnew x (List.mem_reverse.mp hx)) hc.2,
        pick_none_left, ← newestLE_append]
    · exact get_mem_congr d.lsm _ k ts
        (foldl_memPut_congr (srcGet · k ts) (fun e he m => srcGet_memPut_newer e m k ts (hnew e he)) _)

/-- Normal-mode reading of `C03_commit_atomic`: every write has version 0, so all of them are
    stored at `cts`, and every read below `cts` is unchanged. -/
theorem C03_commit_atomic_normal (d : Db) (id mts cts : Nat) (t : TxnM)
    (hf : d.findTxn id = some t) (hok : (d.commit id mts).2 = .ok cts)
    (hv : ∀ e ∈ t.pending ++ t.dups, e.ver = 0) :
    (∀ e ∈ t.pending ++ t.dups, ∃ x ∈ (d.commit id mts).1.lsm.mem, x.key = e.key ∧ x.ver = cts) ∧
    (∀ ts, ts < cts → ∀ k,
      newestLE (d.commit id mts).1.lsm.allEntries k ts = newestLE d.lsm.allEntries k ts ∧
      (d.commit id mts).1.lsm.get k ts = d.lsm.get k ts) := by
  obtain ⟨h1, -, -, h2⟩ := C03_commit_atomic d id mts cts t hf hok
  constructor
  · intro e he
    obtain ⟨x, hx, hk, hver⟩ := h1 e he
    rw [if_pos (hv e he)] at hver
    exact ⟨x, hx, hk, hver⟩
  · intro ts hts k
    exact h2 ts (fun e he => by rw [if_pos (hv e he)]; exact hts) k

/-- A commit rejected by conflict detection leaves no trace in the LSM tree, the timestamp
    counter or the list of committed transactions (it only discards the transaction). -/
theorem C03_conflict_no_trace (d : Db) (id mts : Nat) (h : (d.commit id mts).2 = .conflict) :
    (d.commit id mts).1.lsm = d.lsm ∧ (d.commit id mts).1.nextTs = d.nextTs ∧
    (d.commit id mts).1.committed = d.committed :=
  have ⟨hs, hc⟩ := commit_not_ok fun ts hts => by rw [h] at hts; cases hts
  ⟨hs.lsm, hs.nextTs, hc⟩

/-- Likewise for every error answer (discarded transaction, zero commit timestamp in managed
    mode) and for the empty transaction (`noop`). -/
theorem C03_rejected_no_trace_db (d : Db) (id mts : Nat)
    (h : (∃ s, (d.commit id mts).2 = .err s) ∨ (d.commit id mts).2 = .noop) :
    (d.commit id mts).1.lsm = d.lsm ∧ (d.commit id mts).1.nextTs = d.nextTs ∧
    (d.commit id mts).1.committed = d.committed :=
  have ⟨hs, hc⟩ := commit_not_ok fun ts hts => by rw [hts] at h; rcases h with ⟨s, h⟩ | h <;> cases h
  ⟨hs.lsm, hs.nextTs, hc⟩

-- non-vacuity: two commits in a row get timestamps 1 and 2; a conflicting commit is rejected
example :
    let d0 := Db.init { maxBatchCount := 100, maxBatchSize := 100000 } 0
    let d1 := (d0.begin 1 true 0).1
    let d2 := (d1.begin 2 true 0).1
    let e : Ent := { key := [0x61], ver := 0, emeta := 0, umeta := 7, exp := 0, val := [1, 2] }
    let d3 := (d2.modify 1 e).1
    let d4 := (d3.txnGet 2 [0x61]).1
    let d5 := (d4.modify 2 { e with val := [3] }).1
    let r1 := d5.commit 1 0
    let r2 := r1.1.commit 2 0
    (match r1.2 with | .ok ts => ts == 1 | _ => false) = true ∧
    (match r2.2 with | .conflict => true | _ => false) = true ∧
    r2.1.lsm.mem.length = 1 ∧ r2.1.nextTs = 2 := by decide

end Badger
