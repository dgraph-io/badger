import BadgerProofs.Lemmas.StreamL
import BadgerProofs.Lemmas.Txn
/-!
# C25 — a Stream run emits each chosen key exactly once, from one snapshot (stream.go)

First the specification: the ONE snapshot (`snapshotView`), what a run owes a key (`specEmit`), what `ToList`
returns (`retainedSpec`), the `KeyToList` contract (`KtlLocal`). Then: the ranges partition the key space
(`C25_partition`); `ToList` meets its specification and the contract; the iterator of a range is the snapshot
from the range's left end on (`C25_rangeItems_eq`, from the forward-scan lemmas of `Lemmas/Txn`), so the outputs
of the ranges concatenate to the unsplit run (`C25_concat`), which delivers `specEmit` for every key
(`C25_single_snapshot`); `Send` is serial. Finding F7 (a read timestamp per producer) stands at the end as a witness.
-/
namespace Badger

/-- visibility of an entry to an `AllVersions` iterator at `ts` with `SinceTs = since`
    (`parseItem`: internal `!badger!` keys are skipped, versions above the read timestamp and
    at or below `SinceTs` are skipped). -/
def streamVis (since ts : Nat) (e : Ent) : Bool :=
  !(badgerPrefix.isPrefixOf e.ikey) && !(e.ver > ts || (since > 0 && e.ver ≤ since))

/-- ONE snapshot at `ts`: every entry with the prefix that a reader at `ts` sees, in
    internal-key order (user key ascending, newest version first). -/
def snapshotView (merged : List Ent) (pfx : Bytes) (since ts : Nat) : List Ent :=
  merged.filter (fun e => pfx.isPrefixOf e.key && streamVis since ts e)

/-- what the run must deliver for user key `k`: nothing when the snapshot has no version of
    `k` or `ChooseKey` rejects its newest version, else `KeyToList` of its versions. -/
def specEmit (cfg : StreamCfg) (view : List Ent) (k : Bytes) : List Ent :=
  match view.filter (fun e => e.key == k) with
  | [] => []
  | e :: g => if cfg.choose e then (cfg.ktl k (e :: g)).getD [] else []

/-- the retained-versions prefix `ToList` is specified to return for the versions `g` of one
    key (newest first): the live versions before the first deleted/expired one, cut after the
    first discard-earlier entry, and only the newest when one version is kept. -/
def retainedSpec (numKeep now : Nat) (g : List Ent) : List Ent :=
  let live := g.takeWhile (fun e => !deletedOrExpired e.emeta e.exp now)
  let cut := match live.findIdx? (fun e => hasBit e.emeta bitDiscardEarlier) with
    | some i => live.take (i + 1)
    | none => live
  if numKeep == 1 then cut.take 1 else cut

/-- the KV `ToList` builds from an item -/
def toKV (e : Ent) : Ent := { key := e.key, ver := e.ver, emeta := 0, umeta := e.umeta, exp := e.exp, val := e.val }

/-- `KeyToList` contract (stream.go: "the user MUST immediately return from this function on the
    first encounter with a mismatching key"): the result depends only on the leading run of
    versions of `key`, and every KV carries `key`. -/
def KtlLocal (ktl : Bytes → List Ent → Option (List Ent)) : Prop :=
  (∀ k g rest, (∀ e ∈ g, e.key = k) → (∀ e, rest.head? = some e → e.key ≠ k) → ktl k (g ++ rest) = ktl k g) ∧
  (∀ k it l, ktl k it = some l → ∀ e ∈ l, e.key = k)

open SO SL

/-- a sum-preserving transfer `a: 10 → 9`, `b: 10 → 11` committed at version 2 -/
def f7Merged : List Ent :=
  [ { key := [0x61], ver := 2, emeta := 64, umeta := 0, exp := 0, val := [9] },
    { key := [0x61], ver := 1, emeta := 64, umeta := 0, exp := 0, val := [10] },
    { key := [0x62], ver := 2, emeta := 64, umeta := 0, exp := 0, val := [11] },
    { key := [0x62], ver := 1, emeta := 64, umeta := 0, exp := 0, val := [10] } ]

/-- For ANY list of split points (sorted by `DB.Ranges`; duplicates allowed;
    every split point is non-empty — split points are internal keys, at least 8 bytes long)
    every user key lies in exactly one of the consecutive half-open ranges. -/
theorem C25_partition (splits : List Bytes) (hne : ∀ s ∈ splits, s ≠ []) (k : Bytes) :
    ((splitRanges splits).filter (fun r => r.contains k)).length = 1 := by
  unfold splitRanges
  rw [rangesFrom_count [] _ (List.pairwise_cons.mpr ⟨fun s _ => cmpBytes_nil_ne_lt s, sorted_sortBytes _⟩)
    (fun s hs => hne s (mem_sortBytes.mp hs))]
  simp [klt, cmpBytes_nil_ne_lt]

example : (∀ s ∈ [[0x62, 0x01], [0x61], [0x62, 0x01]], s ≠ ([] : Bytes)) ∧
    (splitRanges [[0x62, 0x01], [0x61], [0x62, 0x01]]).length = 4 := by decide

/-- the cut of `retainedSpec` written as a recursion -/
private theorem cut_cons (p : Ent → Bool) (e : Ent) (l : List Ent) :
    (match (e :: l).findIdx? p with | some i => (e :: l).take (i + 1) | none => e :: l) =
      e :: (if p e then [] else match l.findIdx? p with | some i => l.take (i + 1) | none => l) := by
  rw [List.findIdx?_cons]
  by_cases h : p e
  · simp [h]
  · simp only [h, Bool.false_eq_true, if_false]
    cases l.findIdx? p <;> simp

theorem retainedSpec_cons (numKeep now : Nat) (e : Ent) (g : List Ent) :
    retainedSpec numKeep now (e :: g) =
      if deletedOrExpired e.emeta e.exp now then []
      else e :: (if numKeep == 1 || hasBit e.emeta bitDiscardEarlier then [] else retainedSpec numKeep now g) := by
  unfold retainedSpec
  cases hd : deletedOrExpired e.emeta e.exp now
  · simp only [List.takeWhile_cons, hd, Bool.not_false, if_true, cut_cons]
    cases numKeep == 1 <;> cases hasBit e.emeta bitDiscardEarlier <;> simp
  · simp [hd]

/-- `ToList` on the versions of one key = the retained-versions prefix. -/
theorem C25_tolist_spec (numKeep now : Nat) (k : Bytes) (g : List Ent) (hg : ∀ e ∈ g, e.key = k) :
    toList numKeep now k g = (retainedSpec numKeep now g).map toKV := by
  fun_induction toList numKeep now k g with
  | case1 => simp [retainedSpec] -- no version left
  | case2 e rest hd => simp [retainedSpec_cons, hd] -- deleted or expired
  | case3 e rest hd hk => simp [hg e (by simp)] at hk -- another key
  | case4 e rest hd hk kv h1 => simp [retainedSpec_cons, hd, h1, toKV, kv, hg e] -- one version kept
  | case5 e rest hd hk kv h1 h2 => simp [retainedSpec_cons, hd, h1, h2, toKV, kv, hg e] -- discard-earlier
  | case6 e rest hd hk kv h1 h2 ih => -- a live version, more to come
    simp [retainedSpec_cons, hd, h1, h2, toKV, kv, hg e, ih fun x hx => hg x (List.mem_cons_of_mem _ hx)]

example : (∀ e ∈ f7Merged.take 2, e.key = [0x61]) ∧ toList 2 0 [0x61] (f7Merged.take 2) ≠ [] := by decide

theorem toList_append (numKeep now : Nat) (k : Bytes) (g rest : List Ent) (hg : ∀ e ∈ g, e.key = k)
    (hr : ∀ e, rest.head? = some e → e.key ≠ k) :
    toList numKeep now k (g ++ rest) = toList numKeep now k g := by
  induction g with
  | nil =>
    cases rest with
    | nil => rfl
    | cons e r => simp [toList, hr e rfl]
  | cons e g ih => rw [List.cons_append, toList, toList, ih fun x hx => hg x (List.mem_cons_of_mem _ hx)]

theorem toList_key (numKeep now : Nat) (k : Bytes) (it : List Ent) : ∀ e ∈ toList numKeep now k it, e.key = k := by
  fun_induction toList numKeep now k it with
  | case1 | case2 | case3 => exact fun _ h => nomatch h -- nothing left, deleted or expired, another key
  | case4 | case5 => exact fun e he => List.mem_singleton.mp he ▸ rfl -- one KV: one version kept, discard-earlier
  | case6 _ _ _ _ _ _ _ ih => exact fun e he => (List.mem_cons.mp he).elim (· ▸ rfl) (ih e) -- a KV, then the rest

/-- `ToList` honours the `KeyToList` contract. -/
theorem C25_toList_local (numKeep now : Nat) : KtlLocal (fun k it => some (toList numKeep now k it)) :=
  ⟨fun k g rest hg hr => congrArg some (toList_append numKeep now k g rest hg hr),
   fun k it _ h => Option.some.inj h ▸ toList_key numKeep now k it⟩

example : KtlLocal (fun k it => some (toList 1 0 k it)) ∧ toList 1 0 [0x61] f7Merged ≠ [] :=
  ⟨C25_toList_local 1 0, by decide⟩

namespace C25L

theorem streamVis_eq (since ts : Nat) (e : Ent) :
    streamVis since ts e = (!badgerPrefix.isPrefixOf e.ikey && inWindow ts since e) := by
  unfold streamVis
  rw [skip_eq_not_inWindow { sinceTs := since } ts e, Bool.not_not]

theorem mem_snapshotView {merged : List Ent} {pfx : Bytes} {since ts : Nat} {e : Ent} :
    e ∈ snapshotView merged pfx since ts ↔
      e ∈ merged ∧ pfx.isPrefixOf e.key = true ∧ badgerPrefix.isPrefixOf e.ikey = false ∧
        inWindow ts since e = true := by
  simp only [snapshotView, List.mem_filter, streamVis_eq, Bool.and_eq_true, Bool.not_eq_true']

end C25L

open C25L in
/-- The iterator of a producer = the snapshot view from `left` on. -/
theorem C25_rangeItems_eq (merged : List Ent) (hs : SortedEnts merged) (pfx : Bytes) (since ts now : Nat)
    (left : Bytes) (hl : left = [] ∨ pfx.isPrefixOf left = true) :
    rangeItems merged pfx since ts now left =
      (snapshotView merged pfx since ts).dropWhile (fun e => cmpBytes e.key left == .lt) := by
  unfold rangeItems
  -- `AllVersions`: the loop filters the prefix block, and `Valid` cuts nothing off it
  dsimp only
  rw [parseItems_all _ ts now rfl _ none _ (by omega), if_neg (by simp),
    validPrefix_of_prefix rfl fun e he => mem_takeWhile_imp (p := fun e : Ent => pfx.isPrefixOf e.key) (List.mem_filter.mp he).1,
    seekList_eq]
  -- the iterator seeks to `sk`: `left`, or the prefix when `left` is empty
  generalize hsk : seekKeyOf { allVersions := true, prefix_ := pfx, sinceTs := since } (some left) = sk
  have hsk' : pfx.isPrefixOf sk = true ∧
      ∀ k, pfx.isPrefixOf k = true → (cmpBytes k sk ≠ .lt ↔ cmpBytes k left ≠ .lt) := by
    subst hsk
    have he := fun k (hk : pfx.isPrefixOf k = true) => iff_of_true (prefix_ge hk) (cmpBytes_nil_ne_lt k)
    rcases hl with rfl | hl
    · exact ⟨isPrefixOf_self pfx, he⟩
    · cases left with
      | nil => exact ⟨isPrefixOf_self pfx, he⟩
      | cons b bs => exact ⟨hl, fun _ _ => Iff.rfl⟩
  -- both sides are sublists of `merged`: compare their members
  have hsv : SortedEnts (snapshotView merged pfx since ts) := hs.filter _
  refine sorted_ext (hs.sublist (List.filter_sublist.trans ((List.takeWhile_sublist _).trans
    (seekFrom_sublist merged false ts sk)))) (hsv.sublist (List.dropWhile_sublist _)) fun z => ?_
  rw [show scanVis _ ts = fun e => !badgerPrefix.isPrefixOf e.ikey && inWindow ts since e from rfl,
    ← List.filter_filter, List.mem_filter,
    mem_seekPrefix_window hs ts since hsk'.1, mem_dropWhile_key_lt hsv, mem_snapshotView]
  constructor
  · rintro ⟨⟨⟨h1, h2, h3⟩, h4⟩, h5⟩
    exact ⟨⟨h1, h3, by simpa using h5, h4⟩, (hsk'.2 _ h3).mp h2⟩
  · rintro ⟨⟨h1, h3, h5, h4⟩, h2⟩
    exact ⟨⟨⟨h1, (hsk'.2 _ h3).mpr h2, h3⟩, h4⟩, by simpa using h5⟩

example : SortedEnts f7Merged ∧ (([0x62] : Bytes) = [] ∨ ([] : Bytes).isPrefixOf [0x62] = true) ∧
    rangeItems f7Merged [] 0 1 0 [0x62] ≠ [] := by
  unfold SortedEnts; decide

/-- the same with a non-empty prefix and a seek key that carries it -/
example : (([0x62] : Bytes) = [] ∨ ([0x62] : Bytes).isPrefixOf [0x62] = true) ∧
    (rangeItems f7Merged [0x62] 0 2 0 [0x62]).length = 2 := by decide

/-- With all producers reading at ONE timestamp, the outputs of the ranges of any
    split, concatenated in range order, are the output of a single unsplit run. -/
theorem C25_concat (merged : List Ent) (hs : SortedEnts merged) (cfg : StreamCfg) (ts now : Nat)
    (splits : List Bytes) (hne : ∀ s ∈ splits, s ≠ []) (hpfx : ∀ s ∈ splits, cfg.prefix_.isPrefixOf s) :
    ((splitRanges splits).map (produceRange merged cfg ts now)).flatten =
      produceRange merged cfg ts now { left := [], right := [] } := by
  have hV := fun left hl => C25_rangeItems_eq merged hs cfg.prefix_ cfg.sinceTs ts now left hl
  have hmap : (splitRanges splits).map (produceRange merged cfg ts now) =
      (splitRanges splits).map (fun r => produceLoop cfg r.right none
        ((snapshotView merged cfg.prefix_ cfg.sinceTs ts).dropWhile (fun e => cmpBytes e.key r.left == .lt))) := by
    apply List.map_congr_left
    intro r hr
    unfold produceRange
    rw [hV]
    have hl : r.left ∈ [] :: sortBytes splits := rangesFrom_lefts [] _ ▸ List.mem_map_of_mem (f := KeyRange.left) hr
    rcases List.mem_cons.mp hl with h | h
    · exact .inl h
    · exact .inr (hpfx _ (mem_sortBytes.mp h))
  rw [hmap]
  unfold splitRanges
  rw [ranges_concat cfg _ [] _ (List.pairwise_cons.mpr ⟨fun s _ => cmpBytes_nil_ne_lt s, sorted_sortBytes _⟩)
    (fun s h => hne s (mem_sortBytes.mp h))]
  unfold produceRange
  rw [hV [] (.inl rfl)]

example : SortedEnts f7Merged ∧ (∀ s ∈ [[0x62], [0x61, 0x00]], s ≠ ([] : Bytes)) ∧
    (∀ s ∈ [[0x62], [0x61, 0x00]], ([] : Bytes).isPrefixOf s) ∧
    ((splitRanges [[0x62], [0x61, 0x00]]).map (produceRange f7Merged (toListCfg 1 0 [] 0 (fun _ => true)) 2 0)).flatten.length = 2 := by
  unfold SortedEnts; decide

namespace C25L

theorem filter_key_const {l : List Ent} {a : Bytes} (h : ∀ x ∈ l, x.key = a) (k : Bytes) :
    l.filter (fun x => x.key == k) = if a = k then l else [] := by
  split
  · rename_i hak
    exact List.filter_eq_self.mpr fun x hx => by simp [h x hx, hak]
  · rename_i hak
    exact List.filter_eq_nil_iff.mpr fun x hx => by simp [h x hx, hak]

/-- the versions of `k` in a view that starts with a key group -/
theorem filter_group {e : Ent} {g rest : List Ent} (k : Bytes) (hg : ∀ x ∈ g, x.key = e.key) (hr : ∀ x ∈ rest, x.key ≠ e.key) :
    (e :: (g ++ rest)).filter (fun x => x.key == k) = if e.key = k then e :: g else rest.filter (fun x => x.key == k) := by
  rw [← List.cons_append, List.filter_append, filter_key_const (List.forall_mem_cons.mpr ⟨rfl, hg⟩) k]
  split
  · rename_i hek
    rw [List.filter_eq_nil_iff.mpr fun x hx h => hr x hx ((beq_iff_eq.mp h).trans hek.symm), List.append_nil]
  · rfl

theorem emitKey_key (cfg : StreamCfg) (hk : KtlLocal cfg.ktl) (e : Ent) (rest : List Ent) :
    ∀ x ∈ emitKey cfg e rest, x.key = e.key := by
  unfold emitKey
  split
  · cases hl : cfg.ktl e.key (e :: rest) with
    | none => exact fun _ h => nomatch h
    | some l => exact hk.2 _ _ _ hl
  · exact fun _ h => nomatch h

/-- the unbounded loop over a key-sorted view delivers, for every key `k`, exactly `specEmit`: group by group,
    and `KeyToList` looks at its group only (this is where its contract is used) -/
theorem produceLoop_filter (cfg : StreamCfg) (hk : KtlLocal cfg.ktl) (k : Bytes) (V : List Ent) (hs : KeySorted V) :
    (produceLoop cfg [] none V).filter (fun e => e.key == k) = specEmit cfg V k := by
  refine keyGroup_induction (P := fun V => (produceLoop cfg [] none V).filter (fun e => e.key == k) = specEmit cfg V k)
    (by simp [produceLoop, specEmit]) (fun e g rest hg hr ih => ?_) V hs
  rw [produceLoop_group cfg e g rest hg hr, List.filter_append, filter_key_const (emitKey_key cfg hk e _) k, ih]
  unfold specEmit
  rw [filter_group k hg hr, emitKey, ← List.cons_append,
    hk.1 e.key (e :: g) rest (List.forall_mem_cons.mpr ⟨rfl, hg⟩) fun y hy => hr y (List.mem_of_mem_head? hy)]
  split
  · rename_i hek
    subst hek
    rw [List.filter_eq_nil_iff.mpr fun x hx h => hr x hx (beq_iff_eq.mp h), List.append_nil]
  · rfl

end C25L

/-- For every split of the key space (which is all `NumGo` can influence: the model
    produces the ranges one after the other), every user key, the
    KVs a run delivers (over all ranges) are exactly what the ONE snapshot at the run's read
    timestamp `ts` prescribes — every chosen key once, no other key at all. (`Orchestrate` pins that
    timestamp for all producers, so this is unconditional; a run whose producers each read at
    their own timestamp is `streamRunPerProducer` below, finding F7.) -/
theorem C25_single_snapshot (merged : List Ent) (hs : SortedEnts merged) (cfg : StreamCfg)
    (hk : KtlLocal cfg.ktl) (ts now : Nat)
    (splits : List Bytes) (hne : ∀ s ∈ splits, s ≠ []) (hpfx : ∀ s ∈ splits, cfg.prefix_.isPrefixOf s)
    (k : Bytes) :
    ((streamRun merged cfg now (splitRanges splits) ts).flatten).filter (fun e => e.key == k) =
      specEmit cfg (snapshotView merged cfg.prefix_ cfg.sinceTs ts) k := by
  unfold streamRun
  rw [C25_concat merged hs cfg ts now splits hne hpfx]
  unfold produceRange
  rw [C25_rangeItems_eq merged hs _ _ _ _ [] (.inl rfl)]
  rw [dropWhile_lt_nil]
  have hsv : KeySorted (snapshotView merged cfg.prefix_ cfg.sinceTs ts) :=
    keySorted_of_sorted (List.Pairwise.sublist List.filter_sublist hs)
  exact C25L.produceLoop_filter cfg hk k _ hsv

example : SortedEnts f7Merged ∧ KtlLocal (toListCfg 1 0 [] 0 (fun _ => true)).ktl ∧
    (∀ s ∈ [[0x62]], s ≠ ([] : Bytes)) ∧ (∀ s ∈ [[0x62]], ([] : Bytes).isPrefixOf s) ∧
    specEmit (toListCfg 1 0 [] 0 (fun _ => true)) (snapshotView f7Merged [] 0 2) [0x62] ≠ [] :=
  ⟨by unfold SortedEnts; decide, C25_toList_local 1 0, by decide, by decide, by decide⟩

/-- `Send` is entered only by the single consumer loop: at most one call is
    in flight at any time, and the batches sent are all the KVs produced, in queue order. -/
theorem C25_send_serial (groups : List (List (List Ent))) :
    (∃ l, inflightAfter 0 (consume groups).2 = some l ∧ ∀ n ∈ l, n ≤ 1) ∧
    (consume groups).1.flatten = groups.flatten.flatten := by
  induction groups with
  | nil => simp [consume, inflightAfter]
  | cons g gs ih =>
    obtain ⟨⟨l, hl, hb⟩, hf⟩ := ih
    simp only [consume]
    by_cases he : g.flatten.isEmpty = true
    · simp only [he, if_true]
      refine ⟨⟨l, hl, hb⟩, ?_⟩
      rw [hf]
      simp [List.isEmpty_iff.mp he]
    · simp only [he, Bool.false_eq_true, if_false]
      refine ⟨⟨1 :: 0 :: l, ?_, ?_⟩, ?_⟩
      · simp [inflightAfter, hl]
      · simpa using hb
      · simp [hf]

example : (consume [[[f7Merged.head!], []], [[]], [f7Merged]]).2 =
    [SendEv.enter 1, SendEv.exit, SendEv.enter 4, SendEv.exit] := by decide

/-- a run in which every producer goroutine has its own transaction, so range `i` is read at
    the timestamp `rts[i]` current when its producer starts (finding F7). -/
def streamRunPerProducer (merged : List Ent) (cfg : StreamCfg) (now : Nat) (ranges : List KeyRange)
    (rts : List Nat) : List (List Ent) :=
  (ranges.zip rts).map (fun (r, ts) => produceRange merged cfg ts now r)

theorem C25_per_producer_const (merged : List Ent) (cfg : StreamCfg) (now ts : Nat) (ranges : List KeyRange)
    (rts : List Nat) (hlen : rts.length = ranges.length) (hall : ∀ r ∈ rts, r = ts) :
    streamRunPerProducer merged cfg now ranges rts = streamRun merged cfg now ranges ts := by
  unfold streamRunPerProducer streamRun
  induction ranges generalizing rts with
  | nil => simp
  | cons r rs ih =>
    cases rts with
    | nil => simp at hlen
    | cons t tl =>
      have ht : t = ts := hall t (by simp)
      subst ht
      simp only [List.zip_cons_cons, List.map_cons]
      rw [ih tl (by simpa using hlen) (fun x hx => hall x (List.mem_cons_of_mem _ hx))]

def f7Run (rts : List Nat) : List Ent :=
  (streamRunPerProducer f7Merged (toListCfg 1 0 [] 0 (fun _ => true)) 0 (splitRanges [[0x62]]) rts).flatten

/-- witness for finding F7: why the single timestamp matters. With
    per-producer transactions, the producer of range `[nil, b)` created its transaction before
    the transfer committed (read timestamp 1), the producer of `[b, nil)` after it (read
    timestamp 2): the run delivered `a = 10, b = 11`, which is the snapshot of no timestamp —
    while a run at ONE timestamp is a snapshot by `C25_single_snapshot`. -/
theorem C25_F7_regression_witness :
    (f7Run [1, 2]).map (fun e => (e.key, e.ver, e.val)) = [([0x61], 1, [10]), ([0x62], 2, [11])] ∧
    ∀ ts, ts ≤ 4 → f7Run [1, 2] ≠
      (streamRun f7Merged (toListCfg 1 0 [] 0 (fun _ => true)) 0 (splitRanges [[0x62]]) ts).flatten := by
  decide

end Badger
