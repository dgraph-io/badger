import BadgerProofs.Props.C01Db
import BadgerProofs.Props.C14
/-!
# Corollaries of the database-level reachability theorem for C06, C07, C12, C14, C33

The statements over `DbReach` are about EVERY state reachable in normal mode, with no hypothesis about the
state. Two need no reachability: `C06_db_fields_preserved` (what one commit puts into the history) and
`C33_no_ttl_never_expires` (a fact about `deletedOrExpired`).
-/
namespace Badger

/-- **C14 over every history**: the LSM tree of every reachable database state satisfies the whole
    structural invariant (`LsmGood`: sorted tables, levels `≥ 1` disjoint and sorted, table bounds,
    `uint64` versions, recency across sources, unique internal keys, no immutable memtable
    (`imm = []`)). -/
theorem C14_db_structure {o : Opts} {hist : List Ent} {d : Db} (hm : o.managed = false)
    (r : DbReach o hist d) : LsmGood d.lsm :=
  (DbL.tree_of_reach hm r).tracks.good

/-- …in particular all versions of a user key live in ONE table of a level `≥ 1` -/
theorem C14_db_one_table_per_key {o : Opts} {hist : List Ent} {d : Db} (hm : o.managed = false)
    (r : DbReach o hist d) {i : Nat} {tbls : List Tbl} (hi : 1 ≤ i)
    (hl : d.lsm.levels[i]? = some tbls) {j j' : Nat} {a b : Tbl} (hj : tbls[j]? = some a) (hj' : tbls[j']? = some b)
    {x y : Ent} (hx : x ∈ a.ents) (hy : y ∈ b.ents) (hk : x.key = y.key) : j = j' :=
  C14_one_table_per_key (C14_db_structure hm r).1 hi hl hj hj' hx hy hk

theorem C14_db_entries_committed {o : Opts} {hist : List Ent} {d : Db} (hm : o.managed = false)
    (r : DbReach o hist d) : ∀ e ∈ d.lsm.allEntries, e ∈ hist :=
  (DbL.tree_of_reach hm r).tracks.stored

/-- **C33 over every history**: a key whose newest committed version `≤ readTs` has expired (or is a
    delete marker) reads as not found; a live one is returned as written. -/
theorem C33_db_expiry {o : Opts} {hist : List Ent} {d : Db} (hm : o.managed = false)
    (r : DbReach o hist d) {id : Nat} {t : TxnM} {k : Bytes} (hf : d.findTxn id = some t)
    (hk : k.isEmpty = false) (hdisc : t.discarded = false)
    (hpend : (if t.update then t.pending.find? (·.key == k) else none) = none) (e : Ent)
    (hn : newestLE hist k t.readTs = some e) :
    (deletedOrExpired e.emeta e.exp d.now = true → (d.txnGet id k).2 = .notfound) ∧
    (deletedOrExpired e.emeta e.exp d.now = false → (d.txnGet id k).2 = .found e e.ver) := by
  have h := C01_db_snapshot hm r hf hk hdisc hpend
  rw [hn] at h
  constructor
  · intro hd; rw [h]; simp [visible, hd, getResOf]
  · intro hd; rw [h]; simp [visible, hd, getResOf]

theorem C33_no_ttl_never_expires (m now : Nat) (h : hasBit m bitDelete = false) :
    deletedOrExpired m 0 now = false := by
  simp [deletedOrExpired, h]

/-- **C06 over every history**: what a successful commit puts into the history carries exactly
    the key, value, user meta and expiry of the pending writes, at the commit timestamp; only the
    internal meta bits (transaction bit, value-pointer bit) differ. -/
theorem C06_db_fields_preserved {d : Db} (id : Nat) {t : TxnM}
    (hf : d.findTxn id = some t) :
    ∀ x ∈ d.commitHist id, ∃ e0 ∈ t.pending,
      x.key = e0.key ∧ x.val = e0.val ∧ x.umeta = e0.umeta ∧ x.exp = e0.exp ∧ x.ver = d.nextTs := by
  intro x hx
  obtain ⟨t', hf', hx⟩ := DbL.mem_commitHist hx
  rw [hf] at hf'; cases hf'
  obtain ⟨e0, he0, rfl⟩ := List.mem_map.mp hx
  exact ⟨e0, he0, lsmForm_key .., lsmForm_val .., lsmForm_umeta .., lsmForm_exp .., lsmForm_ver ..⟩

/-- …and a later `Get` returns such an entry unchanged (`C01_db_snapshot` returns a member of the
    history): value, user meta and expiry read back exactly as written. -/
theorem C06_db_readback {o : Opts} {hist : List Ent} {d : Db} (hm : o.managed = false)
    (r : DbReach o hist d) {id : Nat} {t : TxnM} {k : Bytes} (hf : d.findTxn id = some t)
    (hk : k.isEmpty = false) (hdisc : t.discarded = false)
    (hpend : (if t.update then t.pending.find? (·.key == k) else none) = none) (e : Ent) (v : Nat)
    (hres : (d.txnGet id k).2 = .found e v) :
    e ∈ hist ∧ e.key = k ∧ e.ver = v ∧ v ≤ t.readTs := by
  have h := C01_db_snapshot hm r hf hk hdisc hpend
  rw [hres] at h
  obtain ⟨hv, rfl⟩ := getResOf_found h.symm
  obtain ⟨hm1, hk1, hv1, _⟩ := newestLE_some (visible_some_iff.mp hv).1
  exact ⟨hm1, hk1, rfl, hv1⟩

/-- **C12 over every history**: two reachable database states with the same commit history answer
    every read at a timestamp at or above both discard watermarks identically, whatever flushes
    and compactions (L0→base, L0→L0, level→level, last-level rewrites, any picker-valid choice of
    tables, any split of the output) led to them. In particular no flush/compaction sequence changes
    such a read, no committed write is lost and no overwritten or deleted version comes back. -/
theorem C12_db_history_determines_reads {o : Opts} {hist : List Ent} {d1 d2 : Db} (hm : o.managed = false)
    (r1 : DbReach o hist d1) (r2 : DbReach o hist d2) (k : Bytes) (ts now : Nat)
    (h1 : d1.discardAtOrBelow ≤ ts) (h2 : d2.discardAtOrBelow ≤ ts) (hn1 : d1.now ≤ now) (hn2 : d2.now ≤ now) :
    visible now (d1.lsm.get k ts) = visible now (d2.lsm.get k ts) := by
  rw [(DbL.tree_of_reach hm r1).tracks.reads h1 hn1 k, (DbL.tree_of_reach hm r2).tracks.reads h2 hn2 k]

/-- **C07 inside a history**: `Close` + `Open` (memtable flushed, L0 re-sorted by file id, oracle
    and watermarks rebuilt from `MaxVersion()`) changes no read at a timestamp at or above both
    watermarks — as long as the timestamps do not go back (`hnext`; the excluded case is F29).
    `DbReach.reopen` is a step of `DbReach`, so `C01_db_snapshot`, `C05_db_scan*`, `C02_db_*` apply to the
    reopened state as to any other: a transaction begun after the reopen reads the commit history as before. -/
theorem C07_db_reopen_preserves_reads {o : Opts} {hist : List Ent} {d : Db} (hm : o.managed = false)
    (r : DbReach o hist d) (fid : Nat)
    (hnext : d.nextTs ≤ ({ d with lsm := d.lsm.flush fid } : Db).closeOpen.nextTs) (k : Bytes) (ts now : Nat)
    (h1 : d.discardAtOrBelow ≤ ts) (h2 : ({ d with lsm := d.lsm.flush fid } : Db).closeOpen.discardAtOrBelow ≤ ts)
    (hn : d.now ≤ now) :
    visible now (({ d with lsm := d.lsm.flush fid } : Db).closeOpen.lsm.get k ts) = visible now (d.lsm.get k ts) :=
  (C12_db_history_determines_reads hm r (DbReach.reopen r fid hnext) k ts now h1 h2 hn hn).symm

end Badger
