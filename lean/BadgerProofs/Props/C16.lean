import BadgerProofs.Lemmas.Crc
import BadgerProofs.Lemmas.LogUnits
import BadgerProofs.Props.C20Enc
/-!
# C16 — log records round-trip and replay in transaction units

Model: `BadgerModel/Log.lean` (`encodeEntry`, `decodeEntry`, `safeReadEntry`, `iterate`),
`BadgerModel/Crc.lean`. Encryption is an arbitrary key stream `ks : Nat → UInt8` per record
offset (`cipher off`), the unencrypted file is `noKs`; every theorem holds for all key streams.
`Entry.WF` = what badger can write: `len(key) ≤ 65536`, `len(key)+len(value) < 2^32`,
`expiresAt < 2^64`. `LogUnit.WF` = a non-transactional record, or ≥ 1 records with `bitTxn` and
commit timestamp `ts ≠ 0` in the key followed by a `bitFinTxn` marker whose value parses to `ts`.
-/
namespace Badger

/-- The checksum covers exactly the bytes written before it (header and *encrypted* key‖value),
    stored big-endian in the last four bytes. -/
theorem C16_crc_scope (ks : Nat → UInt8) (e : Entry) :
    encodeEntry ks e = encodeBody ks e ++ beBytes (crc32c (encodeBody ks e)) 4 ∧
    encodeBody ks e = headerEncode (entryHeader e) ++ xorFrom ks 0 (e.key ++ e.value) :=
  ⟨rfl, rfl⟩

/-- The body of the unencrypted record is `header ‖ key ‖ value`; the crc follows it (`C16_crc_scope`). -/
theorem C16_plain_layout (e : Entry) :
    encodeBody noKs e = headerEncode (entryHeader e) ++ e.key ++ e.value := by
  simp [encodeBody, xorFrom_noKs]

/-- `decodeEntry (encodeEntry e) = e` for every key stream (in particular `noKs`, the
    unencrypted file), whatever bytes follow the record in the buffer. -/
theorem C16_roundtrip (ks : Nat → UInt8) (e : Entry) (rest : Bytes)
    (hkv : e.key.length + e.value.length < 2 ^ 32) (hexp : e.expiresAt < 2 ^ 64) :
    decodeEntry ks (encodeEntry ks e ++ rest) = some e := by
  rw [decodeEntry, encodeEntry_eq, List.append_assoc,
    C20_header_roundtrip _ _ (entryHeader_WF e hexp)]
  dsimp only
  rw [sliceFrom_append_length _ _ _ rfl]
  dsimp only
  rw [List.append_assoc, xorFrom_kv, entryHeader_klen hkv, entryHeader_vlen hkv,
    Nat.mod_eq_of_lt hkv, if_neg (by simp), List.append_assoc, List.take_left,
    ← List.append_assoc, List.take_left' List.length_append, List.drop_left]
  rfl

theorem C16_roundtrip_plain (e : Entry) (rest : Bytes)
    (hkv : e.key.length + e.value.length < 2 ^ 32) (hexp : e.expiresAt < 2 ^ 64) :
    decodeEntry noKs (encodeEntry noKs e ++ rest) = some e :=
  C16_roundtrip noKs e rest hkv hexp

/-- `safeRead.Entry` on a stream that starts with an encoded record returns exactly the entry
    (and `hlen` = header length), checksum verified, whatever follows. -/
theorem C16_safeRead_roundtrip (ks : Nat → UInt8) (e : Entry) (rest : Bytes) (wf : e.WF) :
    safeReadEntry ks (encodeEntry ks e ++ rest) = .ok (e, hdrLen e) :=
  safeRead_encode ks e rest wf

/-- Every strict prefix of a record is a short read (`io.EOF`, `io.ErrUnexpectedEOF` or
    `errTruncate`): never accepted, never an error that aborts `iterate`, never a panic. -/
theorem C16_safeRead_prefix (ks ks' : Nat → UInt8) (e : Entry) (wf : e.WF) (j : Nat)
    (hj : j < (encodeEntry ks e).length) :
    Torn (safeReadEntry ks' ((encodeEntry ks e).take j)) := by
  have hwf := entryHeader_WF e wf.2.2
  rw [encodeEntry_length, hdrLen] at hj
  rw [encodeEntry_eq]
  rcases take_append_cases (headerEncode (entryHeader e)) _ j with ⟨h1, e1⟩ | ⟨h1, e1⟩
  · rw [e1]; exact safeRead_of_header_torn ks' (headerDecodeFrom_take _ hwf j h1)
  · rw [e1]
    refine safeRead_short ks' (headerDecodeFrom_headerEncode _ _ hwf) (entryHeader_accepted wf).1
      (entryHeader_accepted wf).2 ?_
    rw [List.length_take, List.length_append, xorFrom_length, List.length_append, beBytes_length,
      entryHeader_klen wf.2.1, entryHeader_vlen wf.2.1]
    -- `omega` is slow with the `2 ^ 32`, `2 ^ 64` bounds of `wf` in its context
    clear hwf wf
    omega

/-- After any well-formed units, the records `p` of a transaction that
    is *not* followed contiguously by its own end marker — the file ends, is torn, or continues
    with anything that `Breaks` the transaction (a record without `bitTxn`, a record or marker
    of another timestamp, an unparsable marker, a zero entry) — are not delivered, nothing
    after them is, and the end offset is the end of the last complete unit. Together with
    `C16_iterate_order` (complete units *are* delivered): a `bitTxn` record is delivered iff
    its `bitFinTxn` marker with the same timestamp follows contiguously. -/
theorem C16_txn_units (fid : Nat) (cipher : Nat → Nat → UInt8) (us : List LogUnit)
    (wf : ∀ u ∈ us, u.WF) (ts : Nat) (hts : ts ≠ 0) (p : List Entry)
    (hp : ∀ e ∈ p, TxnEntry ts e) (tail : Bytes)
    (hb : Breaks
      (cipher (vlogHeaderSize + encLen cipher vlogHeaderSize (unitsEntries us ++ p)))
      (if p = [] then 0 else ts) tail) :
    iterate fid cipher (encodeAll cipher vlogHeaderSize (unitsEntries us ++ p) ++ tail) =
      ⟨none, deliveredUnits fid cipher vlogHeaderSize us,
        vlogHeaderSize + encLen cipher vlogHeaderSize (unitsEntries us)⟩ := by
  -- the fuel `|content| + 1` covers one iteration per record and one more for the tail
  have hlen := length_le_encLen cipher (unitsEntries us ++ p) vlogHeaderSize
  rw [encLen, List.length_append] at hlen
  obtain ⟨k, hk⟩ : ∃ k, (encodeAll cipher vlogHeaderSize (unitsEntries us ++ p) ++ tail).length + 1 =
      (unitsEntries us).length + (p.length + (k + 1)) :=
    ⟨(encodeAll cipher vlogHeaderSize (unitsEntries us ++ p) ++ tail).length -
      ((unitsEntries us).length + p.length), by rw [List.length_append]; omega⟩
  rw [encLen_append, ← Nat.add_assoc] at hb
  rw [iterate, hk, encodeAll_append, List.append_assoc, iterGo_units fid cipher us _ _ _ wf,
    iterGo_partial fid cipher ts hts p hp _ _ _ _ hb, IterResult.prepend, List.append_nil]

/-- Iterating the concatenation of well-formed units
    delivers exactly their payload records in write order, each with
    `vptr = (fid, offset of the record, encoded length)`; the returned end offset is the end
    of the file content. -/
theorem C16_iterate_order (fid : Nat) (cipher : Nat → Nat → UInt8) (us : List LogUnit)
    (wf : ∀ u ∈ us, u.WF) :
    iterate fid cipher (encodeAll cipher vlogHeaderSize (unitsEntries us)) =
      ⟨none, deliveredUnits fid cipher vlogHeaderSize us,
        vlogHeaderSize + encLen cipher vlogHeaderSize (unitsEntries us)⟩ := by
  have := C16_txn_units fid cipher us wf 1 (by decide) [] nofun [] (.inl torn_eof)
  rwa [List.append_nil, List.append_nil] at this

/-- Every `(entry, vptr)` delivered for well-formed units
    has `vptr.Fid = fid`, and the `vptr.Len` bytes at file offset `vptr.Offset` are exactly the
    encoding of that entry — so reading the value log at the pointer (`logFile.read` +
    `decodeEntry`) returns the entry (`C16_roundtrip`). -/
theorem C16_vptr_points_at_record (fid : Nat) (cipher : Nat → Nat → UInt8) (us : List LogUnit)
    (d : Entry × ValuePointer) (hd : d ∈ deliveredUnits fid cipher vlogHeaderSize us) :
    d.2.fid = fid ∧ vlogHeaderSize ≤ d.2.offset ∧
    ((encodeAll cipher vlogHeaderSize (unitsEntries us)).drop (d.2.offset - vlogHeaderSize)).take d.2.len =
      encodeEntry (cipher d.2.offset) d.1 := by
  obtain ⟨k, hk, hf, ht⟩ := deliveredUnits_points fid cipher us vlogHeaderSize [] d hd
  rw [List.append_nil] at ht
  refine ⟨hf, hk ▸ Nat.le_add_right _ _, ?_⟩
  rw [show d.2.offset - vlogHeaderSize = k by rw [hk, Nat.add_sub_cancel_left]]
  exact ht

/-- Replacing the stored key‖value bytes of a record by other
    bytes of the same length is detected (`errTruncate`) whenever the CRC32-C of the altered
    record body differs from the original one. -/
theorem C16_corruption (ks ks' : Nat → UInt8) (e : Entry) (x' rest : Bytes) (wf : e.WF)
    (hlen : x'.length = e.key.length + e.value.length)
    (hcrc : crc32c (headerEncode (entryHeader e) ++ x') ≠ crc32c (encodeBody ks e)) :
    safeReadEntry ks' (headerEncode (entryHeader e) ++ x' ++
      beBytes (crc32c (encodeBody ks e)) 4 ++ rest) = .error .truncate := by
  rw [List.append_assoc (headerEncode (entryHeader e) ++ x')]
  exact safeRead_altered ks ks' e wf _ rest
    (by rw [encodeBody_length, List.length_append, hlen, hdrLen, Nat.add_assoc]) List.take_left hcrc

/-- CRC32-C detects every single-byte change (no hypothesis). -/
theorem C16_crc_single_byte (pre suf : Bytes) (a b : UInt8) (hab : a ≠ b) :
    crc32c (pre ++ a :: suf) ≠ crc32c (pre ++ b :: suf) := by
  -- the final xor and the bytes of `suf` are injective in the register, the step of `a`/`b` in the byte
  intro h
  unfold crc32c at h
  have h1 := xor_right_cancel h
  rw [crcUpdate_append, crcUpdate_append] at h1
  have hp : crcUpdate 0xFFFFFFFF pre < 2 ^ 32 := (regInj_crcUpdate pre).lt (by decide)
  exact hab (crcByte_inj_byte a b hp
    ((regInj_crcUpdate suf).inj ((regInj_crcByte a).lt hp) ((regInj_crcByte b).lt hp) h1))

/-- If the encoded record is `pre ++ a :: suf` with
    the byte `a` inside the key‖value region, then replacing `a` by any other byte yields a
    record that `safeRead.Entry` rejects with `errTruncate` — for every key stream. -/
theorem C16_corruption_single_byte (ks ks' : Nat → UInt8) (e : Entry) (wf : e.WF)
    (pre suf rest : Bytes) (a b : UInt8) (henc : encodeEntry ks e = pre ++ a :: suf)
    (hlo : hdrLen e ≤ pre.length) (hhi : pre.length < hdrLen e + e.key.length + e.value.length)
    (hab : b ≠ a) :
    safeReadEntry ks' (pre ++ b :: suf ++ rest) = .error .truncate := by
  have hB := encodeBody_length ks e
  -- the changed byte lies in the body, so the checksum is a suffix of `suf`
  rcases List.append_eq_append_iff.mp henc with ⟨t, hpre, _⟩ | ⟨t, hbody, hsuf⟩
  · rw [hpre, List.length_append] at hhi; omega
  · cases t with
    | nil => rw [hbody, List.append_nil] at hB; omega
    | cons a' t =>
      rw [List.cons_append, List.cons.injEq] at hsuf
      obtain ⟨rfl, rfl⟩ := hsuf
      rw [List.append_assoc, List.cons_append, List.append_assoc, ← List.cons_append,
        ← List.append_assoc]
      apply safeRead_altered ks ks' e wf
      · rw [hbody, List.length_append, List.length_append]; rfl
      · rw [List.take_append_of_le_length hlo,
          ← List.take_append_of_le_length (l₂ := a :: t) hlo, ← hbody]
        exact List.take_left
      · rw [hbody]; exact C16_crc_single_byte pre t b a hab

/-- A record with one altered key/value byte stops the replay: units before it are delivered,
    it and everything after it (and the open transaction it belongs to) are not. -/
theorem C16_corruption_stops_replay (fid : Nat) (cipher : Nat → Nat → UInt8) (us : List LogUnit)
    (wf : ∀ u ∈ us, u.WF) (ts : Nat) (hts : ts ≠ 0) (p : List Entry)
    (hp : ∀ e ∈ p, TxnEntry ts e) (e : Entry) (wfe : e.WF) (ks : Nat → UInt8)
    (pre suf rest : Bytes) (a b : UInt8) (henc : encodeEntry ks e = pre ++ a :: suf)
    (hlo : hdrLen e ≤ pre.length) (hhi : pre.length < hdrLen e + e.key.length + e.value.length)
    (hab : b ≠ a) :
    iterate fid cipher (encodeAll cipher vlogHeaderSize (unitsEntries us ++ p) ++
        (pre ++ b :: suf ++ rest)) =
      ⟨none, deliveredUnits fid cipher vlogHeaderSize us,
        vlogHeaderSize + encLen cipher vlogHeaderSize (unitsEntries us)⟩ :=
  C16_txn_units fid cipher us wf ts hts p hp _
    (.inl (C16_corruption_single_byte ks _ e wfe pre suf rest a b henc hlo hhi hab ▸ torn_truncate))

theorem decBytesF_succ_ne_nil (f n : Nat) (acc : Bytes) : decBytesF (f + 1) n acc ≠ [] := by
  induction f generalizing n acc with
  | zero => rw [decBytesF]; split <;> exact List.cons_ne_nil _ _
  | succ f ih =>
    rw [decBytesF]
    split
    · exact List.cons_ne_nil _ _
    · exact ih _ _

theorem parseDigits_digit (a d : Nat) (cs : Bytes) (hd : d < 10) :
    parseDigits a (UInt8.ofNat (48 + d) :: cs) = parseDigits (a * 10 + d) cs := by
  rw [parseDigits, u8_ofNat_toNat _ (by omega), if_pos (by omega), Nat.add_sub_cancel_left]

/-- Parsing the digits of `n` written in front of `acc` multiplies the accumulator by a power of
    ten and adds `n`. -/
theorem parseDigits_decBytesF (f : Nat) : ∀ (n : Nat) (acc : Bytes), n < 10 ^ f →
    ∃ L, ∀ a, parseDigits a (decBytesF f n acc) = parseDigits (a * 10 ^ L + n) acc := by
  induction f with
  | zero =>
    intro n acc h
    obtain rfl : n = 0 := Nat.lt_one_iff.mp h
    exact ⟨0, fun a => by rw [Nat.pow_zero, Nat.mul_one, Nat.add_zero]; rfl⟩
  | succ f ih =>
    intro n acc h
    rw [decBytesF]
    split
    · rename_i h0
      refine ⟨1, fun a => ?_⟩
      rw [parseDigits_digit a _ acc (Nat.mod_lt _ (by decide)), Nat.pow_one,
        Nat.mod_eq_of_lt (Nat.lt_of_div_eq_zero (by decide) h0)]
    · obtain ⟨L, hL⟩ := ih (n / 10) (UInt8.ofNat (48 + n % 10) :: acc)
        (Nat.div_lt_of_lt_mul (by rwa [Nat.pow_succ, Nat.mul_comm] at h))
      refine ⟨L + 1, fun a => ?_⟩
      rw [hL a, parseDigits_digit _ _ acc (Nat.mod_lt _ (by decide)), Nat.add_mul, Nat.mul_assoc,
        ← Nat.pow_succ, Nat.add_assoc, Nat.div_add_mod']

/-- The value badger writes into the end-of-transaction marker (`strconv.FormatUint(ts, 10)`)
    parses back to `ts` (`strconv.ParseUint(.., 10, 64)`), for every `uint64`. -/
theorem C16_fin_marker_value (ts : Nat) (h : ts < 2 ^ 64) : parseUintDec (decBytes ts) = some ts := by
  unfold parseUintDec decBytes
  have hne : decBytesF 20 ts [] ≠ [] := decBytesF_succ_ne_nil 19 ts []
  rw [if_neg hne]
  obtain ⟨L, hL⟩ := parseDigits_decBytesF 20 ts [] (Nat.lt_trans h (by decide))
  rw [hL 0]
  simp [parseDigits, h]

/-- `put k1@5=v` outside a transaction, then a transaction at ts 7 with two records + marker. -/
def exUnits : List LogUnit :=
  [ .single ⟨keyWithTs [0x6b, 0x31] 5, [0x76], 0, 0, 0⟩,
    .txn 7 [⟨keyWithTs [0x61] 7, [1, 2], 0, 0x40, 9⟩, ⟨keyWithTs [0x62] 7, [], 100, 0x41, 0⟩]
      ⟨keyWithTs [0x21] 7, decBytes 7, 0, 0x80, 0⟩ ]

example : ∀ u ∈ exUnits, u.WF := by
  simp only [exUnits, List.forall_mem_cons, List.not_mem_nil, false_imp_iff, implies_true, and_true,
    LogUnit.WF, TxnEntry, Entry.WF]
  decide

set_option maxRecDepth 100000 in
example : (iterate 3 (fun _ => noKs) (encodeAll (fun _ => noKs) 20 (unitsEntries exUnits))).delivered.map
    (fun d => (d.2.offset, d.2.len)) = [(20, 20), (40, 20), (60, 18)] := by decide +kernel

end Badger
