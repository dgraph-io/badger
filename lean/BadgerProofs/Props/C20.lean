import BadgerModel.Key
import BadgerProofs.Lemmas.Bytes
/-!
# C20 — internal key encoding round-trips and orders correctly (keys part).
Header / ValueStruct / valuePointer round-trips are in `C20Enc.lean`.
-/
namespace Badger

theorem keyWithTs_length (k : Bytes) (ts : Nat) : (keyWithTs k ts).length = k.length + 8 := by
  simp [keyWithTs]

theorem take_keyWithTs (k : Bytes) (ts : Nat) :
    (keyWithTs k ts).take ((keyWithTs k ts).length - 8) = k := by
  simp [keyWithTs]

theorem drop_keyWithTs (k : Bytes) (ts : Nat) :
    (keyWithTs k ts).drop ((keyWithTs k ts).length - 8) = beBytes (maxU64 - ts) 8 := by
  simp [keyWithTs]

theorem keyWithTs_ne_nil (k : Bytes) (ts : Nat) : (keyWithTs k ts).isEmpty = false := by
  rw [Bool.eq_false_iff, ne_eq, List.isEmpty_iff_length_eq_zero, keyWithTs_length]
  omega

/-- `ParseKey (KeyWithTs k ts) = k` (for every key, including the empty one: the Go code
    returns an empty slice of a non-nil array). -/
theorem C20_parseKey_keyWithTs (k : Bytes) (ts : Nat) : parseKey (keyWithTs k ts) = k := by
  unfold parseKey
  rw [take_keyWithTs, keyWithTs_length, if_neg (by omega)]

theorem maxU64_sub_lt (ts : Nat) : maxU64 - ts < 256 ^ 8 :=
  Nat.lt_of_le_of_lt (Nat.sub_le _ _) (by decide)

/-- `ParseTs (KeyWithTs k ts) = ts` for every non-empty user key and every `uint64` version. -/
theorem C20_parseTs_keyWithTs (k : Bytes) (ts : Nat) (hk : k ≠ []) (hts : ts ≤ maxU64) :
    parseTs (keyWithTs k ts) = ts := by
  have hl : ¬ (keyWithTs k ts).length ≤ 8 := by
    rw [keyWithTs_length]
    exact Nat.not_le.mpr (Nat.lt_add_of_pos_left (List.length_pos_iff.mpr hk))
  rw [parseTs, if_neg hl, drop_keyWithTs, beNat_beBytes _ _ (maxU64_sub_lt ts), Nat.sub_sub_self hts]

/-- The documented exception: an empty user key parses to version 0 (`len(key) <= 8`). -/
theorem C20_parseTs_empty_key (ts : Nat) : parseTs (keyWithTs [] ts) = 0 := by
  simp [parseTs, keyWithTs]

/-- Order: by user key byte-wise ascending, then by version descending. -/
theorem C20_compareKeys_order (a b : Bytes) (s t : Nat) (hs : s ≤ maxU64) (ht : t ≤ maxU64) :
    compareKeys (keyWithTs a s) (keyWithTs b t) =
      (match cmpBytes a b with
       | .eq => compare t s
       | o => o) := by
  rw [compareKeys, take_keyWithTs, take_keyWithTs, drop_keyWithTs, drop_keyWithTs,
    cmpBytes_beBytes _ _ 8 (maxU64_sub_lt s) (maxU64_sub_lt t), compare_sub_left hs ht]
  cases cmpBytes a b <;> rfl

/-- A larger version sorts earlier: raising the left version or lowering the right one keeps `≤`. -/
theorem keyWithTs_le_mono (a c : Bytes) {s s' u u' : Nat} (hs' : s' ≤ maxU64) (hu : u ≤ maxU64)
    (hss : s ≤ s') (huu : u' ≤ u) (h : compareKeys (keyWithTs a s) (keyWithTs c u) ≠ .gt) :
    compareKeys (keyWithTs a s') (keyWithTs c u') ≠ .gt := by
  rw [C20_compareKeys_order a c s u (by omega) hu] at h
  rw [C20_compareKeys_order a c s' u' hs' (by omega)]
  cases hc : cmpBytes a c with
  | lt => simp
  | gt => simp [hc] at h
  | eq =>
    simp only [hc, ne_eq, Nat.compare_eq_gt] at h ⊢
    omega

/-- `SameKey` ignores exactly the version. -/
theorem C20_sameKey (a b : Bytes) (s t : Nat) :
    sameKey (keyWithTs a s) (keyWithTs b t) = (a == b) := by
  unfold sameKey
  rw [C20_parseKey_keyWithTs, C20_parseKey_keyWithTs, keyWithTs_length, keyWithTs_length]
  split
  · next hl =>
    refine (beq_eq_false_iff_ne.mpr fun h => ?_).symm
    rw [h] at hl
    exact absurd hl (by simp)
  · rfl

theorem C20_keyWithTs_inj (a b : Bytes) (s t : Nat) (hs : s ≤ maxU64) (ht : t ≤ maxU64)
    (h : keyWithTs a s = keyWithTs b t) : a = b ∧ s = t := by
  have h1 : a = b := by
    have := congrArg parseKey h
    rwa [C20_parseKey_keyWithTs, C20_parseKey_keyWithTs] at this
  subst h1
  have h2 := congrArg beNat (List.append_cancel_left h)
  rw [beNat_beBytes _ _ (maxU64_sub_lt s), beNat_beBytes _ _ (maxU64_sub_lt t)] at h2
  exact ⟨rfl, by rw [← Nat.sub_sub_self hs, h2, Nat.sub_sub_self ht]⟩

-- one user key: the higher version sorts first; otherwise the user key decides, whatever the versions
example : compareKeys (keyWithTs [0x61] 5) (keyWithTs [0x61] 7) = .gt := by decide
example : compareKeys (keyWithTs [0x61] 5) (keyWithTs [0x61, 0x61] 7) = .lt := by decide

end Badger
