import BadgerModel.Extracted
import BadgerModel.Mvcc
/-!
# T-gen: facts regenerated from /repo's sources on every run (`BadgerModel/Extracted.lean`)
re-proved equal to what the hand-written model assumes. A changed constant or a flipped
comparison operator at one of the named decision sites makes one of these equations fail to check.
The `required_theorems` of a property (props/Cxx.json) list the `Cxx_tgen_` theorems its check insists
on. `./check Cxx` compiles every `Cxx_…` theorem of this file, listed there or not, with the unprefixed
ones, as a file of their own, so that a fact regenerated for another property cannot break this
property's build: no theorem here may use another property's, which is why the same equation stands
under several prefixes. (`C35_tgen_valuedir_cmp` stands in `Props/C35.lean` and is compiled with that
module.) The split (`split_tgen` of `/verif/check`) is textual: every `theorem`, every docstring and
every module comment (the form of this one) opens in column 0 (the module comments after the first
theorem are not copied), nothing else (no `def`, `open`, attribute or `private`) stands between two
theorems, and the file ends with `end Badger`; the same holds of every module whose name begins with
`Tgen`.
-/
namespace Badger
open Extracted

/-- meta bits used by every layer of the model -/
theorem tgen_bits :
    Extracted.bitDelete = Badger.bitDelete ∧ Extracted.bitValuePointer = Badger.bitValuePointer ∧
    Extracted.bitDiscardEarlierVersions = Badger.bitDiscardEarlier ∧ Extracted.bitMergeEntry = Badger.bitMerge ∧
    Extracted.bitTxn = Badger.bitTxn ∧ Extracted.bitFinTxn = Badger.bitFinTxn := ⟨rfl, rfl, rfl, rfl, rfl, rfl⟩

theorem C01_tgen_get_ops :
    op_dbget_version_eq = "==" ∧ op_dbget_max = "<" ∧ op_lcget_max = "<" ∧ op_lhget_max = "<" := ⟨rfl, rfl, rfl, rfl⟩
/-- the read path scans *every* memtable and level (no early `break`; inside the loop the only `return`s are an
    error and the exact-version hit), which is what `Lsm.get`'s fold over all sources mirrors -/
theorem C01_tgen_get_shape :
    n_break_lcget = 0 ∧ n_return_lcget = 4 ∧ n_break_dbget = 0 ∧ n_return_dbget = 3 ∧
    n_break_lhget = 0 ∧ n_return_lhget = 1 := ⟨rfl, rfl, rfl, rfl, rfl, rfl⟩
theorem C01_tgen_bits : Extracted.bitDelete = Badger.bitDelete := rfl

theorem C12_tgen_filter_ops :
    op_subcompact_version_discard = "<=" ∧ op_subcompact_numversions = "==" ∧ op_l0l0_min_tables = "<" ∧
    Extracted.bitDelete = Badger.bitDelete ∧ Extracted.bitDiscardEarlierVersions = Badger.bitDiscardEarlier ∧
    Extracted.bitMergeEntry = Badger.bitMerge := ⟨rfl, rfl, rfl, rfl, rfl, rfl⟩
theorem C13_tgen_filter_ops :
    op_subcompact_version_discard = "<=" ∧ op_subcompact_numversions = "==" ∧
    Extracted.bitDiscardEarlierVersions = Badger.bitDiscardEarlier ∧ Extracted.bitMergeEntry = Badger.bitMerge := ⟨rfl, rfl, rfl, rfl⟩

theorem C05_tgen_iter_ops :
    op_parseItem_version_readts = ">" ∧ op_parseItem_since = "<=" ∧
    Extracted.badgerPrefixBytes = Badger.badgerPrefix := ⟨rfl, rfl, rfl⟩

theorem C33_tgen_expiry_op : op_expired = "<=" ∧ Extracted.bitDelete = Badger.bitDelete := ⟨rfl, rfl⟩

theorem C06_tgen_threshold_ops :
    op_writeToLSM_threshold = "<" ∧ op_estimate_threshold = "<" ∧
    Extracted.bitValuePointer = Badger.bitValuePointer := ⟨rfl, rfl, rfl⟩

theorem C20_tgen_key_ops : op_parseTs_len = "<=" ∧ op_parseKey_len = "<" := ⟨rfl, rfl⟩

theorem C28_tgen_limits :
    Extracted.maxKeySize = 65000 ∧ op_modify_keylen = ">" ∧ op_modify_vallen = ">" ∧
    op_modify_inmem_vallen = ">" ∧ op_checkSize_count = ">=" ∧ op_checkSize_size = ">=" ∧
    Extracted.perEntryPad = 10 ∧ Extracted.txnKeyLen = Badger.txnKeyLen ∧
    Extracted.badgerPrefixBytes = Badger.badgerPrefix := ⟨rfl, rfl, rfl, rfl, rfl, rfl, rfl, rfl, rfl⟩

/-- the reservation for the end-of-transaction marker covers the marker's maximum size (8 version
    bytes + 20 decimal digits + 2 meta bytes; the smaller `10` was finding F6); `Db.begin` of `BadgerModel/Mvcc.lean` is
    written with the literal `30` -/
theorem C28_tgen_fin_reserve : Extracted.finReservePad = 30 ∧ 8 + 20 + 2 ≤ Extracted.finReservePad := by decide

theorem C02_tgen_oracle_ops : op_hasConflict_ts = "<=" ∧ op_cleanup_ts = "<=" := ⟨rfl, rfl⟩
/-- `oracle.discardAtOrBelow` returns `o.discardTs` in managed mode (first `return`, under
    `if o.isManaged`) and `o.readMark.DoneUntil()` otherwise — exactly `Oracle.discardAtOrBelow` of
    `BadgerModel/Oracle.lean`; an offset or another watermark at either site changes the string -/
theorem C34_tgen_discardAtOrBelow :
    ret_discardAtOrBelow = "o.discardTs | o.readMark.DoneUntil()" ∧
    ord_discardAtOrBelow_managed_first = "before" := ⟨rfl, rfl⟩
theorem C03_tgen_txn_bits : Extracted.bitTxn = Badger.bitTxn ∧ Extracted.bitFinTxn = Badger.bitFinTxn := ⟨rfl, rfl⟩
theorem C36_tgen_bits : Extracted.bitTxn = Badger.bitTxn := rfl
theorem C37_tgen_threshold_ops : op_writeToLSM_threshold = "<" ∧ op_modify_inmem_vallen = ">" := ⟨rfl, rfl⟩
theorem C04_tgen_bits : Extracted.bitDelete = Badger.bitDelete := rfl
theorem C14_tgen_l0l0 : op_l0l0_min_tables = "<" := rfl

/-! Orderings of effects inside one function (`ord_*`: first occurrence of statement A relative to
    statement B in the source of that function). The models perform these effects in this order. -/
theorem C15_tgen_clamp_before_scan : ord_rewrite_clamp_scan = "before" := rfl
/-- the #2286 clamp in `subcompact` is guarded by `gcActive` alone — it applies to a compaction into
    ANY level (a marker is dropped whenever nothing below the target level overlaps, not only in the
    last level) — and lowers `discardTs` to a positive smaller `gcDiscardTs`: `GcDb.discardTs` -/
theorem C15_tgen_clamp_cond :
    cond_subcompact_gc_clamp = "s.kv.gcActive.Load()" ∧
    cond_subcompact_gc_clamp_inner = "gcMax > 0 && gcMax < discardTs" := ⟨rfl, rfl⟩
theorem C10_tgen_manifest_order :
    ord_flush_manifest_wal = "before" ∧ ord_compact_manifest_replace = "before" ∧
    ord_compact_replace_delete = "before" := ⟨rfl, rfl, rfl⟩
/-- SyncWrites: the WAL a request was written to is msynced inside `writeToLSM` — per request,
    after its `mt.Put`s, on the memtable that is current *for that request* (`ensureRoomForWrite`
    runs before every `writeToLSM` and may rotate the memtable in the middle of a batch) — and
    `writeRequests` acknowledges (`done(nil)`) only afterwards; the value log is msynced by
    `valueLog.write`. This is the `sync (.mem fid)` atom closing `walProg` of every request. -/
theorem C10_tgen_sync_per_request :
    has_writeToLSM_syncwal = "yes" ∧ has_writeRequests_syncwal = "no" ∧ ord_writeToLSM_put_sync = "before" ∧
    ord_writeRequests_room_lsm = "before" ∧ ord_writeRequests_lsm_done = "before" ∧
    has_vlogwrite_sync = "yes" := ⟨rfl, rfl, rfl, rfl, rfl, rfl⟩
theorem C07_tgen_manifest_order :
    ord_flush_manifest_wal = "before" ∧ ord_compact_manifest_replace = "before" := ⟨rfl, rfl⟩
theorem C03_tgen_commit_order :
    ord_commit_lock_ts = "before" ∧ ord_commit_ts_send = "before" ∧ ord_commit_wait_done = "before" := ⟨rfl, rfl, rfl⟩

/-! Order of the validation checks and effects of `Txn.modify` (the model's `Db.modify` performs them in
    this order: which error a rejected write gets is part of C28), of `Txn.Get` (pending write,
    read tracking, snapshot: C04) and of `Txn.Commit`. -/
theorem C28_tgen_modify_order : ord_modify_checks = "ascending" := rfl
theorem C04_tgen_get_order : ord_get_steps = "ascending" := rfl
theorem C02_tgen_get_tracks_reads : ord_get_steps = "ascending" := rfl
theorem C03_tgen_commit_steps : ord_commit_steps = "ascending" := rfl

/-! `_found` flags of extraction sites (an extractor that silently falls back to a default would
    otherwise keep a theorem true after the code moved). A count asserted non-zero needs none; the
    zero counts of `C12_`/`C36_tgen_get_shape` have theirs only in `C01_tgen_get_found`. A `has_… = "no"`
    is also what the extractor prints when the function is gone: `has_addinternal_maxversion` (C11/C07)
    has no positive fact on `Builder.addInternal` beside it. -/
theorem C20_tgen_constants_found :
    bitDelete_found = true ∧ bitValuePointer_found = true ∧ bitDiscardEarlierVersions_found = true ∧
    bitMergeEntry_found = true ∧ bitTxn_found = true ∧ bitFinTxn_found = true ∧
    vlogHeaderSize_found = true ∧ maxHeaderSize_found = true ∧
    Extracted.badgerPrefixLen = Badger.badgerPrefix.length := ⟨rfl, rfl, rfl, rfl, rfl, rfl, rfl, rfl, rfl⟩
theorem C28_tgen_limits_found :
    maxKeySize_found = true ∧ finReservePad_found = true ∧ perEntryPad_found = true ∧
    kvWriteChCapacity_found = true ∧ 0 < Extracted.kvWriteChCapacity ∧
    Extracted.txnKeyBytes.length = Badger.txnKeyLen := by decide
theorem C17_tgen_manifest_found :
    manifestDeletionsRewriteThreshold_found = true ∧ manifestDeletionsRatio_found = true := ⟨rfl, rfl⟩
theorem C01_tgen_get_found :
    n_break_lcget_found = true ∧ n_return_lcget_found = true ∧ n_break_dbget_found = true ∧
    n_return_dbget_found = true ∧ n_break_lhget_found = true ∧ n_return_lhget_found = true := ⟨rfl, rfl, rfl, rfl, rfl, rfl⟩

/-- banned namespaces: `isBanned` guards with `NamespaceOffset < 0` and `len(key) <= off+8`
    (`isBannedKey`), `Txn.Get` checks it between the discarded test and the pending lookup
    (`Db.txnGetNs`), `parseItem` checks it on the user key between the version window test and the
    mode-specific logic (`hideBanned`), `BanNamespace` writes the marker at version 1 and then adds
    the namespace to the in-memory set (`Db.banNamespace`). -/
theorem C28_tgen_banned :
    op_isbanned_len = "<=" ∧ op_isbanned_off = "<" ∧ ord_get_banned = "ascending" ∧
    ord_parseitem_banned = "ascending" ∧ has_ban_add = "yes" ∧ ord_ban_steps = "ascending" := ⟨rfl, rfl, rfl, rfl, rfl, rfl⟩
/-- reader / flusher protocol (`Props/C01Flush.lean`): readers pick the memtables before the level
    tables (`NewIterator`, `DB.get`), the flusher publishes the L0 table before it retires the
    memtable. -/
theorem C01_tgen_reader_flusher_order :
    ord_newiterator_mem_levels = "ascending" ∧ ord_dbget_mem_levels = "ascending" ∧
    ord_flusher_l0_imm = "ascending" := ⟨rfl, rfl, rfl⟩
theorem C12_tgen_reader_flusher_order :
    ord_newiterator_mem_levels = "ascending" ∧ ord_dbget_mem_levels = "ascending" ∧
    ord_flusher_l0_imm = "ascending" := ⟨rfl, rfl, rfl⟩
theorem C31_tgen_reader_flusher_order :
    ord_newiterator_mem_levels = "ascending" ∧ ord_flusher_l0_imm = "ascending" := ⟨rfl, rfl⟩
/-- C34: outside `newCommitTs`/`doneCommit` the commit watermark is only ever moved to a timestamp
    that is already used up: `Open` marks `MaxVersion()` done before it increments the next timestamp,
    `Load` marks `nextTxnTs - 1`; `StreamWriter.Flush` (stream_writer.go) does as `Open` on the oracle
    it creates — no fact is regenerated for that site. -/
theorem C34_tgen_marks_below_next :
    has_load_txnmark_prev = "yes" ∧ ord_open_marks_increment = "ascending" := ⟨rfl, rfl⟩
/-- C38: `valueLog.rewrite` decides under `filesLock` and deletes the file after releasing it
    (no lock-order cycle `filesLock → file lock` against readers, which take `file lock → filesLock`). -/
theorem C38_tgen_gc_lock_order :
    has_rewrite_deferred_unlock = "no" ∧ ord_rewrite_unlock_delete = "ascending" := ⟨rfl, rfl⟩
/-- the entry `valueLog.rewrite` writes back (`ne`) carries the record's meta with ONLY the
    value-pointer and transaction bits removed (one assignment to `ne.meta`), its user meta and its
    expiry: `wbEnt` of `BadgerModel/Vlog.lean`. In particular the merge-operand bit and the
    discard-earlier bit survive a GC (C13: a merge operand is never counted against
    NumVersionsToKeep; C31: the operator folds all operands). -/
theorem C15_tgen_writeback_fields :
    has_rewrite_meta_keep = "yes" ∧ has_rewrite_umeta_copy = "yes" ∧ has_rewrite_exp_copy = "yes" ∧
    n_rewrite_meta_assign = 1 := ⟨rfl, rfl, rfl, rfl⟩
theorem C13_tgen_writeback_meta : has_rewrite_meta_keep = "yes" ∧ n_rewrite_meta_assign = 1 := ⟨rfl, rfl⟩
theorem C31_tgen_writeback_meta : has_rewrite_meta_keep = "yes" ∧ n_rewrite_meta_assign = 1 := ⟨rfl, rfl⟩
/-- C06 / C33: what GC writes back carries the user meta and the expiry of the entry it moves -/
theorem C06_tgen_writeback_fields :
    has_rewrite_meta_keep = "yes" ∧ has_rewrite_umeta_copy = "yes" ∧ has_rewrite_exp_copy = "yes" := ⟨rfl, rfl, rfl⟩
theorem C33_tgen_writeback_expiry : has_rewrite_exp_copy = "yes" := rfl
/-- C12 / C36 rest on the same shape of the read path as C01: every level is consulted (no early
    `break`), so a compaction that moves a version to another level cannot change which version a
    `Get` returns (seed family lcget-break, C12f). -/
theorem C12_tgen_get_shape :
    n_break_lcget = 0 ∧ n_return_lcget = 4 ∧ n_break_dbget = 0 ∧ n_break_lhget = 0 := ⟨rfl, rfl, rfl, rfl⟩
theorem C36_tgen_get_shape :
    n_break_lcget = 0 ∧ n_return_lcget = 4 ∧ n_break_dbget = 0 ∧ n_break_lhget = 0 := ⟨rfl, rfl, rfl, rfl⟩
/-- reader / compactor protocol (`Props/C01Levels.lean`): lookups and iterator creation walk the levels
    from 0 downwards; a compaction publishes on the next level before it deletes from this level. -/
theorem C01_tgen_level_scan_order :
    has_lcget_range_levels = "yes" ∧ has_appenditers_range_levels = "yes" ∧
    ord_compact_replace_delete = "before" := ⟨rfl, rfl, rfl⟩
theorem C12_tgen_level_scan_order :
    has_lcget_range_levels = "yes" ∧ has_appenditers_range_levels = "yes" ∧
    ord_compact_replace_delete = "before" := ⟨rfl, rfl, rfl⟩
/-- C17: a MANIFEST rewrite starts from an EMPTY temporary file (`Manifest.lean`'s rewrite writes the
    whole image; a leftover tail would be replayed as a torn record and cut off later change sets). -/
theorem C17_tgen_rewrite_truncates : has_rewrite_opentrunc = "yes" := rfl
/-- C26 / C06: inline-or-pointer is decided once per entry, by the threshold `valueLog.write` saw
    (`skipVlogAndSetThreshold` memoizes it); the StreamWriter's sorted writer and `writeToLSM` ask
    the entry. -/
theorem C26_tgen_threshold_memo : has_sw_threshold_memo = "yes" ∧ has_lsm_threshold_memo = "yes" := ⟨rfl, rfl⟩
theorem C06_tgen_threshold_memo : has_sw_threshold_memo = "yes" ∧ has_lsm_threshold_memo = "yes" := ⟨rfl, rfl⟩
/-- C37 / C24: an inline value is stored with the value-pointer bit cleared, in ONE place for every
    mode (`Db.lsmForm`); a backup carries the raw meta byte of its source. -/
theorem C37_tgen_writetolsm_clears_vptr :
    has_writetolsm_clears_vptr = "yes" ∧ n_writetolsm_put = 2 := ⟨rfl, rfl⟩
theorem C24_tgen_writetolsm_clears_vptr :
    has_writetolsm_clears_vptr = "yes" ∧ n_writetolsm_put = 2 := ⟨rfl, rfl⟩
/-- C11 / C07: every entry a table builder adds — stale (deleted, expired, discarded) or not — counts
    towards the table's MaxVersion, from which `Open` seeds the next timestamp (`Db.maxVersion`
    folds over ALL stored entries). -/
theorem C11_tgen_table_maxversion :
    has_addhelper_maxversion = "yes" ∧ has_addinternal_maxversion = "no" := ⟨rfl, rfl⟩
theorem C07_tgen_table_maxversion :
    has_addhelper_maxversion = "yes" ∧ has_addinternal_maxversion = "no" := ⟨rfl, rfl⟩

/-- `compactStatus` as transcribed in BadgerModel/CompactStatus.lean: `compareAndAdd` tests this level
    then the next level and only then appends; `delete` removes `nextRange` only for different level
    handlers and a non-empty range (observation O-cs1 rests on this); `fillTablesL0ToL0` skips the
    tables of running compactions. -/
theorem C14_tgen_cstatus :
    cond_caa_tests = "thisLevel.overlapsWith(cd.thisRange) | nextLevel.overlapsWith(cd.nextRange)" ∧
    ord_caa_tests_appends = "before" ∧
    cond_cstatus_delete_next = "cd.thisLevel != cd.nextLevel && !cd.nextRange.isEmpty()" ∧
    has_l0l0_being_compacted_skip = "yes" := ⟨rfl, rfl, rfl, rfl⟩
theorem C12_tgen_cstatus :
    cond_caa_tests = "thisLevel.overlapsWith(cd.thisRange) | nextLevel.overlapsWith(cd.nextRange)" ∧
    ord_caa_tests_appends = "before" := ⟨rfl, rfl⟩

/-- `getKeyRange` returns the empty range for no tables and otherwise
    `[ParseKey(smallest)@MaxUint64, ParseKey(biggest)@0]`: `getKeyRangeOf` in Props/C14Status.lean. -/
theorem C14_tgen_getKeyRange :
    ret_getKeyRange = "keyRange{} | keyRange{ left: y.KeyWithTs(y.ParseKey(smallest), math.MaxUint64), right: y.KeyWithTs(y.ParseKey(biggest), 0), }" := rfl

end Badger
