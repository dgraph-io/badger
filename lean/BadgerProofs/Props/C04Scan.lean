import BadgerProofs.Props.C05Db
/-!
# C04 composed: a read-write transaction's full forward scan in every reachable state

The iterator of a transaction with pending writes yields, per key: its own pending write (value,
user meta, expiry; nothing if it is a delete or has expired) when it has one, and otherwise exactly
what the snapshot holds — the newest committed write `≤ readTs` over the commit history, if live
(the membership condition of `C04_db_scan` is `DbL.Seen d hist t x`, Props/C05Db.lean, written out).
-/
namespace Badger

theorem C04_db_scan {o : Opts} {hist : List Ent} {d : Db} (hm : o.managed = false)
    (r : DbReach o hist d) {id : Nat} {t : TxnM} (hf : d.findTxn id = some t) (hdisc : t.discarded = false)
    (io : IterOpts) (hrev : io.reverse = false) (hall : io.allVersions = false)
    (hsince : io.sinceTs = 0) (hpfx : io.prefix_ = []) (hpk : io.prefixIsKey = false)
    (hh : io.internalAccess = true ∨
      ((∀ e ∈ hist, badgerPrefix.isPrefixOf e.ikey = false) ∧ ∀ e ∈ pendingSource t, badgerPrefix.isPrefixOf e.ikey = false)) :
    ∃ L, d.iterate id io none = some L ∧
      (∀ x, x ∈ L ↔
        ((x ∈ pendingSource t ∧ deletedOrExpired x.emeta x.exp d.now = false) ∨
         ((∀ p ∈ pendingSource t, p.key ≠ x.key) ∧ visible d.now (newestLE hist x.key t.readTs) = some x))) ∧
      L.Pairwise (fun a b => cmpBytes a.key b.key = .lt) := by
  obtain ⟨L, hit, hmem, hsorted⟩ := (DbL.tree_of_reach hm r).scan hf (C34_db_discard_below_open hm r hf hdisc)
    io none hall hsince hpk (C05_rewind_key io none (.inl rfl)) hh
  refine ⟨L, hit, fun x => (hmem x).trans ?_, by rw [hrev] at hsorted; exact hsorted⟩
  rw [seekSide, hrev]
  exact and_iff_left (DbL.rewind_all hpfx x.key)

end Badger
