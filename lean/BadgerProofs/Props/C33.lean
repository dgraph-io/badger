import BadgerProofs.Lemmas.Txn
/-!
# C33 — expired entries are invisible on every read path, live ones visible

`deletedOrExpired m exp now` is `isDeletedOrExpired(meta, expiresAt)` (iterator.go:590) with the
clock as a parameter; `visible now` is its use on the newest version found. Both read paths of
the model (`Db.txnGet`, `Db.iterate`/`parseItems`) call the same function with the same clock
`d.now` (`C33_get_paths`). Stream/Backup/GC paths are outside this model (DESIGN §6 C33).
-/
namespace Badger

/-- `isDeletedOrExpired`: delete bit, or a non-zero expiry that has passed (`≤ now`, as in the
    code: `expiresAt <= uint64(time.Now().Unix())`). -/
theorem C33_deletedOrExpired_iff (m exp now : Nat) :
    deletedOrExpired m exp now = true ↔ hasBit m bitDelete = true ∨ (exp ≠ 0 ∧ exp ≤ now) := by
  simp [deletedOrExpired]

theorem C33_visible_iff (now : Nat) (e : Ent) :
    visible now (some e) = none ↔ hasBit e.emeta bitDelete = true ∨ (e.exp ≠ 0 ∧ e.exp ≤ now) := by
  rw [← C33_deletedOrExpired_iff]
  by_cases h : deletedOrExpired e.emeta e.exp now = true <;> simp [visible, h]

theorem C33_visible_some_iff (now : Nat) (e : Ent) :
    visible now (some e) = some e ↔ hasBit e.emeta bitDelete = false ∧ (e.exp = 0 ∨ now < e.exp) := by
  rw [visible_some_iff, ← Bool.not_eq_true, C33_deletedOrExpired_iff]
  simp only [true_and, not_or, Bool.not_eq_true, not_and, Nat.not_le]
  exact and_congr_right fun _ => ⟨fun h => (Nat.eq_zero_or_pos e.exp).imp_right fun hp => h (Nat.ne_of_gt hp), fun h hz => h.resolve_left hz⟩

/-- While the clock is before the expiry the entry is visible; from the expiry on it is not
    (an entry that is not a delete marker). -/
theorem C33_visible_window (now : Nat) (e : Ent) (hd : hasBit e.emeta bitDelete = false)
    (hx : e.exp ≠ 0) :
    (now < e.exp → visible now (some e) = some e) ∧ (e.exp ≤ now → visible now (some e) = none) := by
  constructor
  · intro h; exact (C33_visible_some_iff now e).mpr ⟨hd, .inr h⟩
  · intro h; exact (C33_visible_iff now e).mpr (.inr ⟨hx, h⟩)

/-- An expired newest version hides older versions exactly as a delete would: the read is
    absent whatever older (live) versions of the key exist in `es`. -/
theorem C33_expired_hides_older (es : List Ent) (k : Bytes) (ts now : Nat) (e : Ent)
    (hn : newestLE es k ts = some e) (hx : e.exp ≠ 0) (hle : e.exp ≤ now) :
    visible now (newestLE es k ts) = none := by
  rw [hn]; exact (C33_visible_iff now e).mpr (.inr ⟨hx, hle⟩)

/-- The same with an older live version of the key explicitly present. -/
theorem C33_expired_hides_older_any (es : List Ent) (k : Bytes) (ts now : Nat) (e older : Ent)
    (hn : newestLE es k ts = some e) (hx : e.exp ≠ 0) (hle : e.exp ≤ now)
    (_hold : older ∈ es ∧ older.key = k ∧ older.ver < e.ver ∧
      deletedOrExpired older.emeta older.exp now = false) :
    visible now (newestLE es k ts) = none :=
  C33_expired_hides_older es k ts now e hn hx hle

/-- A newer non-expiring, non-deleted write stays visible whatever lies below it. -/
theorem C33_newer_visible (es : List Ent) (k : Bytes) (ts now : Nat) (e : Ent)
    (hn : newestLE es k ts = some e) (hd : hasBit e.emeta bitDelete = false) (hx : e.exp = 0) :
    visible now (newestLE es k ts) = some e := by
  rw [hn]; exact (C33_visible_some_iff now e).mpr ⟨hd, .inl hx⟩

/-- Both read paths apply the same test with the same clock:
    * `Txn.Get` answers `visible d.now` of the pending write / of `DB.get`;
    * every item an iterator yields (outside `AllVersions`) passed `deletedOrExpired … d.now`. -/
theorem C33_get_paths (d : Db) (id : Nat) (t : TxnM) (k : Bytes)
    (ht : d.findTxn id = some t) (hk : k ≠ []) (hd : t.discarded = false) :
    ((d.txnGet id k).2 =
      match visible d.now
        (match (if t.update then t.pending.find? (·.key == k) else none) with
         | some e => some e
         | none => d.lsm.get k t.readTs) with
      | none => GetRes.notfound
      | some e =>
        (match (if t.update then t.pending.find? (·.key == k) else none) with
         | some _ => GetRes.found e t.readTs
         | none => GetRes.found e e.ver)) ∧
    (∀ (o : IterOpts) (seek : Option Bytes) (items : List Ent), o.allVersions = false →
      d.iterate id o seek = some items → ∀ x ∈ items, deletedOrExpired x.emeta x.exp d.now = false) := by
  constructor
  · rw [txnGet_eq k ht]
    exact getAnswer_visible d.now _ hk hd
  · intro o seek items hall hit x hx
    rw [iterate_eq o seek ht, Option.some.injEq] at hit
    exact (mem_scanOut (hit ▸ hx)).2.2.1 hall

-- non-vacuity: an entry expiring at 100 is visible at 99, invisible at 100, and hides an older
-- live version; a newer non-expiring write is visible again.
example :
    let old : Ent := { key := [1], ver := 1, emeta := 0, umeta := 0, exp := 0, val := [1] }
    let exp : Ent := { key := [1], ver := 2, emeta := 0, umeta := 0, exp := 100, val := [2] }
    let new : Ent := { key := [1], ver := 3, emeta := 0, umeta := 0, exp := 0, val := [3] }
    visible 99 (newestLE [new, exp, old] [1] 2) = some exp ∧
    visible 100 (newestLE [new, exp, old] [1] 2) = none ∧
    visible 100 (newestLE [new, exp, old] [1] 3) = some new := by decide

end Badger
