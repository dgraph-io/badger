import BadgerModel.Vlog
import BadgerProofs.Props.C12
import BadgerProofs.Props.C12Filter
import BadgerProofs.Lemmas.Lists
import BadgerProofs.Lemmas.Bits
/-!
# C15 — value-log GC never changes, loses or resurrects data

Model: `BadgerModel/Vlog.lean` (`gcScan`/`scanDecide` = the scan of `valueLog.rewrite` with
`discardEntry`; `GcDb.gcEnd` = write-back through the normal write path + deletion now/deferred;
`GcDb.discardTs` = the `gcActive/gcDiscardTs` clamp of `subcompact`). The theorems hold for
arbitrary states and lists; the tie to the code is engine `gc`.

Proved: a write-back changes no read (`C15_writeback_read_eq`, `_reads`, `_batch_reads`,
`_shadowed`); what the scan discards is unreachable (`C15_scan_sound`); after the write-back no
visible read points into the file, and unlinking it changes no resolution (`C15_delete_safe`,
`C15_unlink_resolve`); with the clamp (`discardTs ≤ gcTs`) a compaction between scan and
write-back resurrects nothing PROVIDED no version of the key in `[v, gcTs]` is dead
(`C15_no_resurrect`); while an iterator is open no step unlinks a file
(`C15_iter_items_readable*`); a write-back keeps the recency invariant `LayeredX` exactly when nothing newer
of the key is stored below the memtable (`C15_writeback_layering_iff`), and then later compactions are safe
(`C15_writeback_then_compact_reads`). Also: a scan parked and resumed selects what the one-piece scan selects
(`C15_scan_split`), `GcDb.discardTs` is the clamp (`C15_clamp_le`), the deferred files go when the last iterator
closes (`C15_last_iterator_unlinks`).

FALSE on the code as it is (negation witnesses, each replayed on the real code):
`C15_resurrect_without_clamp` (#2286; `C15_clamp_protects_witness`: safe with the clamp);
`C15_resurrect_counterexample` (finding F21a: the delete was committed BEFORE the rewrite started,
so its tombstone is not above the clamp); `C15_resurrect_after_gc_counterexample` (F21b: no race,
the write-back lands ABOVE an older-level tombstone that a later compaction drops;
`C15_writeback_breaks_layering`: it violates `LayeredX`, which every C12 read-preservation theorem
needs); `C15_resurrect_managed_old_ts_counterexample` (F12: the same in managed mode, the delete
committed after the rewrite started at a timestamp `≤ gcDiscardTs`); `C15_get_item_stale_counterexample`
(F3: an `Item` from `Txn.Get` does not pin its file).
-/
namespace Badger

theorem decodePtr_encodePtr (fid idx : Nat) (h : fid < 2 ^ 32) (hi : idx < 2 ^ 32) :
    decodePtr (encodePtr fid idx) = (fid, idx) := by
  show (beNat ((beBytes fid 4 ++ beBytes idx 4).take 4),
    beNat ((beBytes fid 4 ++ beBytes idx 4).drop 4)) = _
  rw [List.take_left' (beBytes_length fid 4), List.drop_left' (beBytes_length fid 4),
    beNat_beBytes fid 4 (by omega), beNat_beBytes idx 4 (by omega)]

example : decodePtr (encodePtr 3 7) = (3, 7) := by decide

/-! ## reads under a re-put (`memPut` of an entry whose `(key, ver)` may already exist) -/

/-- **C15 (write-back, exact effect)** — after `memPut e'` a read of `(k, ts)` returns `e'` exactly
    when `e'` is a candidate (`e'.key = k`, `e'.ver ≤ ts`) and what the read returned before has a
    version `≤ e'.ver` (or nothing was returned); otherwise the read is untouched. -/
theorem C15_writeback_read_eq {s : Lsm} (h : LsmInv s) {e' : Ent} (hpos : 0 < e'.ver) (k : Bytes) (ts : Nat) :
    (s.putEnt e').get k ts =
      if e'.key = k ∧ e'.ver ≤ ts ∧ (∀ x, s.get k ts = some x → x.ver ≤ e'.ver) then some e' else s.get k ts := by
  rw [C12_put_reads h hpos, LL.newestLE_cons, ← C01_get_spec h]
  unfold LL.cand
  by_cases hc : e'.key = k ∧ e'.ver ≤ ts
  · rw [if_pos hc]
    cases hg : s.get k ts with
    | none => simp [hc, LL.pick]
    | some x =>
      simp only [LL.pick]
      by_cases hv : e'.ver < x.ver
      · rw [if_pos hv, if_neg]
        rintro ⟨_, _, h3⟩
        have := h3 x rfl
        omega
      · rw [if_neg hv, if_pos]
        exact ⟨hc.1, hc.2, fun y hy => by cases hy; omega⟩
  · rw [if_neg hc, if_neg (fun h3 => hc ⟨h3.1, h3.2.1⟩)]
    rfl

/-- deadness is part of the user-visible content -/
theorem dead_of_view {vl vl' : Vlog} {a b : Ent} (h : viewOf vl a = viewOf vl' b) (now : Nat) :
    deletedOrExpired a.emeta a.exp now = deletedOrExpired b.emeta b.exp now := by
  rw [show a.exp = b.exp from congrArg View.exp h]
  exact deletedOrExpired_congr (congrArg View.deleted h) ..

/-- **C15 (write-back below a survivor)** — re-putting `k@v` changes no read at which a strictly
    newer version of `k` is served. -/
theorem C15_writeback_shadowed {s : Lsm} (h : LsmInv s) {e' x : Ent} (hpos : 0 < e'.ver) {k : Bytes} {ts : Nat}
    (hx : s.get k ts = some x) (hnew : e'.ver < x.ver) : (s.putEnt e').get k ts = s.get k ts := by
  rw [C15_writeback_read_eq h hpos, if_neg]
  rintro ⟨_, _, h3⟩
  have := h3 x hx
  omega

/-- what links a pointer entry to the record it points at: the record was written for the entry's
    internal key and is dead exactly when the entry is (same delete bit and expiry) -/
structure PtrRec (now : Nat) (e : Ent) (r : VRec) : Prop where
  key : r.key = e.key
  ver : r.ver = e.ver
  dead : deletedOrExpired r.rmeta r.exp now = deletedOrExpired e.emeta e.exp now

theorem mem_gcScan {lsm : Lsm} {now : Nat} {f : VFile} {r : VRec} :
    r ∈ gcScan lsm now f ↔ ∃ i, f.recs[i]? = some r ∧ gcMoves lsm now f.fid i r = true := by
  unfold gcScan
  rw [List.mem_filterMap]
  constructor
  · rintro ⟨⟨i, r'⟩, hm, hf⟩
    simp only at hf
    split at hf
    · rename_i hmv
      cases hf
      exact ⟨i, (LL.mem_zipIdx _ _ _).mp hm, hmv⟩
    · cases hf
  · rintro ⟨i, hi, hmv⟩
    exact ⟨(i, r), (LL.mem_zipIdx _ _ _).mpr hi, by simp [hmv]⟩

/-- **C15 (scan)** — if a read of ANY key at ANY timestamp returns a visible pointer entry whose
    pointer is position `idx` of file `f`, and the record there is the one written for it, then the
    scan moves that record. Contrapositive: a record the scan classifies as discardable (dead,
    version gone from the LSM, LSM entry inline / pointing elsewhere) is not the target of any entry a
    read can return — in particular of no entry whose version was superseded, deleted or compacted
    away. -/
theorem C15_scan_sound {lsm : Lsm} (h : LsmInv lsm) {f : VFile} {now : Nat} {k : Bytes} {ts : Nat} {e : Ent}
    {r : VRec} {idx : Nat}
    (hget : lsm.get k ts = some e) (hvis : deletedOrExpired e.emeta e.exp now = false)
    (hp : hasBit e.emeta bitValuePointer = true) (hfin : hasBit e.emeta bitFinTxn = false)
    (hloc : decodePtr e.val = (f.fid, idx)) (hr : f.recs[idx]? = some r) (hpr : PtrRec now e r) :
    r ∈ gcScan lsm now f := by
  rw [mem_gcScan]
  refine ⟨idx, hr, ?_⟩
  have hself : lsm.get r.key r.ver = some e := by
    rw [C01_get_spec h] at hget ⊢
    have hk := (LL.newestLE_some hget).2.1
    rw [hpr.key, hpr.ver, hk]
    exact newestLE_at_ver hget
  -- each test of `scanDecide` before `.move` fails: the record is live, the LSM serves `e` at `r.key@r.ver` with
  -- the record's version, `e` is a pointer without `bitFinTxn`, and it points at `(f.fid, idx)`
  unfold gcMoves scanDecide
  rw [hpr.dead, hvis, hself]
  simp [hpr.ver, hp, hfin, hloc]

/-- a scan parked after `k` records and resumed with the LSM unchanged selects what the one-piece
    scan selects (`GcDb.gcBeginAt` + `GcDb.gcCont` vs `GcDb.gcBegin`) -/
theorem C15_scan_split (lsm : Lsm) (now : Nat) (f : VFile) (k : Nat) :
    gcScanPart lsm now f.fid ((zipIdx f.recs).take k) ++ gcScanPart lsm now f.fid ((zipIdx f.recs).drop k) =
      gcScan lsm now f := by
  unfold gcScanPart gcScan
  rw [← List.filterMap_append, List.take_append_drop]

theorem putAll_cons (s : Lsm) (w : Ent) (W : List Ent) : s.putAll (w :: W) = (s.putEnt w).putAll W := rfl

theorem putAll_inv {s : Lsm} (h : LsmInv s) {W : List Ent} (hW : ∀ w ∈ W, 0 < w.ver) : LsmInv (s.putAll W) := by
  induction W generalizing s with
  | nil => exact h
  | cons w W ih =>
    rw [putAll_cons]
    exact ih (C14_put_inv h (hW w List.mem_cons_self)) (fun x hx => hW x (List.mem_cons_of_mem _ hx))

theorem putAll_get {s : Lsm} (h : LsmInv s) {W : List Ent} (hW : ∀ w ∈ W, 0 < w.ver) (k : Bytes) (ts : Nat) :
    (s.putAll W).get k ts = newestLE (W.reverse ++ s.allEntries) k ts := by
  rw [C01_get_spec (putAll_inv h hW), LL.allEntries_eq, LL.allEntries_eq]
  simp only [LL.memEnts, Lsm.putAll, newestLE_append, newestLE_foldl_memPut, pick_assoc]

/-- every visible pointer entry that a read can return and that points into `f` points at a
    record of `f` written for it -/
def PtrOkInto (s : Lsm) (f : VFile) (now : Nat) : Prop :=
  ∀ k ts e, s.get k ts = some e → deletedOrExpired e.emeta e.exp now = false →
    hasBit e.emeta bitValuePointer = true → (decodePtr e.val).1 = f.fid →
    hasBit e.emeta bitFinTxn = false ∧ ∃ r, f.recs[(decodePtr e.val).2]? = some r ∧ PtrRec now e r

/-- **C15 (delete, no interleaving)** — once every record the scan selected has been re-put (with
    its `(key, ver)`, pointing into another file), no read of any key at any timestamp returns a
    visible pointer into `f`. -/
theorem C15_delete_safe {s : Lsm} (h : LsmInv s) {f : VFile} {now : Nat} {W : List Ent}
    (hWpos : ∀ w ∈ W, 0 < w.ver)
    (hWptr : ∀ w ∈ W, hasBit w.emeta bitValuePointer = true → (decodePtr w.val).1 ≠ f.fid)
    (hWall : ∀ r ∈ gcScan s now f, ∃ w ∈ W, w.key = r.key ∧ w.ver = r.ver)
    (hptr : PtrOkInto s f now) :
    ∀ k ts e, (s.putAll W).get k ts = some e → deletedOrExpired e.emeta e.exp now = false →
      hasBit e.emeta bitValuePointer = true → (decodePtr e.val).1 ≠ f.fid := by
  intro k ts e hg hvis hp hfid
  rw [putAll_get h hWpos, LL.newestLE_append] at hg
  rcases LL.pick_some hg with ⟨h1, _⟩ | ⟨h1, h2⟩
  · have := (LL.newestLE_some h1).1
    exact hWptr e (List.mem_reverse.mp this) hp hfid
  · have hget : s.get k ts = some e := by rw [C01_get_spec h]; exact h1
    obtain ⟨hfin, r, hr, hpr⟩ := hptr k ts e hget hvis hp hfid
    have hsc := C15_scan_sound h hget hvis hp hfin (Prod.ext hfid rfl) hr hpr
    obtain ⟨w, hw, hwk, hwv⟩ := hWall r hsc
    obtain ⟨_, ek, ev, _⟩ := LL.newestLE_some h1
    have hwk' : w.key = k := by rw [hwk, hpr.key, ek]
    have hwv' : w.ver = e.ver := by rw [hwv, hpr.ver]
    obtain ⟨a, hl, _⟩ := newestLE_of_mem (ts := ts) (List.mem_reverse.mpr hw) hwk' (by omega)
    have := h2 a hl
    omega

/-- **C15 (unlink)** — removing a file from `filesMap` changes the resolution of no entry that does
    not point into it. With `C15_delete_safe`: after scan + write-back, unlinking `f` leaves every
    visible read resolvable as before. -/
theorem C15_unlink_resolve (vl : Vlog) (fid : Nat) (e : Ent)
    (h : hasBit e.emeta bitValuePointer = true → (decodePtr e.val).1 ≠ fid) :
    resolve { vl with files := vl.files.filter (·.fid != fid) } e = resolve vl e := by
  unfold resolve
  by_cases hp : hasBit e.emeta bitValuePointer = true
  · rw [if_pos hp, if_pos hp]
    simp only [Vlog.read, Vlog.file?]
    rw [find?_filter_key_ne VFile.fid _ (h hp)]
  · rw [if_neg hp, if_neg hp]

/-! ## compactions between scan and write-back: the `gcDiscardTs` clamp (#2286) -/

/-- `GcDb.discardTs` never exceeds the oracle's watermark, and while a rewrite is in flight
    (`gcTs > 0`) it does not exceed `gcDiscardTs` -/
theorem C15_clamp_le (g : GcDb) : g.discardTs ≤ g.db.discardAtOrBelow ∧
    (g.gcActive = true → 0 < g.gcTs → g.discardTs ≤ g.gcTs) := by
  fun_cases GcDb.discardTs g with
  | case1 d hc =>  -- the clamp applies
    simp only [Bool.and_eq_true, decide_eq_true_eq] at hc
    exact ⟨by omega, fun _ _ => Nat.le_refl _⟩
  | case2 d hc =>  -- the oracle's watermark
    refine ⟨Nat.le_refl _, fun ha hpos => ?_⟩
    simp only [Bool.and_eq_true, decide_eq_true_eq, ha, hpos, true_and] at hc
    omega

/-- **C15 (no resurrection, with the clamp)** — `es` is the merged input of a compaction that runs
    while a rewrite is between scan and write-back, `p.discardTs ≤ gcTs` (the clamp), `k@v` is an
    entry of the input (the scan saw it). If no version of `k` in `[v, gcTs]` is dead at the
    compaction's clock — i.e. every delete/expiry of `k` above `v` carries a version `> gcTs`, "was
    committed after the rewrite started" — then for every `ts ≥ discardTs` with `v ≤ ts` the compacted
    stream still answers the read of `(k, ts)` with the very same entry as before, of version `≥ v`;
    so (by `C15_writeback_read_eq`) the write-back of `k@v` either re-puts what is there or lands
    below a survivor: nothing comes back.
    The side condition is NOT implied by the code (finding F21, `C15_resurrect_counterexample`). -/
theorem C15_no_resurrect {p : CParams} {es : List Ent} (hs : SortedEnts es) (hp : p.dropPrefixes = [])
    {gcTs : Nat} (hclamp : p.discardTs ≤ gcTs) {k : Bytes} {v : Nat}
    (hmem : ∃ e ∈ es, e.key = k ∧ e.ver = v)
    (hnd : ∀ x ∈ es, x.key = k → v ≤ x.ver → x.ver ≤ gcTs → deletedOrExpired x.emeta x.exp p.now = false)
    {ts : Nat} (hts : p.discardTs ≤ ts) (hv : v ≤ ts) :
    ∃ y, newestLE (subcompact p es) k ts = some y ∧ v ≤ y.ver ∧ newestLE es k ts = some y := by
  obtain ⟨e0, he0, hk0, hv0⟩ := hmem
  obtain ⟨e, hr, hge⟩ := newestLE_of_mem (ts := ts) he0 hk0 (by omega)
  obtain ⟨hm, hk, hle, _⟩ := LL.newestLE_some hr
  rw [hv0] at hge
  rcases C12_filter_reads_refined hs hp hts k with h | ⟨hnone, _, e', he', hd⟩
  · exact ⟨e, by rw [h, hr], hge, hr⟩
  · exfalso
    rw [hr] at he'; cases he'
    -- `e` was dropped: its version is at most the discard timestamp, hence at most gcTs
    have hnot : e ∉ subcompact p es := fun hin =>
      newestLE_eq_none_iff.mp hnone e hin ⟨hk, hle⟩
    have hlow : e.ver ≤ p.discardTs :=
      Nat.le_of_not_lt fun hgt => hnot (C13_keep_above hs hp hm hgt)
    have := hnd e hm hk hge (by omega)
    rw [this] at hd; cases hd

theorem read_append {vl : Vlog} {r r' : VRec} {fid idx : Nat} (h : vl.read fid idx = some r) :
    (vl.append r').read fid idx = some r := by
  unfold Vlog.read Vlog.file? Vlog.append at *
  simp only
  rw [List.find?_map]
  have hg : ((fun f : VFile => f.fid == fid) ∘
      fun f => if f.fid == vl.maxFid then { f with recs := f.recs ++ [r'] } else f) = fun f => f.fid == fid := by
    funext f
    simp only [Function.comp]
    split <;> rfl
  rw [hg]
  cases hf : vl.files.find? (·.fid == fid) with
  | none => rw [hf] at h; cases h
  | some f =>
    rw [hf] at h
    simp only [Option.map_some] at h ⊢
    split
    · exact (List.getElem?_append_left (List.getElem?_eq_some_iff.mp h).1).trans h
    · exact h

theorem read_rotate {vl : Vlog} {r : VRec} {fid idx : Nat} (h : vl.read fid idx = some r) :
    vl.rotate.read fid idx = some r := by
  unfold Vlog.read Vlog.file? Vlog.rotate at *
  simp only
  cases hf : vl.files.find? (·.fid == fid) with
  | none => rw [hf] at h; cases h
  | some f => rw [hf] at h; rw [List.find?_append, hf]; exact h

theorem read_writeEntries {thr : Nat} {es : List Ent} {vl : Vlog} {n : Nat} {r : VRec} {fid idx : Nat}
    (h : vl.read fid idx = some r) : (writeEntries thr vl n es).1.read fid idx = some r := by
  induction es generalizing vl n with
  | nil => exact h
  | cons e es ih =>
    unfold writeEntries
    split
    · exact ih h
    · exact ih (read_append h)

/-- the write path only appends: whatever could be read can still be read -/
theorem read_writeReq {vl : Vlog} {thr : Nat} {es : List Ent} {r : VRec} {fid idx : Nat}
    (h : vl.read fid idx = some r) : (vl.writeReq thr es).1.read fid idx = some r := by
  unfold Vlog.writeReq
  simp only
  -- `nWritten` is not looked at by `read`
  have h1 := read_writeEntries (thr := thr) (es := es) (n := 0) h
  split
  · exact read_rotate h1
  · exact h1

theorem resolve_of_read {vl vl' : Vlog} (h : ∀ fid idx r, vl.read fid idx = some r → vl'.read fid idx = some r)
    {e : Ent} {v : Bytes} (hr : resolve vl e = some v) : resolve vl' e = some v := by
  unfold resolve at *
  split
  · rename_i hp
    rw [if_pos hp] at hr
    simp only [Option.map_eq_some_iff] at hr ⊢
    obtain ⟨r, h1, h2⟩ := hr
    exact ⟨r, h _ _ _ h1, h2⟩
  · rename_i hp
    rw [if_neg hp] at hr
    exact hr

/-- a step of the value log as seen by a reader that keeps an iterator open: a write request
    (commit or GC write-back), the deletion phase of a rewrite, another iterator opening, another
    iterator closing (ours stays open, so the count stays positive) -/
inductive VlogStep : Vlog → Vlog → Prop
  | write (vl : Vlog) (thr : Nat) (es : List Ent) : VlogStep vl (vl.writeReq thr es).1
  | gcDelete (vl : Vlog) (fid : Nat) : VlogStep vl (vl.gcDelete fid).1
  | iterOpen (vl : Vlog) : VlogStep vl vl.iterOpen
  | iterClose (vl : Vlog) (h : 1 < vl.iterCount) : VlogStep vl vl.iterClose

theorem writeEntries_iterCount (thr : Nat) (es : List Ent) (vl : Vlog) (n : Nat) :
    (writeEntries thr vl n es).1.iterCount = vl.iterCount := by
  induction es generalizing vl n with
  | nil => rfl
  | cons e es ih =>
    unfold writeEntries
    split
    · exact ih _ _
    · rw [ih]; rfl

theorem writeReq_iterCount (vl : Vlog) (thr : Nat) (es : List Ent) :
    (vl.writeReq thr es).1.iterCount = vl.iterCount := by
  unfold Vlog.writeReq
  simp only
  split <;> exact writeEntries_iterCount thr es vl 0

/-- **C15 (iterators, one step)** — while an iterator is open (`iteratorCount > 0`) no step of the
    value log removes a file: the rewrite's deletion phase defers (`filesToBeDeleted`), the write
    path only appends. Every entry that resolved keeps resolving to the same value, and the count
    stays positive. -/
theorem C15_iter_items_readable_step {vl vl' : Vlog} (st : VlogStep vl vl') (hit : 0 < vl.iterCount) :
    0 < vl'.iterCount ∧ ∀ e v, resolve vl e = some v → resolve vl' e = some v := by
  cases st with
  | write thr es =>
    exact ⟨by rw [writeReq_iterCount]; exact hit, fun e v h => resolve_of_read (fun _ _ _ => read_writeReq) h⟩
  | gcDelete fid =>
    unfold Vlog.gcDelete
    have : (vl.iterCount == 0) = false := by simp; omega
    simp only [this, Bool.false_eq_true, if_false]
    exact ⟨hit, fun e v h => h⟩
  | iterOpen => exact ⟨Nat.succ_pos _, fun e v h => h⟩
  | iterClose h1 =>
    unfold Vlog.iterClose
    have : (vl.iterCount - 1 != 0) = true := by simp; omega
    simp only [this, if_true]
    exact ⟨by show 0 < vl.iterCount - 1; omega, fun e v h => h⟩

inductive VlogRun : Vlog → Vlog → Prop
  | refl (vl : Vlog) : VlogRun vl vl
  | step {a b c : Vlog} (r : VlogRun a b) (st : VlogStep b c) : VlogRun a c

/-- **C15 (iterators)** — the item of an open iterator stays readable, with the same value, across
    any number of commits, GC write-backs and GC deletion phases, and across other iterators coming
    and going, for as long as its iterator is open. -/
theorem C15_iter_items_readable {vl vl' : Vlog} (r : VlogRun vl vl') (hit : 0 < vl.iterCount)
    {e : Ent} {v : Bytes} (h : resolve vl e = some v) : resolve vl' e = some v ∧ itemValue vl' e = v := by
  have key : 0 < vl'.iterCount ∧ ∀ e v, resolve vl e = some v → resolve vl' e = some v := by
    induction r with
    | refl => exact ⟨hit, fun _ _ h => h⟩
    | step _ st ih =>
      obtain ⟨h1, h2⟩ := ih
      obtain ⟨h3, h4⟩ := C15_iter_items_readable_step st h1
      exact ⟨h3, fun e v h => h4 e v (h2 e v h)⟩
  have := key.2 e v h
  exact ⟨this, by unfold itemValue; rw [this]; rfl⟩

/-- the deferred files go when the last iterator closes (`decrIteratorCount`) -/
theorem C15_last_iterator_unlinks (vl : Vlog) (h : vl.iterCount = 1) :
    vl.iterClose.tbd = [] ∧ vl.iterClose.iterCount = 0 ∧
      ∀ f ∈ vl.iterClose.files, f ∈ vl.files ∧ ¬ vl.tbd.contains f.fid = true := by
  unfold Vlog.iterClose
  have : (vl.iterCount - 1 != 0) = false := by simp [h]
  simp only [this, Bool.false_eq_true, if_false]
  refine ⟨trivial, trivial, ?_⟩
  intro f hf
  have := List.mem_filter.mp hf
  exact ⟨this.1, by simpa using this.2⟩

/-- **C15 (write-back, whole batch)** — re-putting a batch `W` in which every entry carries the
    `(key, ver)` and the user-visible content of the entry the LSM served for that internal key
    (in the state the batch is applied to) changes no read of any key at any timestamp. -/
theorem C15_writeback_batch_reads {s : Lsm} (h : LsmInv s) {vl : Vlog} {W : List Ent}
    (hWpos : ∀ w ∈ W, 0 < w.ver)
    (hW : ∀ w ∈ W, ∃ e0, s.get w.key w.ver = some e0 ∧ e0.ver = w.ver ∧ viewOf vl w = viewOf vl e0)
    (now : Nat) (k : Bytes) (ts : Nat) :
    (visible now ((s.putAll W).get k ts)).map (viewOf vl) = (visible now (s.get k ts)).map (viewOf vl) := by
  rw [putAll_get h hWpos, LL.newestLE_append, C01_get_spec h]
  cases hl : newestLE W.reverse k ts with
  | none => rfl
  | some a =>
    obtain ⟨ma, ka, va, _⟩ := LL.newestLE_some hl
    obtain ⟨e0, hcur, hver, hview⟩ := hW a (List.mem_reverse.mp ma)
    rw [C01_get_spec h] at hcur
    obtain ⟨m0, k0, _, _⟩ := LL.newestLE_some hcur
    obtain ⟨x, hg, h2⟩ := newestLE_of_mem (ts := ts) m0 (k0.trans ka) (by omega)
    rw [hg]
    simp only [LL.pick]
    by_cases hlt : a.ver < x.ver
    · rw [if_pos hlt]
    · rw [if_neg hlt]
      have hxv : x.ver = a.ver := by omega
      have hx0 : x = e0 := by
        have := newestLE_at_ver hg
        rw [hxv, ← ka, hcur] at this
        exact (Option.some.inj this).symm
      subst hx0
      simp only [visible, dead_of_view hview now]
      split <;> simp [hview]

/-- **C15 (write-back)** — re-putting an entry with the `(key, ver)` of the entry the LSM currently
    serves for that internal key (`discardEntry`'s version test) and the same user-visible content
    (user meta, expiry, delete/discard/merge bits, logical value) leaves `visible (get k ts)`, seen
    through `viewOf`, unchanged for EVERY `k` and `ts`. (The physical entry returned does change: new
    pointer, `bitTxn` stripped.) -/
theorem C15_writeback_reads {s : Lsm} (h : LsmInv s) {vl : Vlog} {e0 e' : Ent} (hpos : 0 < e'.ver)
    (hcur : s.get e'.key e'.ver = some e0) (hver : e0.ver = e'.ver) (hview : viewOf vl e' = viewOf vl e0)
    (now : Nat) (k : Bytes) (ts : Nat) :
    (visible now ((s.putEnt e').get k ts)).map (viewOf vl) = (visible now (s.get k ts)).map (viewOf vl) :=
  C15_writeback_batch_reads h (W := [e']) (fun w hw => by rwa [List.mem_singleton.mp hw])
    (fun w hw => by rw [List.mem_singleton.mp hw]; exact ⟨e0, hcur, hver, hview⟩) now k ts

/-- stored below the active memtable: in an immutable memtable or in a table of some level -/
def Lsm.belowMem (s : Lsm) (y : Ent) : Prop :=
  (∃ m ∈ s.imm, y ∈ m) ∨
    ∃ (i : Nat) (tbls : List Tbl) (t : Tbl), s.levels[i]? = some tbls ∧ t ∈ tbls ∧ y ∈ t.ents

/-- **C15 (the exact condition under which a write-back is a legitimate put)** — the re-put keeps
    the recency invariant `LayeredX` (which every C12 read-preservation theorem needs) iff every
    version of the key stored BELOW the active memtable is `≤` the version written back, i.e. iff
    every newer version of the key is still in the active memtable (where it cannot be compacted
    away separately). `rewrite` checks nothing of the kind (`discardEntry` looks up `key@ver` only). -/
theorem C15_writeback_layering_iff {s : Lsm} (hl : LayeredX s) (e : Ent) :
    LayeredX (s.putEnt e) ↔ ∀ y, s.belowMem y → y.key = e.key → y.ver ≤ e.ver := by
  constructor
  · intro hl' y hy hk
    obtain ⟨c, hc, hyc⟩ := LL.mem_lowerChunks.mpr hy
    rw [LL.layeredX_def, LL.chunks_cons] at hl'
    exact (List.pairwise_cons.mp hl').1 c hc e (self_mem_memPut e s.mem) y hyc hk.symm
  · exact fun hnew => LL.put_layeredX hl fun c hc y hy => hnew y (LL.mem_lowerChunks.mp ⟨c, hc, hy⟩)

/-- **C15 (positive)** — a write-back satisfying that condition is as good as a commit: every later
    well-formed compaction (any kind; `TopsOldest` / `TblsFun` as in `C12_compact_reads_weak`)
    preserves every read at or above its discard timestamp. -/
theorem C15_writeback_then_compact_reads {s s' : Lsm} {e' : Ent} {cd : CompactDef} {d n now' now ts : Nat}
    {k : Bytes} (h : LsmInv s) (hv : VerBound s) (hl : LayeredX s) (hpos : 0 < e'.ver) (hmax : e'.ver ≤ maxU64)
    (hsafe : ∀ y, s.belowMem y → y.key = e'.key → y.ver ≤ e'.ver)
    (hc : CompactOk (s.putEnt e') cd)
    (hto : IsL0Lbase (s.putEnt e') cd → TopsOldest (s.putEnt e') cd)
    (hfun : IsL0L0 (s.putEnt e') cd → TblsFun (cdThisT (s.putEnt e') cd))
    (hdp : cd.dropPrefixes = []) (hs : (s.putEnt e').compact cd d n now' = some s') (hts : d ≤ ts)
    (hnow : now' ≤ now) :
    visible now (s'.get k ts) = visible now ((s.putEnt e').get k ts) :=
  C12_compact_reads_weak (C14_put_inv h hpos) (LL.put_verBound hv hmax)
    ((C15_writeback_layering_iff hl e').mpr hsafe) hc hto hfun hdp hs hts hnow

/-! ## concrete histories (each replayed on the real code by engine `gc`, see corpus/C15)

Key `k = [1]`, value `[42]` in value-log file 1 (record 0); `k@1` points at it. Managed mode with
`SetDiscardTs(9)` so that the oracle's watermark is a constant; `NumVersionsToKeep = 1`. -/

def C15_opts : Opts := { managed := true, numKeep := 1, threshold := 1, maxLevels := 2 }
def C15_mkDb (l : Lsm) : Db := { opts := C15_opts, lsm := l, discardTs := 9 }
/-- `k@1`, value pointer (file 1, record 0) -/
def C15_kOld : Ent := ⟨[1], 1, 2, 7, 0, encodePtr 1 0⟩
/-- `k@1` as the rewrite re-puts it: value pointer (file 2, record 0) -/
def C15_kNew : Ent := ⟨[1], 1, 2, 7, 0, encodePtr 2 0⟩
/-- delete marker `k@2` -/
def C15_tomb : Ent := ⟨[1], 2, 1, 0, 0, []⟩
def C15_rec : VRec := ⟨[1], 1, 0, 7, 0, [42]⟩
def C15_vl0 : Vlog := { files := [⟨1, [C15_rec]⟩, ⟨2, []⟩], maxFid := 2, maxEntries := 10 }
def C15_view42 : View :=
  { key := [1], ver := 1, deleted := false, discardEarlier := false, merge := false, umeta := 7, exp := 0, val := some [42] }
def C15_withLsm (g : GcDb) (l : Lsm) : GcDb := { g with db := { g.db with lsm := l } }

example : resolve C15_vl0 C15_kOld = some [42] ∧ viewOf C15_vl0 C15_kOld = C15_view42 := by decide

/-! ### #2286: the race the clamp is for -/

def C15_r_g0 : GcDb :=
  { db := C15_mkDb { mem := [], imm := [], levels := [[{ ents := [C15_kOld], id := 1 }], []] }, vl := C15_vl0 }
def C15_r_g1 : GcDb := { C15_r_g0 with gcTs := 1, gcActive := true }
def C15_run : GcRun := { fid := 1, wb := [C15_rec] }
/-- after the scan: `k` deleted at ts 2, memtable flushed -/
def C15_r_sDel : Lsm :=
  { mem := [], imm := [], levels := [[{ ents := [C15_kOld], id := 1 }, { ents := [C15_tomb], id := 2 }], []] }
def C15_r_cd : CompactDef := { thisLevel := 0, nextLevel := 1, top := [0, 1], bot := [], outSizes := [], dropPrefixes := [] }
def C15_r_cdClamped : CompactDef := { C15_r_cd with outSizes := [2], outIds := [3] }
def C15_r_sGood : Lsm :=
  { mem := [], imm := [], levels := [[], [{ ents := [C15_tomb, C15_kOld], id := 3 }]] }

/-- **#2286 without the clamp** — scan (`k@1` is live), then `Delete(k)` at ts 2 + flush + an
    L0 → L1 compaction that runs with the oracle's watermark 9: marker and old version are dropped
    (nothing below), the write-back re-puts `k@1`, and the deleted key reads `[42]` again. -/
theorem C15_resurrect_without_clamp :
    C15_r_g0.gcBegin 1 = .ok (C15_r_g1, C15_run) ∧
    (C15_r_g1.db.lsm.putEnt C15_tomb).flush 2 = C15_r_sDel ∧
    visible 0 (C15_r_sDel.get [1] 5) = none ∧
    C15_r_g1.db.discardAtOrBelow = 9 ∧
    C15_r_sDel.compact C15_r_cd 9 1 0 = some { mem := [], imm := [], levels := [[], []] } ∧
    ((C15_withLsm C15_r_g1 { mem := [], imm := [], levels := [[], []] }).gcEnd C15_run).1.read [1] 5 = some C15_view42 := by
  refine ⟨rfl, by decide, by decide, by decide, by decide +kernel, by decide⟩

/-- **the same history with the clamp** — `GcDb.discardTs` is `gcDiscardTs = 1`: the marker `k@2`
    is above it and survives, the write-back lands in the memtable ABOVE it (older version above a
    newer one!), and the read still says "deleted" — as long as the marker stays. -/
theorem C15_clamp_protects_witness :
    C15_r_g1.discardTs = 1 ∧
    C15_r_sDel.compact C15_r_cdClamped C15_r_g1.discardTs 1 0 = some C15_r_sGood ∧
    ((C15_withLsm C15_r_g1 C15_r_sGood).gcEnd C15_run).1.read [1] 5 = none ∧
    ((C15_withLsm C15_r_g1 C15_r_sGood).gcEnd C15_run).1.db.lsm.mem = [C15_kNew] := by
  refine ⟨by decide, by decide +kernel, by decide, by decide⟩

/-- hypotheses of `C15_no_resurrect` on that history: the merged input, clamp, `k@1` present, no
    dead version of `k` in `[1, gcTs = 1]`; conclusion instance at `ts = 5` -/
example :
    let p : CParams := { discardTs := 1, numKeep := 1, hasOverlap := false, now := 0, dropPrefixes := [] }
    SortedEnts [C15_tomb, C15_kOld] ∧ p.discardTs ≤ 1 ∧
    (∀ x ∈ [C15_tomb, C15_kOld], x.key = [1] → 1 ≤ x.ver → x.ver ≤ 1 → deletedOrExpired x.emeta x.exp p.now = false) ∧
    newestLE (subcompact p [C15_tomb, C15_kOld]) [1] 5 = some C15_tomb := by decide

/-! ### finding F21: the clamp does not cover a delete committed BEFORE the rewrite started -/

/-- L0 holds the marker `k@2` and `k@1`: `k` is deleted, nothing compacted yet -/
def C15_a_g0 : GcDb :=
  { db := C15_mkDb { mem := [], imm := [], levels := [[{ ents := [C15_tomb, C15_kOld], id := 1 }], []] }, vl := C15_vl0 }
def C15_a_g1 : GcDb := { C15_a_g0 with gcTs := 2, gcActive := true }
def C15_a_cd : CompactDef := { thisLevel := 0, nextLevel := 1, top := [0], bot := [], outSizes := [], dropPrefixes := [] }

/-- **F21 (a), the property is false on the code as it is** — `Delete(k)` at ts 2 is committed, THEN
    the rewrite of file 1 starts: `gcDiscardTs = MaxVersion = 2`; the scan finds `k@1` in the LSM with
    a pointer to this record (`discardEntry` does not look at newer versions) and selects it; an
    L0 → L1 compaction between scan and write-back runs with `discardTs = min(9, 2) = 2`: the marker
    `k@2` is not above the clamp, nothing is below, marker and `k@1` are dropped; the write-back
    re-puts `k@1`: `Get(k)` returns `[42]`. Before the rewrite it returned "not found". -/
theorem C15_resurrect_counterexample :
    C15_a_g0.read [1] 5 = none ∧
    C15_a_g0.gcBegin 1 = .ok (C15_a_g1, C15_run) ∧
    C15_a_g1.discardTs = 2 ∧
    C15_a_g1.db.lsm.compact C15_a_cd C15_a_g1.discardTs 1 0 = some { mem := [], imm := [], levels := [[], []] } ∧
    ((C15_withLsm C15_a_g1 { mem := [], imm := [], levels := [[], []] }).gcEnd C15_run).1.read [1] 5 = some C15_view42 := by
  refine ⟨by decide, rfl, by decide, by decide +kernel, by decide⟩

/-- the side condition of `C15_no_resurrect` is what fails: `k@2 ∈ [v, gcTs] = [1, 2]` is dead -/
example : ¬ (∀ x ∈ [C15_tomb, C15_kOld], x.key = [1] → 1 ≤ x.ver → x.ver ≤ 2 → deletedOrExpired x.emeta x.exp 0 = false) := by
  decide

/-- three levels: marker `k@2` and `k@1` sit in L1 (put there by a compaction that ran while a
    reader at ts 1 was open), nothing in L2 -/
def C15_b_s0 : Lsm := { mem := [], imm := [], levels := [[], [{ ents := [C15_tomb, C15_kOld], id := 4 }], []] }
def C15_b_g0 : GcDb := { db := { C15_mkDb C15_b_s0 with opts := { C15_opts with maxLevels := 3 } }, vl := C15_vl0 }
def C15_b_sWb : Lsm := { C15_b_s0 with mem := [C15_kNew] }
def C15_b_cd : CompactDef := { thisLevel := 1, nextLevel := 2, top := [0], bot := [], outSizes := [], dropPrefixes := [] }

/-- **F21 (b), no race at all** — a complete rewrite of file 1 (scan, write-back, unlink) in a
    quiescent database: reads are unchanged (`k` is still deleted) but `k@1` now sits in the
    memtable ABOVE the marker `k@2` of L1. A later L1 → L2 compaction (`hasOverlap` inspects only
    the levels below L2) drops the marker and the old `k@1`; the memtable copy becomes visible. -/
theorem C15_resurrect_after_gc_counterexample :
    ∃ g1 run, C15_b_g0.gcBegin 1 = .ok (g1, run) ∧
      (g1.gcEnd run).1.db.lsm = C15_b_sWb ∧
      (g1.gcEnd run).1.gcActive = false ∧ (g1.gcEnd run).2.2 = true ∧
      (g1.gcEnd run).1.read [1] 5 = none ∧
      (g1.gcEnd run).1.discardTs = 9 ∧
      C15_b_sWb.compact C15_b_cd 9 1 0 = some { mem := [C15_kNew], imm := [], levels := [[], [], []] } ∧
      (C15_withLsm (g1.gcEnd run).1 { mem := [C15_kNew], imm := [], levels := [[], [], []] }).read [1] 5 = some C15_view42 :=
  ⟨{ C15_b_g0 with gcTs := 2, gcActive := true }, C15_run, rfl, by decide, by decide, by decide, by decide, by decide,
    by decide +kernel, by decide⟩

/-- **why C12 does not apply** — the write-back is a `put` whose version is not fresh: from a state
    satisfying everything `C12_step_stable` needs (`LsmGood`: invariant, `uint64` versions, recency
    `LayeredX`, unique internal keys) it produces a state violating `LayeredX` (an older version of `k`
    in a source searched before the one holding a newer version) and `KeyVerUnique`; and it is not a
    `LsmStep.put` (that constructor demands `x.ver < e.ver` for every stored version of the key). -/
theorem C15_writeback_breaks_layering :
    LsmGood C15_b_s0 ∧ LsmInv (C15_b_s0.putEnt C15_kNew) ∧
      ¬ LayeredX (C15_b_s0.putEnt C15_kNew) ∧ ¬ KeyVerUnique (C15_b_s0.putEnt C15_kNew) ∧
      ¬ (∀ x ∈ C15_b_s0.allEntries, x.key = C15_kNew.key → x.ver < C15_kNew.ver) := by
  refine ⟨by decide, by decide, by decide, by decide, by decide⟩

/-! ### F12 (managed mode): a delete committed after the rewrite started, at a timestamp `≤ gcDiscardTs` -/

def C15_j5 : Ent := ⟨[2], 5, 0, 0, 0, [9]⟩
def C15_m_g0 : GcDb :=
  { db := C15_mkDb { mem := [], imm := [], levels := [[{ ents := [C15_kOld, C15_j5], id := 1 }], []] }, vl := C15_vl0 }
def C15_m_g1 : GcDb := { C15_m_g0 with gcTs := 5, gcActive := true }
def C15_tomb3 : Ent := ⟨[1], 3, 1, 0, 0, []⟩
def C15_m_sDel : Lsm :=
  { mem := [], imm := [], levels := [[{ ents := [C15_kOld, C15_j5], id := 1 }, { ents := [C15_tomb3], id := 2 }], []] }
def C15_m_cd : CompactDef :=
  { thisLevel := 0, nextLevel := 1, top := [0, 1], bot := [], outSizes := [1], outIds := [3], dropPrefixes := [] }
def C15_m_sBad : Lsm := { mem := [], imm := [], levels := [[], [{ ents := [C15_j5], id := 3 }]] }

/-- **F12 = F21 in managed mode** — another key was committed at ts 5, so `gcDiscardTs = 5`; after
    the scan `Delete(k)` is committed AT ts 3 (`CommitAt(3)`, allowed in managed mode); the clamp
    `discardTs = min(9, 5) = 5` does not protect the marker `k@3`; the write-back resurrects `k`. -/
theorem C15_resurrect_managed_old_ts_counterexample :
    C15_m_g0.gcBegin 1 = .ok (C15_m_g1, C15_run) ∧
    (C15_m_g1.db.lsm.putEnt C15_tomb3).flush 2 = C15_m_sDel ∧
    visible 0 (C15_m_sDel.get [1] 5) = none ∧
    C15_m_g1.discardTs = 5 ∧
    C15_m_sDel.compact C15_m_cd C15_m_g1.discardTs 1 0 = some C15_m_sBad ∧
    ((C15_withLsm C15_m_g1 C15_m_sBad).gcEnd C15_run).1.read [1] 5 = some C15_view42 := by
  refine ⟨rfl, by decide, by decide, by decide, by decide +kernel, by decide⟩

/-! ### finding F3: an `Item` from `Txn.Get` does not pin its value-log file -/

def C15_i_g0 : GcDb :=
  { db := C15_mkDb { mem := [C15_kOld], imm := [], levels := [[], []] }, vl := C15_vl0 }

/-- **F3, the property is false on the code as it is** — `item := txn.Get(k)` (the item holds the
    pointer into file 1; `itemValue` = `[42]`); a rewrite of file 1 with no ITERATOR open unlinks the
    file at once (`iteratorCount() == 0`; a Get item is not counted); the transaction is still open
    but `item.ValueCopy` now yields the empty value (`yieldItemValue` swallows the read error and
    returns nil, nil). A fresh `Get` in the same transaction is fine. With an iterator open the
    file would have been kept. -/
theorem C15_get_item_stale_counterexample :
    ∃ g1 run item,
      C15_i_g0.db.lsm.get [1] 5 = some item ∧ itemValue C15_i_g0.vl item = [42] ∧
      C15_i_g0.gcBegin 1 = .ok (g1, run) ∧
      (g1.gcEnd run).2.2 = true ∧                                   -- unlinked now
      resolve (g1.gcEnd run).1.vl item = none ∧ itemValue (g1.gcEnd run).1.vl item = [] ∧
      (g1.gcEnd run).1.read [1] 5 = some C15_view42 ∧              -- the data is not lost: a fresh Get reads it
      -- with an iterator open the deletion is deferred and the item stays readable
      (({ g1 with vl := g1.vl.iterOpen } : GcDb).gcEnd run).2.2 = false ∧
      itemValue (({ g1 with vl := g1.vl.iterOpen } : GcDb).gcEnd run).1.vl item = [42] :=
  ⟨{ C15_i_g0 with gcTs := 1, gcActive := true }, C15_run, C15_kOld, by decide, by decide, rfl, by decide, by decide,
    by decide, by decide, by decide, by decide⟩

end Badger
