import BadgerProofs.Props.C14
import BadgerProofs.Lemmas.LsmReads
/-!
# C12 — flush and compaction preserve what every read returns

A flush changes no read (`C12_flush_reads`); a well-formed compaction of each kind preserves every read at
`ts ≥ discardTs` (`C12_compact_reads_*`, all instances of `LL.compact_reads`; `C12_compact_reads_weak` is the form
that composes, `C12_compact_reads` the one for an L0 in age order), with the states on which a dropped hypothesis
fails: F28 (`C12_L0Lbase_needs_topsOldest`), F1 (`C12_L0L0_f1_repaired`), F2 (`C12_L0_order_scrambled`); a write is
read first (`C12_put_reads`). Then snapshot stability: `LsmGood` collects what every step of the engine keeps
(`LsmGood.put/.flush/.resort/.compact`), `LsmStep` is one step as a reader at `ts` sees it, `RunOf` a run, and
`C12_snapshot_stable` says that a run changes no read at `ts` (`LsmStepAged`, `C12_snapshot_stable_aged`: the runs
that keep L0 in age order).
-/
namespace Badger

/-- flushing does not change any read. `FlushOk` (no internal key shared between the memtable
    and an immutable memtable) is needed only because the model's `flush` moves `mem` past `imm`;
    it is vacuous for `imm = []`. -/
theorem C12_flush_reads {s : Lsm} (h : LsmInv s) (hf : FlushOk s) (id : Nat) (k : Bytes) (ts : Nat) :
    (s.flush id).get k ts = s.get k ts := by
  rw [C01_get_spec (C14_flush_inv h id), C01_get_spec h]
  rcases LL.flush_eq_self_or s id with he | ⟨l0, rest, hl, _, he⟩
  · rw [he]
  · rw [he, LL.allEntries_flush, LL.allEntries_cons hl]
    simp only [LL.newestLE_append]
    rw [← LL.pick_assoc, ← LL.pick_assoc (newestLE s.mem k ts)]
    congr 1
    apply LL.pick_comm_of_ne
    intro x y hx hy
    obtain ⟨x1, x2, _, _⟩ := LL.newestLE_some hx
    obtain ⟨y1, y2, _, _⟩ := LL.newestLE_some hy
    obtain ⟨m, hm, hym⟩ := List.mem_flatten.mp x1
    exact fun hv => hf y y1 m (List.mem_reverse.mp hm) x hym (y2.trans x2.symm) hv.symm

theorem C12_flush_reads_noimm {s : Lsm} (h : LsmInv s) (hi : s.imm = []) (id : Nat) (k : Bytes) (ts : Nat) :
    (s.flush id).get k ts = s.get k ts :=
  C12_flush_reads h (by intro e _ m hm; rw [hi] at hm; simp at hm) id k ts

/-- without `FlushOk` the model's `flush` can change a read (the memtable jumps behind an
    immutable memtable holding the same internal key). Not reachable in the harness: `imm` is
    always empty there. -/
theorem C12_flush_imm_dup_changes_read :
    ∃ s : Lsm, LsmInv s ∧ Layered s ∧ (s.flush 0).get [1] 5 ≠ s.get [1] 5 := by
  refine ⟨{ mem := [⟨[1], 5, 0, 0, 0, [1]⟩], imm := [[⟨[1], 5, 0, 0, 0, [2]⟩]], levels := [[]] }, ?_, ?_, ?_⟩ <;> decide

example : LsmInv C01_exState ∧ (C01_exState.flush 7).get [1] 9 = C01_exState.get [1] 9 := by decide +kernel

/-! ## compaction

`C12_compact_reads_weak` and the statements per kind use exactly what survives every step of the engine:
`LayeredX` (recency across sources with L0 taken as one source), the side condition `TopsOldest`
for L0 → Lbase and `TblsFun` for L0 → L0. `C12_compact_reads` is the corollary for a state whose
L0 is in age order (`Layered`), where `TopsOldest` is automatic. -/

/-- L0 → Lbase preserves every read at `ts ≥ discardTs`, provided the L0 tables left behind hold
    only newer versions of the keys of the tops (`TopsOldest`). Since the F28 repair of
    `fillTablesL0ToLbase` the picker guarantees more, whatever the order of L0: the tables left
    behind share no user key with the tops (`C12_validChoice_noLeftBehind`, C12Choice.lean). -/
theorem C12_compact_reads_L0Lbase {s s' : Lsm} {cd : CompactDef} {d n now' now ts : Nat} {k : Bytes}
    (h : LsmInv s) (hv : VerBound s) (hl : LayeredX s) (hc : CompactOk s cd) (hk : IsL0Lbase s cd)
    (hto : TopsOldest s cd)
    (hdp : cd.dropPrefixes = []) (hs : s.compact cd d n now' = some s') (hts : d ≤ ts) (hnow : now' ≤ now) :
    visible now (s'.get k ts) = visible now (s.get k ts) :=
  LL.compact_reads h hv hc (fun _ => hl) (fun _ => hto) (fun h0 => by have := hk.2.1; have := h0.2.1; omega)
    hdp hs hts hnow

/-- Li → Li+1 (`i ≥ 1`) preserves every read at `ts ≥ discardTs`. -/
theorem C12_compact_reads_LiLnext {s s' : Lsm} {cd : CompactDef} {d n now' now ts : Nat} {k : Bytes}
    (h : LsmInv s) (hv : VerBound s) (hl : LayeredX s) (hc : CompactOk s cd) (hk : IsLiLnext s cd)
    (hdp : cd.dropPrefixes = []) (hs : s.compact cd d n now' = some s') (hts : d ≤ ts) (hnow : now' ≤ now) :
    visible now (s'.get k ts) = visible now (s.get k ts) :=
  LL.compact_reads h hv hc (fun _ => hl) (fun h0 => by have := hk.1; have := h0.1; omega)
    (fun h0 => by have := hk.1; have := h0.1; omega) hdp hs hts hnow

/-- Lmax → Lmax preserves every read at `ts ≥ discardTs`. -/
theorem C12_compact_reads_Lmax {s s' : Lsm} {cd : CompactDef} {d n now' now ts : Nat} {k : Bytes}
    (h : LsmInv s) (hv : VerBound s) (hl : LayeredX s) (hc : CompactOk s cd) (hk : IsLmax s cd)
    (hdp : cd.dropPrefixes = []) (hs : s.compact cd d n now' = some s') (hts : d ≤ ts) (hnow : now' ≤ now) :
    visible now (s'.get k ts) = visible now (s.get k ts) :=
  LL.compact_reads h hv hc (fun _ => hl) (fun h0 => by have := hk.1; have := h0.1; omega)
    (fun h0 => by have := hk.1; have := h0.1; omega) hdp hs hts hnow

/-- L0 → L0 preserves every read at `ts ≥ discardTs`, provided an internal key determines the
    entry within L0 (`TblsFun`). Since the F1 repair (badger commit d24306c, mirrored in
    `compactOutput`: `hasOverlap = true` for L0 → L0) no marker is dropped, so no side condition on
    the tables left out of the compaction is needed, and no recency hypothesis either. `TblsFun` is
    needed only because `replaceTables` re-sorts L0 by `Smallest` (F2,
    `C12_L0_order_scrambled`).

    Before d24306c `hasOverlap` was computed from the levels `≥ 1` only and the
    unconditional statement was false (finding F1): in the
    state `C12_f1State` below — L0 = [ {1@1 ↦ 42}, {1@2 delete marker} ], L1 empty — the compaction
    of `top = [1]` alone with `discardTs = 5`, `numKeep = 1` dropped the marker `1@2`, produced no
    table at all and left L0 = [ {1@1 ↦ 42} ]: the read of key 1 at `ts = 9` went from "absent" to
    42. With the repair the marker is kept (`C12_L0L0_f1_repaired`). -/
theorem C12_compact_reads_L0L0_fun {s s' : Lsm} {cd : CompactDef} {d n now' now ts : Nat} {k : Bytes}
    (h : LsmInv s) (hv : VerBound s) (hc : CompactOk s cd) (hk : IsL0L0 s cd)
    (hfun : TblsFun (cdThisT s cd))
    (hdp : cd.dropPrefixes = []) (hs : s.compact cd d n now' = some s') (hts : d ≤ ts) (hnow : now' ≤ now) :
    visible now (s'.get k ts) = visible now (s.get k ts) :=
  LL.compact_reads h hv hc (fun hn => absurd hk hn) (fun hb => by have := hb.2.1; have := hk.2.1; omega)
    (fun _ => LL.tblsFun_chunk hfun) hdp hs hts hnow

/-- the same under "no internal key occurs in two different L0 tables" -/
theorem C12_compact_reads_L0L0 {s s' : Lsm} {cd : CompactDef} {d n now' now ts : Nat} {k : Bytes}
    (h : LsmInv s) (hv : VerBound s) (hc : CompactOk s cd) (hk : IsL0L0 s cd)
    (hdist : TblsDistinct (cdThisT s cd))
    (hdp : cd.dropPrefixes = []) (hs : s.compact cd d n now' = some s') (hts : d ≤ ts) (hnow : now' ≤ now) :
    visible now (s'.get k ts) = visible now (s.get k ts) :=
  C12_compact_reads_L0L0_fun h hv hc hk
    (LL.tblsFun_of_distinct (fun t ht => ((LL.this_level h hc.1).2.1 t ht).2) hdist) hdp hs hts hnow

/-- every well-formed compaction preserves every read at a timestamp `ts ≥ discardTs`, as seen
    at any clock `now ≥` the compaction's clock — in the form that composes over arbitrary runs. -/
theorem C12_compact_reads_weak {s s' : Lsm} {cd : CompactDef} {d n now' now ts : Nat} {k : Bytes}
    (h : LsmInv s) (hv : VerBound s) (hl : LayeredX s) (hc : CompactOk s cd)
    (hto : IsL0Lbase s cd → TopsOldest s cd) (hfun : IsL0L0 s cd → TblsFun (cdThisT s cd))
    (hdp : cd.dropPrefixes = []) (hs : s.compact cd d n now' = some s') (hts : d ≤ ts) (hnow : now' ≤ now) :
    visible now (s'.get k ts) = visible now (s.get k ts) :=
  LL.compact_reads h hv hc (fun _ => hl) hto (fun hk => LL.tblsFun_chunk (hfun hk)) hdp hs hts hnow

/-- the main statement: under the structural invariant, `uint64` versions, recency (`Layered`:
    L0 in age order) and a well-formed compaction of ANY kind — for L0 → L0 with distinct internal
    keys across the L0 tables — every read at `ts ≥ discardTs` is preserved. `0 < ts` and
    `CutsAtKeyChange` are not needed. -/
theorem C12_compact_reads {s s' : Lsm} {cd : CompactDef} {d n now' now ts : Nat} {k : Bytes}
    (h : LsmInv s) (hv : VerBound s) (hl : Layered s) (hc : CompactOk s cd)
    (hdist : IsL0L0 s cd → TblsDistinct (cdThisT s cd))
    (hdp : cd.dropPrefixes = []) (hs : s.compact cd d n now' = some s') (hts : d ≤ ts) (hnow : now' ≤ now) :
    visible now (s'.get k ts) = visible now (s.get k ts) :=
  C12_compact_reads_weak h hv (LL.layeredX_of_layered hl) hc
    (fun hk => LL.topsOldest_of_layered hl hc.1 hk)
    (fun hk => LL.tblsFun_of_distinct (fun t ht => ((LL.this_level h hc.1).2.1 t ht).2) (hdist hk))
    hdp hs hts hnow

/-! ## finding F28: L0 out of age order (repaired in the picker, see `C12Choice.lean`) -/

/-- the F28 state: L0 = [ {1@2 delete marker}, {1@1 ↦ 42} ] — the NEWER table first, as after a reopen
    (`Open` sorts L0 by file id, and the output of an L0 → L0 compaction gets a new id although it
    holds the oldest data) -/
def C12_f28State : Lsm :=
  { mem := [], imm := [],
    levels := [[{ ents := [⟨[1], 2, 1, 0, 0, []⟩] }, { ents := [⟨[1], 1, 0, 0, 0, [42]⟩] }], []] }
def C12_f28Cd : CompactDef :=
  { thisLevel := 0, nextLevel := 1, top := [0], bot := [], outSizes := [], dropPrefixes := [] }
def C12_f28State' : Lsm :=
  { mem := [], imm := [], levels := [[{ ents := [⟨[1], 1, 0, 0, 0, [42]⟩] }], []] }

/-- `TopsOldest` is needed (finding F28): compacting the prefix `[0]` of the F28 state to L1 drops the
    marker (`hasOverlap` looks only below the output level) while the older `1@1 ↦ 42` stays in L0 and
    becomes visible again. `CompactOk` admits this choice; the repaired picker does not
    (`C12_f28_picker_rejects`). -/
theorem C12_L0Lbase_needs_topsOldest :
    LsmInv C12_f28State ∧ VerBound C12_f28State ∧ LayeredX C12_f28State ∧ KeyVerUnique C12_f28State ∧
      CompactOk C12_f28State C12_f28Cd ∧ IsL0Lbase C12_f28State C12_f28Cd ∧ ¬ TopsOldest C12_f28State C12_f28Cd ∧
      C12_f28State.compact C12_f28Cd 5 1 0 = some C12_f28State' ∧
      visible 0 (C12_f28State'.get [1] 9) ≠ visible 0 (C12_f28State.get [1] 9) := by
  refine ⟨by decide, by decide, by decide, by decide, by decide, by decide, by decide, by decide +kernel, by decide⟩

/-! ## finding F1 (repaired in badger commit d24306c): its witness under the repaired filter -/

def C12_f1State : Lsm :=
  { mem := [], imm := [],
    levels := [[{ ents := [⟨[1], 1, 0, 0, 0, [42]⟩] }, { ents := [⟨[1], 2, 1, 0, 0, []⟩] }], []] }
/-- before the repair the compaction of this choice wrote no table (`outSizes := []`): the marker was dropped -/
def C12_f1Cd : CompactDef :=
  { thisLevel := 0, nextLevel := 0, top := [1], bot := [], outSizes := [1], dropPrefixes := [] }
def C12_f1State' : Lsm :=
  { mem := [], imm := [],
    levels := [[{ ents := [⟨[1], 2, 1, 0, 0, []⟩] }, { ents := [⟨[1], 1, 0, 0, 0, [42]⟩] }], []] }

/-- on the F1 witness the repaired compaction keeps the delete marker and the read is unchanged -/
theorem C12_L0L0_f1_repaired :
    LsmInv C12_f1State ∧ VerBound C12_f1State ∧ CompactOk C12_f1State C12_f1Cd ∧ IsL0L0 C12_f1State C12_f1Cd ∧
      TblsDistinct (cdThisT C12_f1State C12_f1Cd) ∧
      C12_f1State.compact C12_f1Cd 5 1 0 = some C12_f1State' ∧
      visible 0 (C12_f1State'.get [1] 9) = visible 0 (C12_f1State.get [1] 9) ∧
      visible 0 (C12_f1State.get [1] 9) = none := by
  refine ⟨by decide, by decide, by decide, by decide, by decide, by decide +kernel, by decide, by decide⟩

/-! ## known finding F2: `replaceTables` re-sorts L0 by `Smallest` -/

def C12_f2State : Lsm :=
  { mem := [], imm := [],
    levels := [[{ ents := [⟨[2], 1, 0, 0, 0, [10]⟩] },
                { ents := [⟨[1], 2, 0, 0, 0, [0]⟩, ⟨[2], 1, 0, 0, 0, [11]⟩] },
                { ents := [⟨[3], 1, 0, 0, 0, [0]⟩] }], []] }
def C12_f2Cd : CompactDef :=
  { thisLevel := 0, nextLevel := 0, top := [2], bot := [], outSizes := [1], dropPrefixes := [] }
def C12_f2State' : Lsm :=
  { mem := [], imm := [],
    levels := [[{ ents := [⟨[1], 2, 0, 0, 0, [0]⟩, ⟨[2], 1, 0, 0, 0, [11]⟩] },
                { ents := [⟨[2], 1, 0, 0, 0, [10]⟩] },
                { ents := [⟨[3], 1, 0, 0, 0, [0]⟩] }], []] }

/-- F2: with a duplicated internal key `2@1` in two L0 tables (values 10 in the older, 11 in the
    newer table) an L0 → L0 compaction of an unrelated table re-sorts L0 by `Smallest`, the older
    table moves behind the newer one and the read returns the stale value. -/
theorem C12_L0_order_scrambled :
    ∃ (s s' : Lsm) (cd : CompactDef) (d n now ts : Nat) (k : Bytes),
      LsmInv s ∧ VerBound s ∧ Layered s ∧ CompactOk s cd ∧ IsL0L0 s cd ∧ cd.dropPrefixes = [] ∧
      s.compact cd d n now = some s' ∧ d ≤ ts ∧
      visible now (s'.get k ts) ≠ visible now (s.get k ts) :=
  ⟨C12_f2State, C12_f2State', C12_f2Cd, 0, 1, 0, 5, [2], by decide, by decide, by decide, by decide, by decide,
    rfl, by decide +kernel, by decide, by decide⟩

example : C12_f2State.get [2] 5 = some ⟨[2], 1, 0, 0, 0, [11]⟩ ∧
    C12_f2State'.get [2] 5 = some ⟨[2], 1, 0, 0, 0, [10]⟩ := by decide

/-- F2 is exactly a violation of `TblsFun` / `KeyVerUnique` -/
example : ¬ TblsFun (cdThisT C12_f2State C12_f2Cd) ∧ ¬ KeyVerUnique C12_f2State := by decide

/-- F2, positive part: if no internal key occurs in two different L0 tables, the order of the L0
    tables does not affect any read (`levelHandler.get` keeps a strict maximum). -/
theorem C12_L0_order_irrelevant_distinct {s : Lsm} {l0 l0' : List Tbl} {rest : List (List Tbl)}
    (h : LsmInv s) (hl : s.levels = l0 :: rest) (hp : l0'.Perm l0) (hd : TblsDistinct l0) (k : Bytes) (ts : Nat) :
    ({ s with levels := l0' :: rest } : Lsm).get k ts = s.get k ts := by
  have h0 := h.level (i := 0) (tbls := l0) (by rw [hl]; rfl)
  exact LL.resort_get h hl hp (LL.tblsFun_of_distinct (fun t ht => (h0.1 t ht).2) hd) k ts

/-! non-vacuity of the L0 → L0 statement: a compaction of two of three L0 tables; the marker `1@2`
    is kept (`hasOverlap = true`), the version below it is dropped -/
def C12_l0State : Lsm :=
  { mem := [⟨[1], 9, 0, 0, 0, [9]⟩], imm := [],
    levels := [[{ ents := [⟨[1], 1, 0, 0, 0, [42]⟩, ⟨[2], 1, 0, 0, 0, [7]⟩] }, { ents := [⟨[3], 1, 0, 0, 0, [3]⟩] },
                { ents := [⟨[1], 2, 1, 0, 0, []⟩] }], []] }
def C12_l0Cd : CompactDef :=
  { thisLevel := 0, nextLevel := 0, top := [0, 2], bot := [], outSizes := [2], dropPrefixes := [] }
def C12_l0State' : Lsm :=
  { mem := [⟨[1], 9, 0, 0, 0, [9]⟩], imm := [],
    levels := [[{ ents := [⟨[1], 2, 1, 0, 0, []⟩, ⟨[2], 1, 0, 0, 0, [7]⟩] }, { ents := [⟨[3], 1, 0, 0, 0, [3]⟩] }], []] }

example : LsmInv C12_l0State ∧ VerBound C12_l0State ∧ Layered C12_l0State ∧ KeyVerUnique C12_l0State ∧
    CompactOk C12_l0State C12_l0Cd ∧ IsL0L0 C12_l0State C12_l0Cd ∧
    TblsDistinct (cdThisT C12_l0State C12_l0Cd) ∧
    C12_l0State.compact C12_l0Cd 5 1 0 = some C12_l0State' := by
  refine ⟨by decide, by decide, by decide, by decide, by decide, by decide, by decide, by decide +kernel⟩

/-! non-vacuity of `C12_compact_reads`: one concrete instance per kind of compaction -/

/-- L0 → L2 with a non-empty bottom run; the tombstone `1@3` and the version below it are dropped
    (`hasOverlap = false`: nothing below, and the L0 table left behind holds another key) -/
def C12_exBase : Lsm :=
  { mem := [], imm := [],
    levels := [[{ ents := [⟨[1], 3, 1, 0, 0, []⟩] }, { ents := [⟨[2], 5, 0, 0, 0, [5]⟩] }], [],
               [{ ents := [⟨[1], 1, 0, 0, 0, [1]⟩] }, { ents := [⟨[3], 1, 0, 0, 0, [3]⟩] }]] }
def C12_exBaseCd : CompactDef :=
  { thisLevel := 0, nextLevel := 2, top := [0], bot := [0], outSizes := [], dropPrefixes := [] }
def C12_exBase' : Lsm :=
  { mem := [], imm := [],
    levels := [[{ ents := [⟨[2], 5, 0, 0, 0, [5]⟩] }], [], [{ ents := [⟨[3], 1, 0, 0, 0, [3]⟩] }]] }

example : LsmInv C12_exBase ∧ VerBound C12_exBase ∧ Layered C12_exBase ∧ CompactOk C12_exBase C12_exBaseCd ∧
    IsL0Lbase C12_exBase C12_exBaseCd ∧ C12_exBase.compact C12_exBaseCd 4 1 0 = some C12_exBase' ∧
    visible 0 (C12_exBase'.get [1] 4) = visible 0 (C12_exBase.get [1] 4) := by
  refine ⟨by decide, by decide, by decide, by decide, by decide, by decide +kernel, by decide⟩

/-- L1 → L2 -/
def C12_exLi : Lsm :=
  { mem := [], imm := [],
    levels := [[], [{ ents := [⟨[1], 2, 0, 0, 0, [2]⟩] }],
               [{ ents := [⟨[1], 1, 0, 0, 0, [1]⟩] }, { ents := [⟨[2], 1, 0, 0, 0, [7]⟩] }]] }
def C12_exLiCd : CompactDef :=
  { thisLevel := 1, nextLevel := 2, top := [0], bot := [0], outSizes := [2], dropPrefixes := [] }
def C12_exLi' : Lsm :=
  { mem := [], imm := [],
    levels := [[], [], [{ ents := [⟨[1], 2, 0, 0, 0, [2]⟩, ⟨[1], 1, 0, 0, 0, [1]⟩] }, { ents := [⟨[2], 1, 0, 0, 0, [7]⟩] }]] }

example : LsmInv C12_exLi ∧ VerBound C12_exLi ∧ Layered C12_exLi ∧ CompactOk C12_exLi C12_exLiCd ∧
    IsLiLnext C12_exLi C12_exLiCd ∧ C12_exLi.compact C12_exLiCd 0 1 0 = some C12_exLi' := by
  refine ⟨by decide, by decide, by decide, by decide, by decide, by decide +kernel⟩

/-- Lmax → Lmax: the tombstone `1@2` of the last level is dropped -/
def C12_exMax : Lsm :=
  { mem := [], imm := [],
    levels := [[], [{ ents := [⟨[1], 2, 1, 0, 0, []⟩] }, { ents := [⟨[2], 1, 0, 0, 0, [7]⟩] }]] }
def C12_exMaxCd : CompactDef :=
  { thisLevel := 1, nextLevel := 1, top := [0], bot := [1], outSizes := [1], dropPrefixes := [] }
def C12_exMax' : Lsm :=
  { mem := [], imm := [], levels := [[], [{ ents := [⟨[2], 1, 0, 0, 0, [7]⟩] }]] }

example : LsmInv C12_exMax ∧ VerBound C12_exMax ∧ Layered C12_exMax ∧ CompactOk C12_exMax C12_exMaxCd ∧
    IsLmax C12_exMax C12_exMaxCd ∧ C12_exMax.compact C12_exMaxCd 5 1 0 = some C12_exMax' := by
  refine ⟨by decide, by decide, by decide, by decide, by decide, by decide +kernel⟩

/-- a read after a write: the new entry is seen first (`memPut` replaces an equal internal key) -/
theorem C12_put_reads {s : Lsm} (h : LsmInv s) {e : Ent} (he : 0 < e.ver) (k : Bytes) (ts : Nat) :
    (s.putEnt e).get k ts = newestLE (e :: s.allEntries) k ts := by
  have hm : newestLE (LL.memEnts (s.putEnt e)) k ts = LL.pick (LL.cand k ts e) (newestLE (LL.memEnts s) k ts) := by
    unfold LL.memEnts Lsm.putEnt
    simp only [LL.newestLE_append]
    rw [newestLE_memPut, LL.newestLE_cons, LL.pick_assoc]
  rw [C01_get_spec (C14_put_inv h he), LL.allEntries_eq, LL.newestLE_append, hm, LL.newestLE_cons,
    LL.allEntries_eq, LL.newestLE_append, LL.pick_assoc]
  rfl

/-! ## snapshot stability: a read at `ts` is unaffected by everything that happens afterwards -/

inductive RunOf (R : Lsm → Lsm → Prop) : Lsm → Lsm → Prop
  | refl (s : Lsm) : RunOf R s s
  | step {s s' s'' : Lsm} (r : RunOf R s s') (st : R s' s'') : RunOf R s s''

/-- one step of the storage engine as seen by a reader at timestamp `ts` (wall clock `≤ now`):
    a later commit (fresh, larger version), a memtable flush, or a compaction of ANY kind whose
    `discardTs` does not exceed `ts`; an L0 → Lbase step carries the side condition `TopsOldest`
    (automatic while L0 is in age order, see `LsmStepAged`). -/
inductive LsmStep (ts now : Nat) : Lsm → Lsm → Prop
  | put (s : Lsm) (e : Ent) (hts : ts < e.ver) (hmax : e.ver ≤ maxU64)
      (hnew : ∀ x ∈ s.allEntries, x.key = e.key → x.ver < e.ver) : LsmStep ts now s (s.putEnt e)
  | flush (s : Lsm) (id : Nat) : LsmStep ts now s (s.flush id)
  | compact (s s' : Lsm) (cd : CompactDef) (d n now' : Nat) (hc : CompactOk s cd)
      (hto : IsL0Lbase s cd → TopsOldest s cd)
      (hdp : cd.dropPrefixes = []) (hs : s.compact cd d n now' = some s')
      (hcut : ∀ new0, splitSizes cd.outSizes (compactOutput s cd d n now').1 = some new0 →
        CutsAtKeyChange (withIds new0 cd.outIds))
      (hts : d ≤ ts) (hnow : now' ≤ now) : LsmStep ts now s s'

/-- the steps that keep L0 in age order: no L0 → L0 compaction, and then no side condition -/
inductive LsmStepAged (ts now : Nat) : Lsm → Lsm → Prop
  | put (s : Lsm) (e : Ent) (hts : ts < e.ver) (hmax : e.ver ≤ maxU64)
      (hnew : ∀ x ∈ s.allEntries, x.key = e.key → x.ver < e.ver) : LsmStepAged ts now s (s.putEnt e)
  | flush (s : Lsm) (id : Nat) : LsmStepAged ts now s (s.flush id)
  | compact (s s' : Lsm) (cd : CompactDef) (d n now' : Nat) (hc : CompactOk s cd) (hnot : ¬ IsL0L0 s cd)
      (hdp : cd.dropPrefixes = []) (hs : s.compact cd d n now' = some s')
      (hcut : ∀ new0, splitSizes cd.outSizes (compactOutput s cd d n now').1 = some new0 →
        CutsAtKeyChange (withIds new0 cd.outIds))
      (hts : d ≤ ts) (hnow : now' ≤ now) : LsmStepAged ts now s s'

/-- what every step of the engine preserves and what suffices for the reads: the structural
    invariant, `uint64` versions, recency across sources with L0 taken as one source (`LayeredX` —
    the part of `Layered` that survives the L0 → L0 merge-and-re-sort), uniqueness of internal keys
    (which makes the order of the L0 tables irrelevant), no immutable memtable. -/
def LsmGood (s : Lsm) : Prop := LsmInv s ∧ VerBound s ∧ LayeredX s ∧ KeyVerUnique s ∧ s.imm = []

instance (s : Lsm) : Decidable (LsmGood s) := by unfold LsmGood; infer_instance

theorem flush_imm (s : Lsm) (id : Nat) : (s.flush id).imm = s.imm := by
  rcases LL.flush_eq_self_or s id with he | ⟨_, _, _, _, he⟩ <;> rw [he]

theorem LsmGood.put {s : Lsm} (hg : LsmGood s) {e : Ent} (hpos : 0 < e.ver) (hmax : e.ver ≤ maxU64)
    (hnew : ∀ x ∈ s.allEntries, x.key = e.key → x.ver < e.ver) : LsmGood (s.putEnt e) :=
  ⟨C14_put_inv hg.1 hpos, LL.put_verBound hg.2.1 hmax,
    C14_put_layeredX hg.2.2.1 (fun x hx hk => Nat.le_of_lt (hnew x hx hk)),
    C14_put_keyVerUnique hg.2.2.2.1 hnew, hg.2.2.2.2⟩

theorem LsmGood.flush {s : Lsm} (hg : LsmGood s) (id : Nat) : LsmGood (s.flush id) :=
  ⟨C14_flush_inv hg.1 id, fun x hx => hg.2.1 x ((LL.mem_allEntries_flush s id x).mp hx),
    C14_flush_layeredX hg.2.2.1 hg.2.2.2.2 id, C14_flush_keyVerUnique hg.2.2.2.1 id,
    (flush_imm s id).trans hg.2.2.2.2⟩

theorem LsmGood.resort {s : Lsm} (hg : LsmGood s) {l0 l0' : List Tbl} {rest : List (List Tbl)}
    (hl : s.levels = l0 :: rest) (hp : l0'.Perm l0) : LsmGood { s with levels := l0' :: rest } :=
  ⟨LL.resort_inv hg.1 hl hp, fun x hx => hg.2.1 x ((LL.mem_allEntries_resort hl hp x).mp hx),
    LL.resort_layeredX hg.2.2.1 hl hp, LL.resort_keyVerUnique hg.2.2.2.1 hl hp, hg.2.2.2.2⟩

theorem LsmGood.compact {s s' : Lsm} {cd : CompactDef} {d n now : Nat} (hg : LsmGood s) (hc : CompactOk s cd)
    (hto : IsL0Lbase s cd → TopsOldest s cd) (hs : s.compact cd d n now = some s')
    (hcut : StepCuts s cd d n now) : LsmGood s' := by
  obtain ⟨h, hv, hl, hu, himm⟩ := hg
  refine ⟨C14_compact_inv h hv hc hs hcut, C14_compact_verBound hv hc hs, C14_compact_layeredX h hl hc hto hs,
    C14_compact_keyVerUnique hu hc hs, ?_⟩
  obtain ⟨_, _, rfl⟩ := LL.compact_some hs
  exact himm

theorem C12_step_stable {ts now : Nat} {s s' : Lsm} (hg : LsmGood s) (st : LsmStep ts now s s') :
    LsmGood s' ∧ ∀ k, visible now (s'.get k ts) = visible now (s.get k ts) := by
  cases st with
  | put e hts hmax hnew =>
    have hpos : 0 < e.ver := by omega
    refine ⟨hg.put hpos hmax hnew, fun k => ?_⟩
    rw [C12_put_reads hg.1 hpos, LL.newestLE_cons, C01_get_spec hg.1]
    have : LL.cand k ts e = none := by
      unfold LL.cand; rw [if_neg]; rintro ⟨_, hle⟩; omega
    rw [this]; rfl
  | flush id => exact ⟨hg.flush id, fun k => by rw [C12_flush_reads_noimm hg.1 hg.2.2.2.2]⟩
  | compact _ cd d n now' hc hto hdp hs hcut hts hnow =>
    have ⟨h, hv, hl, hu, _⟩ := hg
    exact ⟨hg.compact hc hto hs hcut, fun k =>
      C12_compact_reads_weak h hv hl hc hto (fun _ => LL.tblsFun_of_unique hu hc.1) hdp hs hts hnow⟩

/-- Snapshot stability: starting from a good state, after any number of later commits, flushes and
    compactions of every kind (L0 → L0 included; `discardTs ≤ ts`) every read at `ts` returns what it
    returned before, and the state is still good. This is C01 + C12 + C14 composed. -/
theorem C12_snapshot_stable {ts now : Nat} {s s' : Lsm} (hg : LsmGood s) (r : RunOf (LsmStep ts now) s s') :
    LsmGood s' ∧ ∀ k, visible now (s'.get k ts) = visible now (s.get k ts) := by
  induction r with
  | refl => exact ⟨hg, fun _ => rfl⟩
  | step _ st ih =>
    obtain ⟨hg', hr⟩ := ih
    obtain ⟨hg'', hr'⟩ := C12_step_stable hg' st
    exact ⟨hg'', fun k => (hr' k).trans (hr k)⟩

/-- and what it returns is the specification's answer computed on the *original* state -/
theorem C12_snapshot_spec {ts now : Nat} {s s' : Lsm} (hg : LsmGood s) (r : RunOf (LsmStep ts now) s s')
    (k : Bytes) : visible now (s'.get k ts) = s.specGet k ts now := by
  rw [(C12_snapshot_stable hg r).2 k, C01_read_spec hg.1]

/-- while L0 stays in age order (no L0 → L0 step) the side condition of L0 → Lbase is automatic:
    an aged step from an aged state is a step, and the state stays aged -/
theorem C12_step_aged {ts now : Nat} {s s' : Lsm} (hg : LsmGood s) (hl : Layered s)
    (st : LsmStepAged ts now s s') : LsmStep ts now s s' ∧ Layered s' := by
  obtain ⟨h, hv, _, _, himm⟩ := hg
  cases st with
  | put e hts hmax hnew =>
    exact ⟨.put s e hts hmax hnew, C14_put_layered hl (fun x hx hk => Nat.le_of_lt (hnew x hx hk))⟩
  | flush id => exact ⟨.flush s id, C14_flush_layered hl himm id⟩
  | compact _ cd d n now' hc hnot hdp hs hcut hts hnow =>
    exact ⟨.compact s _ cd d n now' hc (fun hk => LL.topsOldest_of_layered hl hc.1 hk) hdp hs hcut hts hnow,
      C14_compact_layered h hl hc hnot hs⟩

theorem C12_snapshot_stable_aged {ts now : Nat} {s s' : Lsm} (hg : LsmGood s) (hl : Layered s)
    (r : RunOf (LsmStepAged ts now) s s') :
    LsmGood s' ∧ Layered s' ∧ ∀ k, visible now (s'.get k ts) = visible now (s.get k ts) := by
  induction r with
  | refl => exact ⟨hg, hl, fun _ => rfl⟩
  | step _ st ih =>
    obtain ⟨hg', hl', hr⟩ := ih
    obtain ⟨st', hl''⟩ := C12_step_aged hg' hl' st
    obtain ⟨hg'', hr'⟩ := C12_step_stable hg' st'
    exact ⟨hg'', hl'', fun k => (hr' k).trans (hr k)⟩

example : LsmGood C12_exBase ∧ Layered C12_exBase ∧ LsmGood C12_l0State := by decide +kernel

end Badger
