import BadgerProofs.Props.C12Choice
/-!
# C36 / C12 — finding F27: a managed-mode write BELOW an existing version

The reachability theorems (`Reach.put`, Props/C01Reach.lean) require every write to be above the committed versions of
its own key (`hfresh`). Managed mode lets the caller break that: `CommitAt(5)` after `CommitAt(10)`
on the same key. This file runs the excluded point on the model (the implementation behaves the
same way: `corpus/mvcc/f27_write_below_tombstone.ops`): the tombstone `k@10` sits in L0, the later
write `k@5` in the memtable ABOVE it; the picker-valid compaction of the L0 table to the last level
at `discardTs = 10` drops the tombstone (nothing below), and the read of `k` at `ts = 12 ≥ discardTs`
changes from absent to `k@5`.
-/
namespace Badger

def C36_belowS : Lsm :=
  { mem := [⟨[0x6b], 5, 0, 0, 0, [1]⟩], imm := [],
    levels := [[{ ents := [⟨[0x6b], 10, 1, 0, 0, []⟩], id := 1 }], [], [], []] }
def C36_belowCd : CompactDef :=
  { thisLevel := 0, nextLevel := 3, top := [0], bot := [], outSizes := [], outIds := [], dropPrefixes := [] }
def C36_belowS' : Lsm := { mem := [⟨[0x6b], 5, 0, 0, 0, [1]⟩], imm := [], levels := [[], [], [], []] }

theorem C36_write_below_counterexample :
    LsmInv C36_belowS ∧ validChoice C36_belowS C36_belowCd = true ∧
    C36_belowS.compact C36_belowCd 10 1 0 = some C36_belowS' ∧
    visible 0 (C36_belowS.get [0x6b] 12) = none ∧
    visible 0 (C36_belowS'.get [0x6b] 12) = some ⟨[0x6b], 5, 0, 0, 0, [1]⟩ ∧
    ¬ LayeredX C36_belowS :=
  ⟨by decide, by decide, by decide +kernel, by decide, by decide, by decide⟩

end Badger
