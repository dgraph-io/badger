import BadgerProofs.Props.C01Db
import BadgerProofs.Props.C13Reach
/-!
# C13 at database level: what every reachable state still stores

In normal mode the discard watermark is the read watermark (`discardAtOrBelow`), which never passes
the read timestamp of an open transaction (`C34_db_discard_below_open`). Hence, in every reachable
state and whatever compactions ran: every committed version above the watermark is still stored,
and so is, for every key, the newest live version at or below any timestamp `≥` the watermark —
in particular everything an open transaction can read.
-/
namespace Badger

theorem C13_db_above_watermark {o : Opts} {hist : List Ent} {d : Db} (hm : o.managed = false)
    (r : DbReach o hist d) : ∀ e ∈ hist, d.discardAtOrBelow < e.ver → e ∈ d.lsm.allEntries := by
  obtain ⟨dm, nm, R, h1, _⟩ := (DbL.tree_of_reach hm r).reach
  exact fun e he hv => C13_reach_above R e he (Nat.lt_of_le_of_lt h1 hv)

theorem C13_db_newest_retained {o : Opts} {hist : List Ent} {d : Db} (hm : o.managed = false)
    (r : DbReach o hist d) {ts now : Nat} (hts : d.discardAtOrBelow ≤ ts) (hnow : d.now ≤ now)
    {k : Bytes} {e : Ent} (he : visible now (newestLE hist k ts) = some e) :
    e ∈ d.lsm.allEntries ∧ d.lsm.get k ts = some e := by
  obtain ⟨dm, nm, R, h1, h2⟩ := (DbL.tree_of_reach hm r).reach
  exact C13_reach_newest R (Nat.le_trans h1 hts) (Nat.le_trans h2 hnow) he

theorem C13_db_open_txn_reads_retained {o : Opts} {hist : List Ent} {d : Db} (hm : o.managed = false)
    (r : DbReach o hist d) {id : Nat} {t : TxnM} (hf : d.findTxn id = some t) (hdisc : t.discarded = false)
    {k : Bytes} {e : Ent} (he : visible d.now (newestLE hist k t.readTs) = some e) :
    e ∈ d.lsm.allEntries :=
  (C13_db_newest_retained hm r (C34_db_discard_below_open hm r hf hdisc) (Nat.le_refl _) he).1

end Badger
