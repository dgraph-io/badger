import BadgerProofs.Props.C01Reach
import BadgerProofs.Props.C13
import BadgerProofs.Lemmas.Txn
/-!
# C13 — retention at the level of the whole store and of the commit HISTORY

`C13.lean` characterises what one run of the compaction filter keeps. Here the filter theorems are
lifted to `Lsm.compact` (an entry of the state survives a compaction if it is not an input or the
filter keeps it: `LL.compact_survives`) and composed over `Reach` (`C01Reach.lean`): no version above every discard
timestamp any compaction used is ever lost, and the newest live version at or below a read
timestamp `≥` the watermark is still stored.
The `NumVersionsToKeep` half: `C13_compact_keep_newest` lifts `C13_keep_newest` to `Lsm.compact`, and `ReachK nlev N` are
the runs all of whose compactions use `numKeep ≥ N`; along them a committed entry with fewer than `N` newer committed
versions of its key, it and they live and none of them discard-earlier (`KeptByN`), is still stored, whatever the
discard timestamps were (`C13_reach_step_keep_n` for one compaction, `ReachK.stored`, `C13_reachK_keep_n`).
`ReachK nlev 0` and `Reach nlev` are the same relation (`Reach.toReachK`, `ReachK.toReach`).
-/
namespace Badger
namespace LL

/-- the filter parameters of a compaction without `dropPrefixes`, for use with the theorems of C13 -/
def cdParams (s : Lsm) (cd : CompactDef) (d n now : Nat) : CParams :=
  { discardTs := d, numKeep := n, hasOverlap := cdHasOverlap s cd, now := now, dropPrefixes := [] }

/-- an entry of the state survives a compaction if it is not an input, or the filter (`C13.lean`) keeps
    it out of the merged stream -/
theorem compact_survives {s s' : Lsm} {cd : CompactDef} {d n now : Nat} (h : LsmInv s) (hu : KeyVerUnique s)
    (hc : CompactOk s cd) (hdp : cd.dropPrefixes = []) (hs : s.compact cd d n now = some s') {e : Ent}
    (he : e ∈ s.allEntries)
    (hf : e ∈ cdMerged s cd → e ∈ subcompact (cdParams s cd d n now) (cdMerged s cd)) :
    e ∈ s'.allEntries := by
  obtain ⟨new0, hsp, rfl⟩ := compact_some hs
  have hget := newLevels_get new0 hc.1.1 hc.1.2.1
  -- what the filter keeps, and what stays on the next level, is stored on the new next level
  have hnew : e ∈ (compactOutput s cd d n now).1 ∨ e ∈ keptEnts s cd →
      e ∈ ({ s with levels := newLevels s cd new0 } : Lsm).allEntries := fun hin => by
    obtain ⟨t, ht, het⟩ := mem_lvlChunk.mp ((mem_newNext hsp (i := cd.nextLevel)).mpr hin)
    exact mem_allEntries_of_level ⟨_, t, (hget cd.nextLevel).trans (if_pos rfl), ht, het⟩
  have hout : e ∈ topEnts s cd ∨ e ∈ botEnts s cd →
      e ∈ ({ s with levels := newLevels s cd new0 } : Lsm).allEntries := fun hin => hnew (.inl (by
    have hp : DG.params s cd d n now = cdParams s cd d n now := by unfold DG.params cdParams; rw [hdp]
    rw [PF.output_eq, mergedV_eq hdp, hp]
    exact hf (mem_merged_of_input h hu hc (List.mem_append.mpr hin))))
  rw [mem_allEntries] at he
  rcases he with he | he | ⟨i, tbls, t, hi, ht, het⟩
  · exact mem_allEntries.mpr (.inl he)
  · exact mem_allEntries.mpr (.inr (.inl he))
  by_cases hin : i = cd.nextLevel
  · -- the next level: an input or kept
    subst hin
    cases (levels_getD hc.1.2.1).symm.trans hi
    by_cases hsame : cd.nextLevel = cd.thisLevel
    · exact ((mem_next_same hsame (i := cd.nextLevel)).mp (mem_lvlChunk.mpr ⟨t, ht, het⟩)).elim hout
        fun hk => hnew (.inr hk)
    · rcases (exists_mem_split _ cd.bot).mp ⟨t, ht, het⟩ with h1 | h1
      · exact hout (.inr (mem_botEnts.mpr h1))
      · refine hnew (.inr (mem_keptEnts.mpr ?_))
        unfold takenIdx
        rwa [if_neg (Ne.symm hsame)]
  · by_cases hit : i = cd.thisLevel
    · -- the level of the tops (a different level): a top, or it stays
      subst hit
      cases (levels_getD hc.1.1).symm.trans hi
      rcases (mem_pick_or_remove _ cd.top t).mp ht with h1 | h1
      · exact hout (.inl (mem_topEnts.mpr ⟨t, h1, het⟩))
      · exact mem_allEntries_of_level ⟨_, t, (hget cd.thisLevel).trans ((if_neg hin).trans (if_pos rfl)), h1, het⟩
    · exact mem_allEntries_of_level ⟨tbls, t, (hget i).trans ((if_neg hin).trans ((if_neg hit).trans hi)), ht, het⟩

/-- a commit overwrites only an entry with its own internal key, and a fresh one has none stored -/
theorem put_keeps_fresh {s : Lsm} {hist : List Ent} {e x : Ent}
    (hfresh : ∀ y ∈ hist, y.key = e.key → y.ver < e.ver) (hx : x ∈ e :: hist)
    (ih : x ∈ hist → x ∈ s.allEntries) : x ∈ (s.putEnt e).allEntries := by
  rw [mem_allEntries]
  rcases List.mem_cons.mp hx with rfl | hx'
  · exact .inl (self_mem_memPut _ _)
  · exact (mem_allEntries.mp (ih hx')).imp_left fun h1 =>
      (mem_memPut_of_mem h1).resolve_right fun hkv => Nat.ne_of_lt (hfresh x hx' hkv.1) hkv.2

end LL

/-- **C13 at state level** — a compaction never removes a stored version newer than its discard
    timestamp: not from the tables it leaves alone, and not from the ones it merges. -/
theorem C13_compact_above {s s' : Lsm} {cd : CompactDef} {d n now : Nat} (h : LsmInv s) (hu : KeyVerUnique s)
    (hc : CompactOk s cd) (hdp : cd.dropPrefixes = []) (hs : s.compact cd d n now = some s') {e : Ent}
    (he : e ∈ s.allEntries) (hv : d < e.ver) : e ∈ s'.allEntries :=
  LL.compact_survives h hu hc hdp hs he fun hm =>
    C13_keep_above (p := LL.cdParams s cd d n now) (LL.merged_sorted h hc hdp) rfl hm hv

/-- **C13 at state level, NumVersionsToKeep** — `C13_keep_newest` lifted to `Lsm.compact`: a stored
    entry survives if, among the versions of its key that the compaction merges, no strictly newer
    counted one is dead or discard-earlier, fewer than `numKeep` counted ones are newer, and the entry
    itself is live (or `hasOverlap`, or not counted). -/
theorem C13_compact_keep_newest {s s' : Lsm} {cd : CompactDef} {d n now : Nat} (h : LsmInv s)
    (hu : KeyVerUnique s) (hc : CompactOk s cd) (hdp : cd.dropPrefixes = [])
    (hs : s.compact cd d n now = some s') {e : Ent} (he : e ∈ s.allEntries)
    (p : CParams) (hp : p = LL.cdParams s cd d n now)
    (hlive : ∀ x ∈ LL.cdMerged s cd, x.key = e.key → e.ver < x.ver → counted p x = true →
      deadAt p x = false ∧ hasBit x.emeta bitDiscardEarlier = false)
    (hn : countedBefore p (LL.cdMerged s cd) e < n)
    (hself : deadAt p e = false ∨ LL.cdHasOverlap s cd = true ∨ counted p e = false) :
    e ∈ s'.allEntries := by
  subst hp
  exact LL.compact_survives h hu hc hdp hs he fun hm =>
    C13_keep_newest (p := LL.cdParams s cd d n now) (LL.merged_sorted h hc hdp) rfl hm hlive hn hself

/-- **C13 over `Reach`** — the newest committed version `≤ ts` of a key, if it is live, is still
    stored, for every `ts ≥` the largest discard timestamp used (clock `≥` every compaction's clock).
    In particular (`ts = dm`) the newest live version at or below the watermark survives. -/
theorem C13_reach_newest {nlev : Nat} {hist : List Ent} {dm nm : Nat} {s : Lsm} (r : Reach nlev hist dm nm s)
    {ts now : Nat} (hts : dm ≤ ts) (hnow : nm ≤ now) {k : Bytes} {e : Ent}
    (he : visible now (newestLE hist k ts) = some e) : e ∈ s.allEntries ∧ s.get k ts = some e := by
  rw [← C01_reach_reads r hts hnow k] at he
  have hg := (visible_some_iff.mp he).1
  exact ⟨(C01_get_some (C01_reach_good r).1 hg).1, hg⟩

def AlwaysLive (x : Ent) : Prop := ∀ now, deletedOrExpired x.emeta x.exp now = false

def newerInHist (hist : List Ent) (e : Ent) : List Ent :=
  hist.filter (fun x => decide (x.key = e.key ∧ e.ver < x.ver))

/-- the history-level reading of "keep the `n` newest versions": `e` and every committed version of
    its key above it are live, none above it carries discard-earlier, and fewer than `n` committed
    versions of the key are newer than `e` -/
def KeptByN (hist : List Ent) (n : Nat) (e : Ent) : Prop :=
  AlwaysLive e ∧
  (∀ x ∈ hist, x.key = e.key → e.ver < x.ver → AlwaysLive x ∧ hasBit x.emeta bitDiscardEarlier = false) ∧
  (newerInHist hist e).length < n

/-- **C13, one picker-valid compaction from a reachable state, NumVersionsToKeep** — whatever its
    discard timestamp and clock, a compaction with `numKeep = n` keeps every stored entry that is among
    the `n` newest committed versions of its key (all live, no discard-earlier above it). -/
theorem C13_reach_step_keep_n {nlev : Nat} {hist : List Ent} {dm nm : Nat} {s s' : Lsm}
    (r : Reach nlev hist dm nm s) {cd : CompactDef} {d n now' : Nat} (hi : ChoiceIdxOk s cd)
    (htop : cd.top ≠ []) (hvc : validChoice s cd = true) (hdp : cd.dropPrefixes = [])
    (hs : s.compact cd d n now' = some s') {e : Ent} (he : e ∈ s.allEntries) (hk : KeptByN hist n e) :
    e ∈ s'.allEntries := by
  obtain ⟨h, hv, _, hu, _⟩ := r.tracks.good
  have hsub := r.tracks.stored
  have hc := r.tracks.compactOk hi htop hvc
  obtain ⟨hlive_e, hlive, hcount⟩ := hk
  have hmh : ∀ x ∈ LL.cdMerged s cd, x ∈ hist := fun x hx =>
    hsub x (LL.input_mem_allEntries hc.1 (List.mem_append.mpr (LL.mem_merged hx)))
  apply C13_compact_keep_newest h hu hc hdp hs he (LL.cdParams s cd d n now') rfl
  · intro x hx hkx hvx _
    obtain ⟨hl, hde⟩ := hlive x (hmh x hx) hkx hvx
    exact ⟨hl now', hde⟩
  · -- the counted newer versions in the merged stream are distinct committed newer versions
    refine Nat.lt_of_le_of_lt (List.Nodup.length_le_of_subset
      ((LL.merged_sorted h hc hdp).nodup.sublist List.filter_sublist) fun x hx => ?_) hcount
    obtain ⟨hxm, hxp⟩ := List.mem_filter.mp hx
    exact List.mem_filter.mpr ⟨hmh x hxm, (Bool.and_eq_true _ _ ▸ hxp).1⟩
  · exact .inl (hlive_e now')

/-- runs all of whose compactions use `numKeep ≥ N` (`Reach` does not record `numKeep`) -/
inductive ReachK (nlev N : Nat) : List Ent → Nat → Nat → Lsm → Prop
  | init : ReachK nlev N [] 0 0 (Lsm.init nlev)
  | put {hist : List Ent} {dm nm : Nat} {s : Lsm} (r : ReachK nlev N hist dm nm s) (e : Ent)
      (hpos : 0 < e.ver) (hmax : e.ver ≤ maxU64)
      (hfresh : ∀ x ∈ hist, x.key = e.key → x.ver < e.ver) : ReachK nlev N (e :: hist) dm nm (s.putEnt e)
  | flush {hist : List Ent} {dm nm : Nat} {s : Lsm} (r : ReachK nlev N hist dm nm s) (id : Nat) :
      ReachK nlev N hist dm nm (s.flush id)
  | resort {hist : List Ent} {dm nm : Nat} {s : Lsm} (r : ReachK nlev N hist dm nm s) {l0 l0' : List Tbl}
      {rest : List (List Tbl)} (hl : s.levels = l0 :: rest) (hp : l0'.Perm l0) :
      ReachK nlev N hist dm nm { s with levels := l0' :: rest }
  | compact {hist : List Ent} {dm nm : Nat} {s s' : Lsm} (r : ReachK nlev N hist dm nm s) (cd : CompactDef)
      (d n now' : Nat) (hN : N ≤ n) (hi : ChoiceIdxOk s cd) (htop : cd.top ≠ []) (hvc : validChoice s cd = true)
      (hdp : cd.dropPrefixes = []) (hs : s.compact cd d n now' = some s')
      (hcut : ∀ new0, splitSizes cd.outSizes (compactOutput s cd d n now').1 = some new0 →
        CutsAtKeyChange (withIds new0 cd.outIds)) :
      ReachK nlev N hist (max dm d) (max nm now') s'

theorem ReachK.toReach {nlev N : Nat} {hist : List Ent} {dm nm : Nat} {s : Lsm}
    (r : ReachK nlev N hist dm nm s) : Reach nlev hist dm nm s := by
  induction r with
  | init => exact .init
  | put _ e hpos hmax hfresh ih => exact .put ih e hpos hmax hfresh
  | flush _ id ih => exact .flush ih id
  | resort _ hl hp ih => exact .resort ih hl hp
  | compact _ cd d n now' _ hi htop hvc hdp hs hcut ih => exact .compact ih cd d n now' hi htop hvc hdp hs hcut

theorem KeptByN.tail {x : Ent} {hist : List Ent} {n : Nat} {e : Ent} (h : KeptByN (x :: hist) n e) :
    KeptByN hist n e :=
  ⟨h.1, fun y hy => h.2.1 y (List.mem_cons_of_mem _ hy),
    Nat.lt_of_le_of_lt ((List.sublist_cons_self x hist).filter _).length_le h.2.2⟩

theorem Reach.toReachK {nlev : Nat} {hist : List Ent} {dm nm : Nat} {s : Lsm}
    (r : Reach nlev hist dm nm s) : ReachK nlev 0 hist dm nm s := by
  induction r with
  | init => exact .init
  | put _ e hpos hmax hfresh ih => exact .put ih e hpos hmax hfresh
  | flush _ id ih => exact .flush ih id
  | resort _ hl hp ih => exact .resort ih hl hp
  | compact _ cd d n now' hi htop hvc hdp hs hcut ih =>
    exact .compact ih cd d n now' (Nat.zero_le n) hi htop hvc hdp hs hcut

/-- what no compaction of the run may drop: a committed entry above every discard timestamp used, or
    among the `N` newest versions of its key (`KeptByN`), is still stored -/
theorem ReachK.stored {nlev N : Nat} {hist : List Ent} {dm nm : Nat} {s : Lsm}
    (r : ReachK nlev N hist dm nm s) : ∀ e ∈ hist, dm < e.ver ∨ KeptByN hist N e → e ∈ s.allEntries := by
  induction r with
  | init => exact fun _ he => nomatch he
  | put _ e _ _ hfresh ih =>
    exact fun x hx hq => LL.put_keeps_fresh hfresh hx (fun hx' => ih x hx' (hq.imp_right KeptByN.tail))
  | flush _ id ih => exact fun x hx hq => (LL.mem_allEntries_flush _ id x).mpr (ih x hx hq)
  | resort _ hl hp ih => exact fun x hx hq => (LL.mem_allEntries_resort hl hp x).mpr (ih x hx hq)
  | compact r cd d n now' hN hi htop hvc hdp hs hcut ih =>
    intro x hx hq
    have hr := r.toReach.tracks
    rcases hq with hv | hk
    · exact C13_compact_above hr.good.1 hr.good.2.2.2.1 (hr.compactOk hi htop hvc) hdp hs
        (ih x hx (.inl (Nat.lt_of_le_of_lt (Nat.le_max_left _ _) hv))) (Nat.lt_of_le_of_lt (Nat.le_max_right _ _) hv)
    · exact C13_reach_step_keep_n r.toReach hi htop hvc hdp hs (ih x hx (.inr hk))
        ⟨hk.1, hk.2.1, Nat.lt_of_lt_of_le hk.2.2 hN⟩

/-- **C13 over `Reach`** — no committed version above every discard timestamp any compaction used is
    ever lost, whatever commits, flushes, re-orderings of level 0 and picker-valid compactions happened. -/
theorem C13_reach_above {nlev : Nat} {hist : List Ent} {dm nm : Nat} {s : Lsm} (r : Reach nlev hist dm nm s) :
    ∀ e ∈ hist, dm < e.ver → e ∈ s.allEntries :=
  fun e he hv => r.toReachK.stored e he (.inl hv)

/-- above the watermark the stored versions are exactly the committed ones -/
theorem C13_reach_above_iff {nlev : Nat} {hist : List Ent} {dm nm : Nat} {s : Lsm} (r : Reach nlev hist dm nm s)
    {e : Ent} (hv : dm < e.ver) : e ∈ s.allEntries ↔ e ∈ hist :=
  ⟨r.tracks.stored e, fun h => C13_reach_above r e h hv⟩

/-- **C13 over the history, NumVersionsToKeep** — if every compaction keeps at least `N` versions,
    then every committed entry that is among the `N` newest committed versions of its key (they all
    live, no discard-earlier above it) is still stored — independently of all discard timestamps. -/
theorem C13_reachK_keep_n {nlev N : Nat} {hist : List Ent} {dm nm : Nat} {s : Lsm}
    (r : ReachK nlev N hist dm nm s) : ∀ e ∈ hist, KeptByN hist N e → e ∈ s.allEntries :=
  fun e he hk => r.stored e he (.inr hk)

/-! non-vacuity on the concrete run of `C01Reach.lean`:
    `init 2` → commit `1@1` → flush → the pickers' L0 → L1 compaction with `discardTs = 0` -/
theorem C13_reachRun : Reach 2 [C01_reachE] 0 0 C01_reachS3 := C01_reachRun

example : C01_reachE ∈ C01_reachS3.allEntries :=
  C13_reach_above C13_reachRun C01_reachE (by simp) (by decide)

example : C01_reachE ∈ C01_reachS3.allEntries ∧ C01_reachS3.get [1] 4 = some C01_reachE :=
  C13_reach_newest C13_reachRun (ts := 4) (now := 0) (by decide) (by decide) (k := [1]) (by decide)

theorem C13_reachRunK : ReachK 2 1 [C01_reachE] 0 0 C01_reachS3 :=
  .compact (.flush (.put .init C01_reachE (by decide) (by decide) (by simp)) 5) C01_reachCd 0 1 0
    (by decide) (by decide) (by decide) (by decide) rfl C01_reachS3_eq C01_reachCuts

example : C01_reachE ∈ C01_reachS3.allEntries := by
  apply C13_reachK_keep_n C13_reachRunK C01_reachE (by simp)
  refine ⟨?_, ?_, by decide⟩
  · intro now; simp [C01_reachE, deletedOrExpired, hasBit, bitDelete]
  · intro x hx hk hv; simp at hx; subst hx; omega

end Badger
