import BadgerProofs.Lemmas.WritePipe
import BadgerProofs.Props.C34
import BadgerProofs.Props.C03
/-!
# C03 — write pipeline: channel order, apply order, atomic visibility, visibility after ack

Model: `BadgerModel/WritePipe.lean` (committers: `lock; newCommitTs; enqueue; unlock; wait; doneCommit`,
`doWrites`/`writeRequests`: `dequeue k; put …; signal`, one memtable `Put` per step) on top of the
oracle transition system. `PReach d n p`: every reachable state, any number of committers and
readers, any interleaving, normal mode.
-/
namespace Badger

/-- **Write-channel order = commit-timestamp order.** In every reachable state the requests sitting
    in `writeCh` are in strictly increasing commit-timestamp order and all above everything already
    taken out of the channel; more precisely the sequence of *all* requests ever enqueued (finished
    batches, batch in flight, channel) is strictly increasing, and it is the allocation history of
    the oracle — without the timestamps of commits rejected by `sendToWriteCh` (`p.rejected`) — minus
    at most the timestamp just given to the committer holding `writeChLock`. -/
theorem C03_channel_order {d : Bool} {n : Nat} {p : Pipe} (h : PReach d n p) :
    p.writeCh.Pairwise (fun a b => a.ts < b.ts) ∧
    (∀ a ∈ p.finished ++ p.batch.getD [], ∀ b ∈ p.writeCh, a.ts < b.ts) ∧
    p.enq.Pairwise (fun a b => a.ts < b.ts) ∧
    (p.sys.hist.map (·.ts)).filter (fun t => !p.rejected.contains t) = p.enq.map (·.ts) ++ p.stampedTs ∧
    p.stampedTs.length ≤ 1 := by
  have hI := h.inv
  have hs := hI.enqSorted
  have hs' := hs
  simp only [Pipe.enq] at hs'
  obtain ⟨_, h2, h3⟩ := List.pairwise_append.mp hs'
  have hst : p.stampedReq.map (·.ts) = p.stampedTs ∧ p.stampedTs.length ≤ 1 := by
    unfold Pipe.stampedReq Pipe.stampedTs
    split
    · split <;> simp
    · simp
  refine ⟨h2, h3, hs, ?_, hst.2⟩
  -- `PInv.histEnq` on the timestamps alone
  rw [← hst.1, ← List.map_append, ← hI.histEnq, Pipe.liveReqs, List.map_map, List.filter_map]
  rfl

/-- **Apply order.** (a) Entries reach the memtable in non-decreasing commit-timestamp order.
    (b) While an entry of the request with timestamp `c` is the next to be put, every request with a
    smaller timestamp that was ever enqueued is fully applied. (c) What is in the memtable is
    exactly: all entries of the finished batches, then a prefix of the batch in flight. -/
theorem C03_apply_order {d : Bool} {n : Nat} {p : Pipe} (h : PReach d n p) :
    p.memtable.Pairwise (fun a b => a.2 ≤ b.2) ∧
    (∀ k c rest, p.pending = (k, c) :: rest → ∀ q ∈ p.enq, q.ts < c →
      ∀ key ∈ q.keys, (key, q.ts) ∈ p.memtable) ∧
    (∃ applied, p.memtable = p.finished.flatMap Req.entries ++ applied ∧
      applied ++ p.pending = (p.batch.getD []).flatMap Req.entries) := by
  have hI := h.inv
  obtain ⟨applied, hm1, hm2⟩ := hI.memFlat
  have hs := hI.enqSorted
  simp only [Pipe.enq] at hs
  obtain ⟨hfb, hw, hfbw⟩ := List.pairwise_append.mp hs
  have hall : (p.memtable ++ p.pending).Pairwise (fun a b => a.2 ≤ b.2) := by
    rw [hI.memtable_pending]
    exact entries_sorted _ hfb
  refine ⟨(List.pairwise_append.mp hall).1, ?_, applied, hm1, hm2⟩
  intro k c rest hp q hq hlt key hkey
  -- (k, c) belongs to a request of the batch in flight
  have hkc : (k, c) ∈ (p.batch.getD []).flatMap Req.entries := by
    rw [← hm2, hp]; simp
  obtain ⟨qc, hqc, hqce⟩ := List.mem_flatMap.mp hkc
  have hcts : c = qc.ts := ((mem_entries qc (k, c)).mp hqce).1
  -- q is not in the channel: those are above the batch
  have hq' : q ∈ p.finished ++ p.batch.getD [] := by
    simp only [Pipe.enq] at hq
    rcases List.mem_append.mp hq with hq | hq
    · exact hq
    · exfalso
      have := hfbw qc (List.mem_append.mpr (.inr hqc)) q hq
      omega
  have hent : (key, q.ts) ∈ p.memtable ++ p.pending := by
    rw [hI.memtable_pending]
    exact List.mem_flatMap.mpr ⟨q, hq', (mem_entries q _).mpr ⟨rfl, hkey⟩⟩
  rcases List.mem_append.mp hent with hm | hpnd
  · exact hm
  · exfalso
    rw [hp] at hpnd hall
    have hp2 := (List.pairwise_append.mp hall).2.1
    rcases List.mem_cons.mp hpnd with he | hr
    · cases he; omega
    · have := (List.pairwise_cons.mp hp2).1 _ hr
      simp only at this; omega

/-- **Atomic visibility.** In every reachable state, for every transaction whose `NewTransaction`
    has returned with read timestamp `r`: (a) every commit with timestamp `≤ r` is *fully* applied
    (all its entries are in the memtable) — or was rejected by `sendToWriteCh`, in which case nothing
    of it is ever written (`C03_rejected_no_trace_pipe`); (b) every commit with timestamp `> r` is entirely
    invisible (its entries carry version `> r`: plain arithmetic, the content is in (a) and (c));
    (c) conversely every memtable entry visible at `r` (version `≤ r`) belongs to a fully applied transaction. So no reader observes part of a
    transaction, although the memtable itself passes through partially applied states
    (`C03_partial_state_exists`). -/
theorem C03_atomic_visibility {d : Bool} {n : Nat} {p : Pipe} (h : PReach d n p) (tid : Nat) (x : TxnSt)
    (hx : p.sys.txns[tid]? = some x)
    (hret : x.phase = .active ∨ x.phase = .closing ∨ x.phase = .closed) :
    (∀ e ∈ p.sys.hist, e.ts ≤ x.t.readTs →
      e.ts ∈ p.rejected ∨ ∀ k ∈ e.conflictKeys, (k, e.ts) ∈ p.memtable) ∧
    (∀ e ∈ p.sys.hist, x.t.readTs < e.ts → ∀ k ∈ e.conflictKeys, ¬ ((k, e.ts) : Nat × Nat).2 ≤ x.t.readTs) ∧
    (∀ kv ∈ p.memtable, kv.2 ≤ x.t.readTs → ∃ e ∈ p.sys.hist, e.ts = kv.2 ∧ kv.1 ∈ e.conflictKeys ∧
      e.ts ∉ p.rejected ∧ ∀ k ∈ e.conflictKeys, (k, e.ts) ∈ p.memtable) := by
  have hI := h.inv
  have happ := C34_readTs_sees_applied hI.reach tid x hx hret
  have part1 : ∀ e ∈ p.sys.hist, e.ts ≤ x.t.readTs →
      e.ts ∈ p.rejected ∨ ∀ k ∈ e.conflictKeys, (k, e.ts) ∈ p.memtable :=
    fun e he hle => (hI.ackSub _ (happ e he hle)).symm.imp_right (hI.applied_of_signalled e he)
  refine ⟨part1, fun e _ hlt k _ => by simp only; omega, ?_⟩
  intro kv hkv hle
  obtain ⟨e, he, h1, hkey, hnr⟩ := hI.entry_hist (List.mem_append.mpr (.inl hkv))
  exact ⟨e, he, h1, hkey, hnr, (part1 e he (h1 ▸ hle)).resolve_left hnr⟩

/-- **Visible after acknowledgement.** Once `Commit` of transaction `tid` has returned (its
    committer has run `doneCommit(ts)`), `ts` is recorded as done, all its entries are in the
    memtable, and every transaction that starts from now on gets a read timestamp `≥ ts` (and, by
    `C03_atomic_visibility`, sees all of it). -/
theorem C03_acked_visible {d : Bool} {n : Nat} {p : Pipe} (h : PReach d n p) (tid ts : Nat)
    (hack : p.cph tid = .acked ts) :
    ts ∈ p.sys.doneCommits ∧ ts ≤ p.sys.o.readTsBegin.2 ∧
    ∃ e ∈ p.sys.hist, e.ts = ts ∧ ∀ k ∈ e.conflictKeys, (k, ts) ∈ p.memtable := by
  have hI := h.inv
  obtain ⟨hd, hsig⟩ := hI.acked tid ts hack
  obtain ⟨e, he, rfl⟩ := List.mem_map.mp (hI.sysInv.doneSub ts hd)
  exact ⟨hd, C03_visible_after_ack hI.reach _ hd, e, he, rfl, hI.applied_of_signalled e he hsig⟩

/-- **A commit rejected by `sendToWriteCh` leaves no trace in the pipeline and its timestamp stays
    consumed.** For every timestamp `t` handed out to a commit that was then rejected
    (`ErrBlockedWrites`, `ErrTxnTooBig`): no request with `t` is or was ever in the write channel, no
    memtable entry (applied or pending) carries version `t`; `t` is in the allocation history, has
    been reported done (readers do not wait for it) and — `C03_ts_unique_increasing` — is never
    handed out again: `t < nextTxnTs`, and `txnMark.DoneUntil() < nextTxnTs`
    (`C34_marks_below_next`), so the next commit is not considered applied before it is written. -/
theorem C03_rejected_no_trace_pipe {d : Bool} {n : Nat} {p : Pipe} (h : PReach d n p) (t : Nat)
    (ht : t ∈ p.rejected) :
    (∀ q ∈ p.enq, q.ts ≠ t) ∧ (∀ kv ∈ p.memtable ++ p.pending, kv.2 ≠ t) ∧
    t ∈ p.sys.hist.map (·.ts) ∧ t ∈ p.sys.doneCommits ∧ t < p.sys.o.nextTxnTs ∧
    p.sys.o.txnMark.doneUntil < p.sys.o.nextTxnTs := by
  have hI := h.inv
  obtain ⟨h1, h2⟩ := hI.rejHist t ht
  refine ⟨fun q hq e => (Pipe.mem_liveReqs (hI.enq_live hq)).1 (e ▸ ht), ?_, h1, h2, ?_,
    (C34_marks_below_next hI.reach).1⟩
  · intro kv hkv e
    obtain ⟨e0, -, h0, -, hnr⟩ := hI.entry_hist hkv
    exact hnr (h0 ▸ e ▸ ht)
  · obtain ⟨e, he, ee⟩ := List.mem_map.mp h1
    rw [← ee]; exact (hI.sysInv.histLt e he).2

/-- The scenario of seeded/C03-abort-commit-ts-reuse and seeded/C03d-release-commit-ts in the model:
    commit 0 is applied (ts 1), commit 1 is rejected after it got ts 2 (the timestamp stays consumed,
    `txnMark` moves to 2 only because 2 *was* handed out), commit 2 gets the fresh ts 3 and is in flight;
    a reader started now has read timestamp 3 and is parked. -/
def exRejectA : List PLabel :=
  [.sys .procTxnMark, .sys (.begin true), .sys (.waitCheck 0), .sys (.write 0 1), .lock 0, .stamp 0,
   .enqueue 0, .unlock 0, .dequeue 1, .put, .signal, .ack 0]
def exRejectB : List PLabel :=
  [.sys (.begin true), .sys .procTxnMark, .sys .procTxnMark, .sys (.waitCheck 1), .sys (.write 1 9),
   .lock 1, .stamp 1, .reject 1]
def exRejectC : List PLabel :=
  [.sys (.begin true), .sys .procTxnMark, .sys .procTxnMark, .sys (.waitCheck 2), .sys (.write 2 1),
   .lock 2, .stamp 2, .enqueue 2, .unlock 2,
   .sys (.begin false), .sys (.waitCheck 3), .sys .procTxnMark, .sys .procTxnMark]

example :
    ((Pipe.opened true 0).runLabels (exRejectA ++ exRejectB ++ exRejectC)).map
      (fun p => (p.rejected, p.sys.o.nextTxnTs, p.sys.o.txnMark.doneUntil)) = some ([2], 4, 2) ∧
    ((Pipe.opened true 0).runLabels (exRejectA ++ exRejectB ++ exRejectC)).map
      (fun p => (p.memtable, p.sys.txns.map (fun x => (x.phase, x.t.readTs)))) =
    some ([(1, 1)], [(.closed, 0), (.closed, 1), (.closed, 2), (.parked, 3)]) := by decide

/-- The oracle inside a reachable pipeline state is a reachable oracle state of normal mode: the
    theorems of `Props/C34.lean`, `Props/C02.lean`, `Props/C03.lean` that are stated over
    `OReach false d n` apply to `p.sys` (the pipeline only restricts *when* `commit`/`doneCommit`
    happen). -/
theorem C03_pipeline_sys_reachable {d : Bool} {n : Nat} {p : Pipe} (h : PReach d n p) :
    OReach false d n p.sys := h.inv.reach

/-- The memtable does pass through partially applied states: transaction 0 writes keys 1 and 2;
    after one `put` only `(1, ts 1)` is in the memtable — and a reader that starts at that moment is
    parked (its read timestamp is 1 and commit 1 is not done), exactly what `C03_atomic_visibility`
    relies on. -/
theorem C03_partial_state_exists :
    ((Pipe.opened true 0).runLabels
      [.sys .procTxnMark, .sys (.begin true), .sys (.waitCheck 0), .sys (.write 0 1), .sys (.write 0 2),
       .lock 0, .stamp 0, .enqueue 0, .unlock 0, .dequeue 1, .put,
       .sys (.begin false), .sys (.waitCheck 1), .sys .procTxnMark, .sys .procTxnMark]).map
      (fun p => (p.memtable, p.pending, p.sys.txns.map (·.phase))) =
    some ([(1, 1)], [(2, 1)], [.closed, .parked]) := by decide

/-- … and the same run completed: both entries applied, request signalled, `doneCommit`, the reader
    released with read timestamp 1. -/
example :
    ((Pipe.opened true 0).runLabels
      [.sys .procTxnMark, .sys (.begin true), .sys (.waitCheck 0), .sys (.write 0 1), .sys (.write 0 2),
       .lock 0, .stamp 0, .enqueue 0, .unlock 0, .dequeue 1, .put,
       .sys (.begin false), .sys (.waitCheck 1), .sys .procTxnMark, .sys .procTxnMark,
       .put, .signal, .ack 0, .sys .procTxnMark]).map
      (fun p => (p.memtable, p.sys.doneCommits, p.sys.txns.map (fun x => (x.phase, x.t.readTs)))) =
    some ([(1, 1), (2, 1)], [1], [(.closed, 0), (.active, 1)]) := by decide

end Badger
