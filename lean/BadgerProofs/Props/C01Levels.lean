/-!
# A point lookup that overlaps compactions misses nothing (C01 / C12, the reader–compactor protocol)

`levelsController.get` walks the levels top-down (`for _, h := range s.levels`), taking each level's
read lock only while it looks at that level; compactions run concurrently.  A compaction publishes
its output on the NEXT level (`nextLevel.replaceTables`) before it removes its input from THIS level
(`thisLevel.deleteTables`) — the regenerated fact `ord_compact_replace_delete` — and data only ever
moves downwards.

Abstractly: `occ t l` says that (a version of) the entry sits on level `l` at time `t`.
* `Alive`: at every time the entry is on some level `≤ n` (a compaction never removes the last copy:
  it adds below before it deletes above);
* `Down`: whatever level holds it at time `t+1`, the same or a shallower level held it at time `t`
  (nothing moves upwards, nothing appears from nowhere).
The reader visits level `j` at time `visit j`, with `visit` non-decreasing.  Then some visit finds
the entry.  With the compactor's two steps reversed (`Alive` fails) or a reader walking bottom-up
there are runs in which it is missed (the two witnesses at the end).
-/
namespace Badger.LevelRace

def Alive (n : Nat) (occ : Nat → Nat → Prop) : Prop := ∀ t, ∃ l, l ≤ n ∧ occ t l
def Down (occ : Nat → Nat → Prop) : Prop := ∀ t l, occ (t + 1) l → ∃ l', l' ≤ l ∧ occ t l'

theorem down_le {occ : Nat → Nat → Prop} (hd : Down occ) (t d l : Nat) (h : occ (t + d) l) :
    ∃ l', l' ≤ l ∧ occ t l' := by
  induction d generalizing l with
  | zero => exact ⟨l, Nat.le_refl _, h⟩
  | succ d ih =>
    obtain ⟨l1, h1, o1⟩ := hd (t + d) l h
    obtain ⟨l2, h2, o2⟩ := ih l1 o1
    exact ⟨l2, Nat.le_trans h2 h1, o2⟩

end Badger.LevelRace

namespace Badger
open LevelRace

/-- **The level scan of the code finds the entry**: levels visited in increasing order at
    non-decreasing times, under any interleaving of compactions that add below before they delete
    above and only move data down. -/
theorem C01_levelscan_finds (n : Nat) (occ : Nat → Nat → Prop) (visit : Nat → Nat)
    (ha : Alive n occ) (hd : Down occ) (hmono : ∀ j, visit j ≤ visit (j + 1)) :
    ∃ j, j ≤ n ∧ occ (visit j) j := by
  -- otherwise the shallowest occupied level stays strictly ahead of the reader, down to level n
  refine Classical.byContradiction fun hno => ?_
  have hno' : ∀ j, j ≤ n → ¬ occ (visit j) j := fun j hj h => hno ⟨j, hj, h⟩
  have ahead : ∀ j, j ≤ n → ∀ l, occ (visit j) l → j < l := by
    intro j
    induction j with
    | zero => exact fun _ l hl => Nat.pos_of_ne_zero fun h => hno' 0 (Nat.zero_le _) (h ▸ hl)
    | succ j ih =>
      intro hj l hl
      obtain ⟨d, hd'⟩ : ∃ d, visit (j + 1) = visit j + d :=
        ⟨_, (Nat.add_sub_cancel' (hmono j)).symm⟩
      obtain ⟨l', hl', ol'⟩ := down_le hd (visit j) d l (hd' ▸ hl)
      have := ih (by omega) l' ol'
      have hne : l ≠ j + 1 := fun he => hno' (j + 1) hj (he ▸ hl)
      omega
  obtain ⟨l, hl, ol⟩ := ha (visit n)
  have := ahead n (Nat.le_refl _) l ol
  omega

/-- reader walking BOTTOM-UP (deepest level first): an entry that moves from level 0 to level 1
    between the two visits is seen on neither — although the compactor behaves (`Alive`, `Down`). -/
theorem C01_levelscan_bottom_up_misses :
    ∃ (occ : Nat → Nat → Prop) (visit : Nat → Nat), Alive 1 occ ∧ Down occ ∧
      -- level 1 visited at time 0, level 0 visited at time 2
      visit 1 = 0 ∧ visit 0 = 2 ∧ ¬ occ (visit 1) 1 ∧ ¬ occ (visit 0) 0 := by
  -- time 0: on level 0; time 1: on both (added below); time ≥ 2: on level 1 only
  refine ⟨fun t l => (l = 0 ∧ t ≤ 1) ∨ (l = 1 ∧ 1 ≤ t), fun j => if j = 1 then 0 else 2,
    fun t => ?_, fun t l h => ?_, rfl, rfl, by simp, by simp⟩
  · by_cases ht : t ≤ 1
    · exact ⟨0, Nat.zero_le _, .inl ⟨rfl, ht⟩⟩
    · exact ⟨1, Nat.le_refl _, .inr ⟨rfl, by omega⟩⟩
  · by_cases ht : t = 0
    · exact ⟨0, Nat.zero_le _, .inl ⟨rfl, by omega⟩⟩
    · exact ⟨1, by omega, .inr ⟨rfl, by omega⟩⟩

/-- `Alive` cannot be dropped. The witness is what the first step of a compactor with its two steps
    REVERSED leaves (input deleted, output not published; it stays unpublished, since `Down` lets
    nothing reappear): the entry is on no level when the top-down reader of the code visits. -/
theorem C01_levelscan_delete_first_misses :
    ∃ (occ : Nat → Nat → Prop) (visit : Nat → Nat), Down occ ∧ (∀ j, visit j ≤ visit (j + 1)) ∧
      occ 0 0 ∧ ¬ ∃ j, j ≤ 1 ∧ occ (visit j) j := by
  -- time 0: level 0; afterwards nowhere (`Down` lets nothing reappear).  Both visits at time 1.
  refine ⟨fun t l => t = 0 ∧ l = 0, fun _ => 1, fun t l h => absurd h.1 (Nat.succ_ne_zero t),
    fun _ => Nat.le_refl _, ⟨rfl, rfl⟩, ?_⟩
  rintro ⟨j, _, h, _⟩
  exact Nat.one_ne_zero h

end Badger
