import BadgerProofs.Props.C27
import BadgerProofs.Props.C27Hist
/-!
# C27, normal mode, in user terms

For a batch of `Set` / `SetEntry` / `Delete` operations on a normal-mode database (commit
timestamps `ts0, ts0+1, …` above every stored version), however the batch was split into
internal transactions: a read at any timestamp `≥ ts0 + ops.length` (at or above the batch's last commit
timestamp: there is at most one internal transaction per operation) returns, for
every key the batch touched, the **last operation issued on that key** (`C27_normal_latest`),
and is unchanged for every other key (`C27_normal_untouched`).
-/
namespace Badger

theorem newestLE_eq_find?_of_ver_desc {R : List Ent} (hp : R.Pairwise (fun a b => b.ver ≤ a.ver))
    {ts : Nat} (hts : ∀ e ∈ R, e.ver ≤ ts) (k : Bytes) :
    newestLE R k ts = R.find? (·.key == k) := by
  induction R with
  | nil => rfl
  | cons x xs ih =>
    rw [List.pairwise_cons] at hp
    rw [newestLE_cons, List.find?_cons, ih hp.2 (fun e he => hts e (List.mem_cons_of_mem _ he))]
    by_cases hk : x.key = k
    · rw [beq_iff_eq.mpr hk, cand_pos hk (hts x List.mem_cons_self)]
      cases hf : xs.find? (·.key == k) with
      | none => rfl
      | some y => exact pick_absorb (hp.1 y (List.mem_of_find?_eq_some hf))
    · rw [beq_eq_false_iff_ne.mpr hk, cand_neg (fun hc => hk hc.1), pick_none_left]

/-- the issued stream, one internal transaction at a time: a non-empty one takes the next timestamp -/
theorem batchIssued_cons (ts0 : Nat) (ops : List Ent) (rest : List (List Ent)) :
    batchIssued (assignTs false ts0 (ops :: rest)) =
      ops.map (Ent.atTs ts0) ++ batchIssued (assignTs false (if ops.isEmpty then ts0 else ts0 + 1) rest) := by
  cases h : ops.isEmpty <;> simp [assignTs, batchIssued, Seg.issued, h]

theorem strip_atTs {e : Ent} (h : e.ver = 0) (ts : Nat) : ({ e.atTs ts with ver := 0 } : Ent) = e := by
  cases e
  cases h
  rfl

theorem issued_spec (ts0 : Nat) (l : List (List Ent)) (h0 : ∀ seg ∈ l, ∀ e ∈ seg, e.ver = 0) :
    (batchIssued (assignTs false ts0 l)).map (fun e => { e with ver := 0 }) = l.flatten ∧
    (∀ e ∈ batchIssued (assignTs false ts0 l), ts0 ≤ e.ver ∧ e.ver ≤ ts0 + l.flatten.length) ∧
    (batchIssued (assignTs false ts0 l)).Pairwise (fun a b => a.ver ≤ b.ver) := by
  induction l generalizing ts0 with
  | nil => exact ⟨rfl, nofun, List.Pairwise.nil⟩
  | cons ops rest ih =>
    rw [batchIssued_cons, List.flatten_cons, List.length_append]
    obtain ⟨h1, h2, h3⟩ := ih (if ops.isEmpty then ts0 else ts0 + 1) (fun s hs => h0 s (List.mem_cons_of_mem _ hs))
    have hiss : ∀ e ∈ ops.map (Ent.atTs ts0), e.ver = ts0 := by
      intro e he
      obtain ⟨x, hx, rfl⟩ := List.mem_map.mp he
      rw [atTs_ver, h0 ops List.mem_cons_self x hx]
      rfl
    have hnext : ts0 ≤ (if ops.isEmpty then ts0 else ts0 + 1) ∧
        (if ops.isEmpty then ts0 else ts0 + 1) ≤ ts0 + ops.length := by
      cases ops with
      | nil => exact ⟨Nat.le_refl _, Nat.le_refl _⟩
      | cons _ _ => exact ⟨Nat.le_succ _, Nat.add_le_add_left (Nat.succ_pos _) ts0⟩
    refine ⟨?_, fun e he => ?_, ?_⟩
    · have hs : ∀ e ∈ ops, ((fun e : Ent => { e with ver := 0 }) ∘ Ent.atTs ts0) e = id e :=
        fun e he => strip_atTs (h0 ops List.mem_cons_self e he) ts0
      rw [List.map_append, h1, List.map_map, List.map_congr_left hs, List.map_id]
    · rcases List.mem_append.mp he with he | he
      · rw [hiss e he]
        exact ⟨Nat.le_refl _, Nat.le_add_right _ _⟩
      · have := h2 e he
        omega
    · rw [List.pairwise_append]
      refine ⟨List.pairwise_of_forall_mem_list fun a ha b hb => ?_, h3, fun a ha b hb => ?_⟩
      · rw [hiss a ha, hiss b hb]
        exact Nat.le_refl _
      · rw [hiss a ha]
        exact Nat.le_trans hnext.1 (h2 b hb).1

theorem normal_issued (ts0 : Nat) (full : Nat → Bool) {ops : List Ent} (h0 : ∀ e ∈ ops, e.ver = 0) :
    (batchIssued (assignTs false ts0 (segments full 0 [] ops))).map (fun e => { e with ver := 0 }) = ops ∧
    (∀ e ∈ batchIssued (assignTs false ts0 (segments full 0 [] ops)), ts0 ≤ e.ver ∧ e.ver ≤ ts0 + ops.length) ∧
    (batchIssued (assignTs false ts0 (segments full 0 [] ops))).Pairwise (fun a b => a.ver ≤ b.ver) := by
  have := issued_spec ts0 _ (segments_ver_zero full h0)
  rwa [C27_segments_flatten full 0 [] ops] at this

/-- **normal mode, touched keys**: a read at a timestamp `≥ ts0 + ops.length` (so at or above the batch's last
    commit timestamp) returns
    the last operation issued on the key, at a version `≥ ts0` (its internal transaction's
    commit timestamp) — for every operation sequence and every split oracle. -/
theorem C27_normal_latest (ts0 : Nat) (full : Nat → Bool) (ops mem : List Ent)
    (h0 : ∀ e ∈ ops, e.ver = 0) (hm : ∀ x ∈ mem, x.ver < ts0) (k : Bytes) (ts : Nat)
    (hts : ts0 + ops.length ≤ ts) (e : Ent) (hl : lastOn ops k = some e) :
    ∃ v, ts0 ≤ v ∧ newestLE (batchRun false ts0 full ops mem) k ts = some { e with ver := v } := by
  rw [C27_last_wins_all_splits false ts0 full ops mem k ts, newestLE_applyWrites, newestLE_append]
  obtain ⟨hstrip, hv, hp⟩ := normal_issued ts0 full h0
  generalize batchIssued (assignTs false ts0 (segments full 0 [] ops)) = L at hstrip hv hp
  -- all versions are `≤ ts` and the latest come first in `L.reverse`: the read is the first entry of the key
  rw [newestLE_eq_find?_of_ver_desc (List.pairwise_reverse.mpr hp)
    (fun x hx => Nat.le_trans (hv x (List.mem_reverse.mp hx)).2 hts) k]
  obtain ⟨e', hf, hee⟩ : ∃ e', L.reverse.find? (·.key == k) = some e' ∧ ({ e' with ver := 0 } : Ent) = e := by
    apply Option.map_eq_some_iff.mp
    rw [← hl, ← hstrip, lastOn, ← List.map_reverse, List.find?_map]
    rfl
  have hge : ts0 ≤ e'.ver := (hv e' (List.mem_reverse.mp (List.mem_of_find?_eq_some hf))).1
  refine ⟨e'.ver, hge, ?_⟩
  rw [hf, ← hee]
  cases hmm : newestLE mem k ts with
  | none => rfl
  | some m => exact pick_absorb (Nat.le_trans (Nat.le_of_lt (hm m (newestLE_some_mem hmm).1)) hge)

/-- **normal mode, untouched keys** read as before the batch -/
theorem C27_normal_untouched (ts0 : Nat) (full : Nat → Bool) (ops mem : List Ent)
    (h0 : ∀ e ∈ ops, e.ver = 0) (k : Bytes) (ts : Nat) (hl : ∀ e ∈ ops, e.key ≠ k) :
    newestLE (batchRun false ts0 full ops mem) k ts = newestLE mem k ts := by
  rw [C27_last_wins_all_splits false ts0 full ops mem k ts, newestLE_applyWrites, newestLE_append,
    newestLE_eq_none_iff.mpr, pick_none_left]
  intro x hx hc
  have : ({ x with ver := 0 } : Ent) ∈ ops := by
    rw [← (normal_issued ts0 full h0).1]
    exact List.mem_map_of_mem (f := fun e => ({ e with ver := 0 } : Ent)) (List.mem_reverse.mp hx)
  exact hl _ this hc.1

-- non-vacuity: three operations on two keys, split after the first one
example : ∃ v, 7 ≤ v ∧ newestLE (batchRun false 7 (fun i => i == 1) [
      { key := [1], ver := 0, emeta := 0, umeta := 0, exp := 0, val := [10] },
      { key := [2], ver := 0, emeta := 0, umeta := 0, exp := 0, val := [20] },
      { key := [1], ver := 0, emeta := 0, umeta := 0, exp := 0, val := [11] }]
      [{ key := [1], ver := 3, emeta := 0, umeta := 0, exp := 0, val := [9] }]) [1] 100
    = some { key := [1], ver := v, emeta := 0, umeta := 0, exp := 0, val := [11] } :=
  ⟨8, by decide, by decide⟩

end Badger
