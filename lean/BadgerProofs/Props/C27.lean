import BadgerProofs.Lemmas.Sorted
import BadgerProofs.Lemmas.Buf
/-!
# C27 — WriteBatch applies every operation, later operations winning

Buffer core of `BadgerModel/Batch.lean` (`Buf.add` = the tail of `Txn.modify`, `Buf.emit` = the
order of `commitAndSend`: `duplicateWrites` then `pendingWrites`, since badger commit 2dbbdab).

Reads are `newestLE` (the newest version `≤ ts` of a key); the memtable after a write stream `ws`
serves exactly the reads of `ws.reverse ++ mem` (`newestLE_applyWrites`: the last write of a
`(key, version)` wins), so "the database reflects the fold of the issued operations, last one
per (key, version) winning" is `newestLE (applyWrites mem emitted) = newestLE (applyWrites mem issued)`.
`lw l` is the read of a write stream `l` on its own; two streams with the same `lw` leave memtables
that read alike (`applyWrites_read_congr`), so every theorem below is an equation between `lw`s.

The one real step is `Buf.add_read` (one `Txn.modify`: the new operation is read first, then what the
buffer meant before); `C27_spec_read` iterates it from any buffer, `C27_buf_last_wins` is the empty
buffer in emission order, and segments, batches and split oracles follow by congruence
(`batch_read_congr`). The finalisation of the entries at commit is a variable (`Resolves`).

The `C27_old_order_*` theorems are about the order before commit 2dbbdab (`Buf.emitOld`: pending
first — finding F8): for `Buf.emitOld` the statement is false, and holds under `Buf.NoClash`.
-/
namespace Badger

/-- Found once for the keys of this property: instance search for the lawfulness of `==` on
    `List UInt8` goes through the order-based instances first and is slow. -/
instance lawfulBEqKey : LawfulBEq Bytes := inferInstance

theorem newestLE_applyWrites (mem ws : List Ent) (k : Bytes) (ts : Nat) :
    newestLE (applyWrites mem ws) k ts = newestLE (ws.reverse ++ mem) k ts :=
  newestLE_foldl_memPut mem ws k ts

/-- read of a write stream, the last write winning -/
def lw (l : List Ent) (k : Bytes) (ts : Nat) : Option Ent := newestLE l.reverse k ts

theorem lw_nil (k : Bytes) (ts : Nat) : lw [] k ts = none := rfl

theorem lw_append (a b : List Ent) (k : Bytes) (ts : Nat) :
    lw (a ++ b) k ts = pick (lw b k ts) (lw a k ts) := by
  unfold lw; rw [List.reverse_append, newestLE_append]

theorem lw_singleton (e : Ent) (k : Bytes) (ts : Nat) : lw [e] k ts = cand k ts e := by
  unfold lw; rw [List.reverse_singleton, newestLE_cons, newestLE_nil, pick_none_right]

theorem lw_cons (e : Ent) (l : List Ent) (k : Bytes) (ts : Nat) :
    lw (e :: l) k ts = pick (lw l k ts) (cand k ts e) := by
  have : e :: l = [e] ++ l := rfl
  rw [this, lw_append, lw_singleton]

theorem lw_eq_none {l : List Ent} {k : Bytes} {ts : Nat} (h : ∀ x ∈ l, x.key ≠ k) : lw l k ts = none := by
  unfold lw; rw [newestLE_eq_none_iff]
  intro x hx hc
  exact h x (List.mem_reverse.mp hx) hc.1

theorem lw_some_mem {l : List Ent} {k : Bytes} {ts : Nat} {e : Ent} (h : lw l k ts = some e) :
    e ∈ l ∧ e.key = k ∧ e.ver ≤ ts := by
  obtain ⟨h1, h2⟩ := newestLE_some_mem h
  exact ⟨List.mem_reverse.mp h1, h2⟩

theorem lw_filter {l : List Ent} {k : Bytes} {ts : Nat} (q : Ent → Bool)
    (h : ∀ x ∈ l, x.key = k → q x = true) : lw (l.filter q) k ts = lw l k ts := by
  -- the candidates of the read are the same
  refine newestLE_congr_filter k ts ?_
  rw [← List.filter_reverse, List.filter_filter]
  refine List.filter_congr fun x hx => ?_
  by_cases hc : x.key = k ∧ x.ver ≤ ts
  · rw [h x (List.mem_reverse.mp hx) hc.1, Bool.and_true]
  · rw [decide_eq_false hc, Bool.false_and]

theorem lw_flatten_congr {α : Type} (f g : α → List Ent) (l : List α) (k : Bytes) (ts : Nat)
    (h : ∀ x ∈ l, lw (f x) k ts = lw (g x) k ts) :
    lw (l.map f).flatten k ts = lw (l.map g).flatten k ts := by
  induction l with
  | nil => rfl
  | cons x xs ih =>
    simp only [List.map_cons, List.flatten_cons, lw_append]
    rw [h x List.mem_cons_self, ih (fun y hy => h y (List.mem_cons_of_mem _ hy))]

@[simp] theorem atTs_key (cts : Nat) (e : Ent) : (e.atTs cts).key = e.key := rfl
@[simp] theorem atTs_ver (cts : Nat) (e : Ent) : (e.atTs cts).ver = effVer cts e.ver := rfl

theorem Buf.addAll_keysDistinct {b : Buf} (h : b.KeysDistinct) (es : List Ent) :
    (b.addAll es).KeysDistinct := by
  induction es generalizing b with
  | nil => exact h
  | cons e es ih => exact ih (Buf.add_keysDistinct h e)

theorem Buf.empty_keysDistinct : ({} : Buf).KeysDistinct := List.Pairwise.nil

/-- `g` is a finalisation of the entries of a transaction committing at `cts`: it keeps the key
    and resolves the version as `setVersion` does (it may change meta bits: `bitTxn`,
    `bitValuePointer`). `Ent.atTs cts` and `finEnt d keep cts` (Lemmas/Txn.lean) are instances. -/
structure Resolves (cts : Nat) (g : Ent → Ent) : Prop where
  key : ∀ e, (g e).key = e.key
  ver : ∀ e, (g e).ver = effVer cts e.ver

theorem atTs_resolves (cts : Nat) : Resolves cts (Ent.atTs cts) := ⟨fun _ => rfl, fun _ => rfl⟩

theorem Resolves.cand_none {cts : Nat} {g : Ent → Ent} (hg : Resolves cts g) {x : Ent} {k : Bytes}
    (hk : x.key ≠ k) (ts : Nat) : cand k ts (g x) = none :=
  cand_neg fun hc => hk ((hg.key x).symm.trans hc.1)

theorem lw_map_eq_none {cts : Nat} {g : Ent → Ent} (hg : Resolves cts g) {l : List Ent} {k : Bytes}
    (h : ∀ x ∈ l, x.key ≠ k) (ts : Nat) : lw (l.map g) k ts = none := by
  apply lw_eq_none
  intro y hy
  obtain ⟨z, hz, rfl⟩ := List.mem_map.mp hy
  rw [hg.key]
  exact h z hz

theorem lw_pending_eq_find {cts : Nat} {g : Ent → Ent} (hg : Resolves cts g) {l : List Ent}
    (h : l.Pairwise (fun x y => x.key ≠ y.key)) (k : Bytes) (ts : Nat) :
    lw (l.map g) k ts = (l.find? (·.key == k)).bind fun o => cand k ts (g o) := by
  induction l with
  | nil => rfl
  | cons x xs ih =>
    rw [List.pairwise_cons] at h
    rw [List.map_cons, lw_cons, List.find?_cons]
    by_cases hk : x.key = k
    · rw [beq_iff_eq.mpr hk, lw_map_eq_none hg (fun z hz hzk => h.1 z hz (hk.trans hzk.symm)), pick_none_left]
      rfl
    · rw [beq_eq_false_iff_ne.mpr hk, ih h.2, hg.cand_none hk, pick_none_right]

theorem pick_cand_same {k : Bytes} {ts : Nat} {x y : Ent} (hk : y.key = x.key) (hv : y.ver = x.ver) :
    pick (cand k ts x) (cand k ts y) = cand k ts x := by
  unfold cand
  rw [hk, hv]
  by_cases hc : x.key = k ∧ x.ver ≤ ts
  · rw [if_pos hc, if_pos hc]
    exact pick_absorb (Nat.le_of_eq hv)
  · rw [if_neg hc, if_neg hc]
    rfl

/-- one `Txn.modify`: the new operation is read first, then what the buffer meant before -/
theorem Buf.add_read {cts : Nat} {g : Ent → Ent} (hg : Resolves cts g) (b : Buf) (hb : b.KeysDistinct)
    (e : Ent) (k : Bytes) (ts : Nat) :
    pick (lw ((b.add e).pending.map g) k ts) (lw ((b.add e).dups.map g) k ts) =
      pick (cand k ts (g e)) (pick (lw (b.pending.map g) k ts) (lw (b.dups.map g) k ts)) := by
  rw [lw_pending_eq_find hg (Buf.add_keysDistinct hb e), lw_pending_eq_find hg hb, Buf.add_pending_find,
    Buf.add_dups, List.map_append, lw_append]
  by_cases hk : e.key = k
  · subst hk
    rw [beq_self_eq_true, if_pos rfl, Option.bind_some]
    cases hold : b.pending.find? (·.key == e.key) with
    | none => rfl
    | some o =>
      have hok : o.key = e.key := key_of_find? Ent.key hold
      by_cases hv : o.ver = e.ver
      · -- same version: `o` is dropped, and `e` would have hidden it anyway
        rw [Option.filter_some, if_neg (fun h => bne_iff_ne.mp h hv), Option.bind_some,
          ← pick_assoc _ (cand _ _ (g o)),
          pick_cand_same ((hg.key o).trans (hok.trans (hg.key e).symm)) (by rw [hg.ver, hg.ver, hv])]
        rfl
      · rw [Option.filter_some, if_pos (bne_iff_ne.mpr hv), Option.bind_some]
        exact congrArg _ (congrArg (pick · _) (lw_singleton _ _ _))
  · -- another key sees neither `e` nor the entry `e` replaced
    rw [beq_eq_false_iff_ne.mpr hk, if_neg Bool.false_ne_true, hg.cand_none hk, pick_none_left, lw_map_eq_none hg,
      pick_none_left]
    intro x hx
    obtain ⟨hx, -⟩ := Option.filter_eq_some_iff.mp (Option.mem_toList.mp hx)
    exact fun hxk => hk ((key_of_find? Ent.key hx).symm.trans hxk)

/-- **the meaning of one internal transaction** (no side condition): the issued operations read
    as "the `pendingWrites` entry first, then `duplicateWrites` latest first". -/
theorem C27_spec_read {cts : Nat} {g : Ent → Ent} (hg : Resolves cts g) (b : Buf) (hb : b.KeysDistinct)
    (es : List Ent) (k : Bytes) (ts : Nat) :
    pick (lw ((b.addAll es).pending.map g) k ts) (lw ((b.addAll es).dups.map g) k ts) =
      pick (lw (es.map g) k ts) (pick (lw (b.pending.map g) k ts) (lw (b.dups.map g) k ts)) := by
  induction es generalizing b with
  | nil => simp [Buf.addAll, lw_nil]
  | cons e es ih =>
    show pick (lw (((b.add e).addAll es).pending.map _) k ts) (lw (((b.add e).addAll es).dups.map _) k ts) = _
    rw [ih (b.add e) (Buf.add_keysDistinct hb e), Buf.add_read hg b hb, List.map_cons, lw_cons, pick_assoc]

theorem buf_spec_read {cts : Nat} {g : Ent → Ent} (hg : Resolves cts g) (ops : List Ent) (k : Bytes) (ts : Nat) :
    pick (lw ((Buf.addAll {} ops).pending.map g) k ts) (lw ((Buf.addAll {} ops).dups.map g) k ts) =
      lw (ops.map g) k ts := by
  rw [C27_spec_read hg {} Buf.empty_keysDistinct ops k ts]
  simp [lw_nil]

/-- **one internal transaction** (the order of `commitAndSend`: `duplicateWrites`, then
    `pendingWrites`): what it sends to the write channel reads exactly like the operations it
    received, applied one by one in issue order — no side condition. -/
theorem C27_buf_last_wins {cts : Nat} {g : Ent → Ent} (hg : Resolves cts g) (ops : List Ent) (k : Bytes) (ts : Nat) :
    lw ((Buf.addAll {} ops).emit.map g) k ts = lw (ops.map g) k ts := by
  unfold Buf.emit
  rw [List.map_append, lw_append, buf_spec_read hg]

/-- the order before commit 2dbbdab (`pendingWrites` first) wrote what was issued when no
    duplicate collided with the pending entry of its key (historical). -/
theorem C27_old_order_buf {cts : Nat} {g : Ent → Ent} (hg : Resolves cts g) (ops : List Ent)
    (h : (Buf.addAll {} ops).NoClash cts) (k : Bytes) (ts : Nat) :
    lw ((Buf.addAll {} ops).emitOld.map g) k ts = lw (ops.map g) k ts := by
  unfold Buf.emitOld
  rw [List.map_append, lw_append, ← buf_spec_read hg ops k ts]
  cases hD : lw ((Buf.addAll {} ops).dups.map g) k ts with
  | none => simp
  | some d' =>
    cases hP : lw ((Buf.addAll {} ops).pending.map g) k ts with
    | none => simp
    | some p' =>
      obtain ⟨hdm, hdk, _⟩ := lw_some_mem hD
      obtain ⟨hpm, hpk, _⟩ := lw_some_mem hP
      obtain ⟨d, hd, rfl⟩ := List.mem_map.mp hdm
      obtain ⟨p, hp, rfl⟩ := List.mem_map.mp hpm
      apply pick_comm_of_ver_ne
      rw [hg.ver, hg.ver]
      exact h d hd p hp ((hg.key d).symm.trans (hdk.trans (hpk.symm.trans (hg.key p))))

theorem C27_segment_last_wins (s : Seg) (k : Bytes) (ts : Nat) :
    lw s.emitted k ts = lw s.issued k ts :=
  C27_buf_last_wins (atTs_resolves s.cts) s.ops k ts

theorem C27_old_order_segment (s : Seg) (h : s.NoClash) (k : Bytes) (ts : Nat) :
    lw s.emittedOld k ts = lw s.issued k ts :=
  C27_old_order_buf (atTs_resolves s.cts) s.ops h k ts

theorem applyWrites_read_congr {a b : List Ent} {k : Bytes} {ts : Nat} (h : lw a k ts = lw b k ts)
    (mem : List Ent) : newestLE (applyWrites mem a) k ts = newestLE (applyWrites mem b) k ts := by
  rw [newestLE_applyWrites, newestLE_applyWrites, newestLE_append, newestLE_append]
  exact congrArg (pick · _) h

theorem batch_read_congr (f g : Seg → List Ent) (segs : List Seg) (mem : List Ent) (k : Bytes) (ts : Nat)
    (h : ∀ s ∈ segs, lw (f s) k ts = lw (g s) k ts) :
    newestLE (applyWrites mem (segs.map f).flatten) k ts = newestLE (applyWrites mem (segs.map g).flatten) k ts :=
  applyWrites_read_congr (lw_flatten_congr f g segs k ts h) mem

/-- **C27**: whatever the cut of the batch into internal transactions (split points, commit
    timestamps), whatever the operations (explicit versions or not, repeated (key, version)
    pairs in any pattern), every read of the memtable after the batch equals the read after
    applying the issued operations one by one in issue order: the last operation on a
    (key, version) wins. -/
theorem C27_last_wins (segs : List Seg) (mem : List Ent) (k : Bytes) (ts : Nat) :
    newestLE (applyWrites mem (batchEmitted segs)) k ts = newestLE (applyWrites mem (batchIssued segs)) k ts :=
  batch_read_congr Seg.emitted Seg.issued segs mem k ts (fun s _ => C27_segment_last_wins s k ts)

/-- the batch against a split oracle (`full i`: the i-th operation found the transaction full) -/
def C27_statement (managed : Bool) : Prop :=
  ∀ (ts0 : Nat) (full : Nat → Bool) (ops mem : List Ent) (k : Bytes) (ts : Nat),
    newestLE (batchRun managed ts0 full ops mem) k ts =
      newestLE (applyWrites mem (batchIssued (assignTs managed ts0 (segments full 0 [] ops)))) k ts

/-- **C27, all operation sequences, all split oracles**, normal mode (`managed = false`: Set,
    SetEntry, Delete and also DeleteAt) and managed mode (`NewWriteBatchAt`,
    `NewManagedWriteBatch`: SetEntryAt, DeleteAt, …): no side condition. -/
theorem C27_last_wins_all_splits (managed : Bool) : C27_statement managed :=
  fun _ _ _ mem k ts => C27_last_wins _ mem k ts

/-- the segmentation loses nothing and keeps the issue order -/
theorem C27_segments_flatten (full : Nat → Bool) (i : Nat) (cur ops : List Ent) :
    (segments full i cur ops).flatten = cur ++ ops := by
  fun_induction segments full i cur ops with
  | case1 => simp -- no operation left
  | case2 i cur e es h ih => rw [List.flatten_cons, ih]; simp -- `e` opens a new internal transaction
  | case3 i cur e es h ih => rw [ih]; simp -- `e` joins the current one

theorem assignTs_ops (managed : Bool) (ts0 : Nat) (l : List (List Ent)) :
    (assignTs managed ts0 l).map Seg.ops = l := by
  -- in each of the three branches the head segment carries the head list as its `ops`
  fun_induction assignTs managed ts0 l <;> simp_all

theorem segments_ver_zero (full : Nat → Bool) {ops : List Ent} (h0 : ∀ e ∈ ops, e.ver = 0) :
    ∀ seg ∈ segments full 0 [] ops, ∀ x ∈ seg, x.ver = 0 := by
  intro seg hs x hx
  have hm : x ∈ (segments full 0 [] ops).flatten := List.mem_flatten.mpr ⟨seg, hs, hx⟩
  rw [C27_segments_flatten] at hm
  exact h0 x hm

/-- operations without explicit versions stay so in every internal transaction -/
theorem C27_normal_side (ts0 : Nat) (full : Nat → Bool) (ops : List Ent) (h0 : ∀ e ∈ ops, e.ver = 0) :
    ∀ s ∈ assignTs false ts0 (segments full 0 [] ops), ∀ e ∈ s.ops, e.ver = 0 := by
  intro s hs
  have hm : s.ops ∈ (assignTs false ts0 (segments full 0 [] ops)).map Seg.ops := List.mem_map_of_mem hs
  rw [assignTs_ops] at hm
  exact segments_ver_zero full h0 s.ops hm

theorem C27_old_order_last_wins (segs : List Seg) (h : ∀ s ∈ segs, s.NoClash) (mem : List Ent) (k : Bytes) (ts : Nat) :
    newestLE (applyWrites mem (batchEmittedOld segs)) k ts = newestLE (applyWrites mem (batchIssued segs)) k ts :=
  batch_read_congr Seg.emittedOld Seg.issued segs mem k ts (fun s hs => C27_old_order_segment s (h s hs) k ts)

def C27_oldStatement (managed : Bool) (side : List Seg → Prop) : Prop :=
  ∀ (ts0 : Nat) (full : Nat → Bool) (ops mem : List Ent) (k : Bytes) (ts : Nat),
    side (assignTs managed ts0 (segments full 0 [] ops)) →
    newestLE (batchRunOld managed ts0 full ops mem) k ts =
      newestLE (applyWrites mem (batchIssued (assignTs managed ts0 (segments full 0 [] ops)))) k ts

/-- the old order was right under the side condition `Seg.NoClash`
    (`C27_noClash_iff_history` in C27Hist.lean spells it out on the operation history) -/
theorem C27_old_order_last_wins_side (managed : Bool) :
    C27_oldStatement managed (fun segs => ∀ s ∈ segs, s.NoClash) :=
  fun _ _ _ mem k ts h => C27_old_order_last_wins _ h mem k ts

theorem addAll_no_dups {b : Buf} {es : List Ent} (hb : ∀ p ∈ b.pending, p.ver = 0) (hd : b.dups = [])
    (he : ∀ e ∈ es, e.ver = 0) : (b.addAll es).dups = [] := by
  induction es generalizing b with
  | nil => exact hd
  | cons e es ih =>
    obtain ⟨hb', hd'⟩ := Buf.add_plain hb hd (he e List.mem_cons_self)
    exact ih hb' hd' (fun x hx => he x (List.mem_cons_of_mem _ hx))

/-- without explicit versions `duplicateWrites` stays empty: the old order was right there too -/
theorem C27_old_order_last_wins_normal :
    C27_oldStatement false (fun segs => ∀ s ∈ segs, ∀ e ∈ s.ops, e.ver = 0) := by
  intro ts0 full ops mem k ts h
  apply C27_old_order_last_wins
  intro s hs
  unfold Seg.NoClash Buf.NoClash
  rw [addAll_no_dups (b := {}) (by simp) rfl (h s hs)]
  simp

def f8Key : Bytes := [0x6b]
/-- `SetEntryAt(k,"v1",5); SetEntryAt(k,"v2",7); SetEntryAt(k,"v3",5)` -/
def f8Ops : List Ent :=
  [ { key := f8Key, ver := 5, emeta := 0, umeta := 0, exp := 0, val := [0x76, 0x31] },
    { key := f8Key, ver := 7, emeta := 0, umeta := 0, exp := 0, val := [0x76, 0x32] },
    { key := f8Key, ver := 5, emeta := 0, umeta := 0, exp := 0, val := [0x76, 0x33] } ]

/-- today the read at version 5 returns the last write ("v3") … -/
example : (newestLE (batchRun true 0 (fun _ => false) f8Ops []) f8Key 5).map (·.val) = some [0x76, 0x33] := by decide
/-- … with the old order it returned the FIRST write ("v1") -/
example : (newestLE (batchRunOld true 0 (fun _ => false) f8Ops []) f8Key 5).map (·.val) = some [0x76, 0x31] := by decide
example : (newestLE (applyWrites [] (batchIssued (assignTs true 0 (segments (fun _ => false) 0 [] f8Ops)))) f8Key 5).map (·.val)
    = some [0x76, 0x33] := by decide

/-- finding F8 (fixed by commit 2dbbdab): with `pendingWrites` emitted first the statement is
    false without the side condition. -/
theorem C27_old_order_counterexample : ¬ C27_oldStatement true (fun _ => True) := by
  intro h
  have := h 0 (fun _ => false) f8Ops [] f8Key 5 trivial
  revert this
  decide

/-- the same mechanism in a normal batch, through `DeleteAt` (which has no mode check):
    `Set(k,"v1"); DeleteAt(k,9); Set(k,"v3")` — with the old order the commit version of `k` read "v1". -/
def f8NormalOps : List Ent :=
  [ { key := f8Key, ver := 0, emeta := 0, umeta := 0, exp := 0, val := [0x76, 0x31] },
    delEnt f8Key 9,
    { key := f8Key, ver := 0, emeta := 0, umeta := 0, exp := 0, val := [0x76, 0x33] } ]

theorem C27_old_order_deleteAt_counterexample : ¬ C27_oldStatement false (fun _ => True) := by
  intro h
  have := h 1 (fun _ => false) f8NormalOps [] f8Key 1 trivial
  revert this
  decide

example : (newestLE (batchRun false 1 (fun _ => false) f8NormalOps []) f8Key 1).map (·.val) = some [0x76, 0x33] := by decide

-- `Seg.NoClash` is satisfiable and not trivial: A-B-A-C (the repeated version is not the key's last
-- one) cut into two internal transactions satisfies it, A-B-A does not
example : ∀ s ∈ assignTs true 4 (segments (fun i => i == 2) 0 []
    (f8Ops ++ [{ key := f8Key, ver := 9, emeta := 0, umeta := 0, exp := 0, val := [] }])), s.NoClash := by decide
example : ¬ (∀ s ∈ assignTs true 0 (segments (fun _ => false) 0 [] f8Ops), s.NoClash) := by decide

end Badger
