import BadgerProofs.Props.C05Db
/-!
# C05 composed: forward scans with `Prefix` / `Seek` and reverse scans of a read-only transaction in
any reachable state (`DbReach`, normal mode): `DbL.Tree.scan` with `DbL.seen_readonly`.
-/
namespace Badger

theorem C05_db_scan_fwd {o : Opts} {hist : List Ent} {d : Db} (hm : o.managed = false)
    (r : DbReach o hist d) {id : Nat} {t : TxnM} (hf : d.findTxn id = some t)
    (hupd : t.update = false) (hdisc : t.discarded = false)
    (io : IterOpts) (seek : Option Bytes) (hrev : io.reverse = false) (hall : io.allVersions = false)
    (hsince : io.sinceTs = 0) (hpk : io.prefixIsKey = false)
    (hsk : io.prefix_.isPrefixOf (seekKeyOf io seek) = true)
    (hh : io.internalAccess = true ∨ ∀ e ∈ hist, badgerPrefix.isPrefixOf e.ikey = false) :
    ∃ L, d.iterate id io seek = some L ∧
      (∀ x, x ∈ L ↔ (visible d.now (newestLE hist x.key t.readTs) = some x ∧
        cmpBytes x.key (seekKeyOf io seek) ≠ .lt ∧ io.prefix_.isPrefixOf x.key = true)) ∧
      L.Pairwise (fun a b => cmpBytes a.key b.key = .lt) := by
  obtain ⟨L, hit, hmem, hsorted⟩ := (DbL.tree_of_reach hm r).scan hf (C34_db_discard_below_open hm r hf hdisc)
    io seek hall hsince hpk hsk (hh.imp_right fun hh => ⟨hh, by simp [pendingSource, hupd]⟩)
  exact ⟨L, hit, fun x => by rw [hmem, DbL.seen_readonly hupd, seekSide, hrev]; rfl, by rw [hrev] at hsorted; exact hsorted⟩

theorem C05_db_scan_rev {o : Opts} {hist : List Ent} {d : Db} (hm : o.managed = false)
    (r : DbReach o hist d) {id : Nat} {t : TxnM} (hf : d.findTxn id = some t)
    (hupd : t.update = false) (hdisc : t.discarded = false)
    (io : IterOpts) (seek : Option Bytes) (hrev : io.reverse = true) (hall : io.allVersions = false)
    (hsince : io.sinceTs = 0) (hpk : io.prefixIsKey = false) (hpfx : io.prefix_ = [])
    (hh : io.internalAccess = true ∨ ∀ e ∈ hist, badgerPrefix.isPrefixOf e.ikey = false) :
    ∃ L, d.iterate id io seek = some L ∧
      (∀ x, x ∈ L ↔ (visible d.now (newestLE hist x.key t.readTs) = some x ∧
        ((seekKeyOf io seek).isEmpty = true ∨ cmpBytes x.key (seekKeyOf io seek) ≠ .gt))) ∧
      L.Pairwise (fun a b => cmpBytes b.key a.key = .lt) := by
  obtain ⟨L, hit, hmem, hsorted⟩ := (DbL.tree_of_reach hm r).scan hf (C34_db_discard_below_open hm r hf hdisc)
    io seek hall hsince hpk (by rw [hpfx]; rfl) (hh.imp_right fun hh => ⟨hh, by simp [pendingSource, hupd]⟩)
  refine ⟨L, hit, fun x => ?_, by rw [hrev] at hsorted; exact hsorted⟩
  rw [hmem, DbL.seen_readonly hupd, seekSide, hrev, hpfx]
  exact and_congr_right fun _ => and_iff_left rfl

end Badger
