import BadgerProofs.Lemmas.SwL
/-!
# C26 — StreamWriter builds exactly the streamed database (stream_writer.go)

`Prepare`/`PrepareIncremental` choose an empty target level, `Write` demultiplexes the KVs into one
sorted writer per stream, `Flush` cuts the writers' entries into tables, installs them on the target
level, sorts every level by `Smallest`, restarts the oracle above the largest streamed version and
validates. The theorems hold for every file-id list `ids` given to `swFlush` (ids are
identification only).
-/
namespace Badger

open SO SWL

/-- the entries of stream `sid` among the KVs written, in arrival order (done markers carry no data) -/
def projStream (kvs : List SKV) (sid : Nat) : List Ent :=
  (kvs.filter (fun kv => !kv.done && kv.sid == sid)).map (·.e)

/-- all data KVs written, in arrival order -/
def dataEnts (kvs : List SKV) : List Ent := (kvs.filter (fun kv => !kv.done)).map (·.e)

/-- the API's precondition ("The streams must not have any overlapping key ranges. Within each
    stream, the keys must be sorted."): every stream is strictly sorted by internal key, and
    two different streams occupy disjoint, ordered user-key ranges. -/
def SwInputOk (kvs : List SKV) : Prop :=
  (∀ sid, SortedEnts (projStream kvs sid)) ∧
  (∀ s1 s2, s1 ≠ s2 →
    (∀ x ∈ projStream kvs s1, ∀ y ∈ projStream kvs s2, cmpBytes x.key y.key = .lt) ∨
    (∀ x ∈ projStream kvs s1, ∀ y ∈ projStream kvs s2, cmpBytes y.key x.key = .lt))

/-- the C14 invariant of one level (same shape as `LevelOk` of `Lemmas/LsmInv.lean`): tables
    non-empty and strictly sorted; on levels `≥ 1` ordered and disjoint by USER key. -/
def SwLevelOk (i : Nat) (tbls : List Tbl) : Prop :=
  (∀ t ∈ tbls, t.ents ≠ [] ∧ SortedEnts t.ents) ∧
  (1 ≤ i → tbls.Pairwise (fun a b => ∀ x ∈ a.ents, ∀ y ∈ b.ents, cmpBytes x.key y.key = .lt))

/-- a freshly prepared writer state: no writer yet, `maxVersion` is 0, `prevLevel` is 0 (write to
    the last level) or the index of a level of the DB -/
def SwFresh (d : Db) (st : SwState) : Prop :=
  st.writers = [] ∧ st.maxVersion = 0 ∧ st.prevLevel < d.lsm.levels.length

/-- the level the tables go to, once data has been written -/
def swTarget (d : Db) (st0 : SwState) : Nat :=
  (if st0.prevLevel == 0 then d.lsm.levels.length else st0.prevLevel) - 1

private theorem projStream_eq (kvs : List SKV) (sid : Nat) :
    projStream kvs sid = ((kvs.filter (!·.done)).filter (·.sid == sid)).map (·.e) := by
  rw [projStream, List.filter_filter]
  congr
  funext kv
  exact Bool.and_comm ..

private theorem mem_dataEnts {kvs : List SKV} {e : Ent} : e ∈ dataEnts kvs ↔ ∃ sid, e ∈ projStream kvs sid := by
  simp only [dataEnts, projStream, List.mem_map, List.mem_filter, Bool.and_eq_true, beq_iff_eq]
  constructor
  · rintro ⟨kv, ⟨h1, h2⟩, rfl⟩
    exact ⟨kv.sid, kv, ⟨h1, h2, rfl⟩, rfl⟩
  · rintro ⟨sid, kv, ⟨h1, h2, _⟩, rfl⟩
    exact ⟨kv, ⟨h1, h2⟩, rfl⟩

private theorem sw_written {d : Db} {st0 st : SwState} {bufs : List (List SKV)} (h0 : SwFresh d st0)
    (hw : d.swWriteAll st0 bufs = (st, .ok)) : Inv d.swForm st.writers (bufs.flatten.filter (!·.done)) := by
  have := (swWriteAll_written hw).inv (h0.1 ▸ Inv.nil _)
  rwa [List.nil_append] at this

private theorem sw_newEnts_perm {d : Db} {st0 st : SwState} {bufs : List (List SKV)} (h0 : SwFresh d st0)
    (hw : d.swWriteAll st0 bufs = (st, .ok)) : st.newEnts.Perm ((dataEnts bufs.flatten).map d.swForm) :=
  newEnts_perm (sw_written h0 hw)

private theorem sw_prevLevel {d : Db} {st0 st : SwState} {bufs : List (List SKV)}
    (hw : d.swWriteAll st0 bufs = (st, .ok)) :
    st.prevLevel = (if dataEnts bufs.flatten = [] then st0.prevLevel
      else if st0.prevLevel == 0 then d.lsm.levels.length else st0.prevLevel) := by
  rw [(swWriteAll_written hw).prevLevel]
  simp only [dataEnts, List.map_eq_nil_iff]

private theorem sw_maxVersion {d : Db} {st0 st : SwState} {bufs : List (List SKV)}
    (hw : d.swWriteAll st0 bufs = (st, .ok)) :
    st.maxVersion = (dataEnts bufs.flatten).foldl (fun m e => if m < e.ver then e.ver else m) st0.maxVersion := by
  rw [(swWriteAll_written hw).maxVersion, dataEnts, List.foldl_map]

private theorem sw_newEnts_sorted {d : Db} {st0 st : SwState} {bufs : List (List SKV)} (h0 : SwFresh d st0)
    (hin : SwInputOk bufs.flatten) (hw : d.swWriteAll st0 bufs = (st, .ok)) :
    SortedEnts st.newEnts := by
  simp only [SwInputOk, projStream_eq] at hin
  exact newEnts_sorted (sw_written h0 hw) (swForm_key d) (swForm_ver d) hin.1
    (fun s1 s2 h => (hin.2 s1 s2 h).imp (fun h => h) (fun h x hx y hy => h y hy x hx))

private theorem sw_target {d : Db} {st0 st : SwState} {bufs : List (List SKV)}
    (hdata : dataEnts bufs.flatten ≠ []) (hw : d.swWriteAll st0 bufs = (st, .ok)) :
    st.prevLevel - 1 = swTarget d st0 := by
  rw [sw_prevLevel hw, if_neg hdata]
  rfl

/-- data or not, the level `Flush` writes to exists -/
private theorem sw_index {d : Db} {st0 st : SwState} {bufs : List (List SKV)} (h0 : SwFresh d st0)
    (hw : d.swWriteAll st0 bufs = (st, .ok)) : st.prevLevel - 1 < d.lsm.levels.length := by
  have hlt := h0.2.2
  rw [sw_prevLevel hw]
  split
  · omega
  · split <;> omega

private theorem sw_tables {st : SwState} {sizes ids : List Nat} {tables0 : List Tbl}
    (hs : splitSizes sizes st.newEnts = some tables0) : tblEnts (withIds tables0 ids) = st.newEnts := by
  rw [tblEnts, LL.withIds_map_ents, (LL.splitSizes_spec hs).1]

/-- `Prepare` empties the DB; `PrepareIncremental` picks the level just above
    the topmost non-empty one: in both cases the target level exists and is empty, and every level
    above it is empty too.

    Hypothesis `hlv`: without it the statement is false for a `Db` value with `lsm.levels = []`
    (see the counterexample below); `Db.init` and `Db.swPrepare` build `lsm.levels` with
    `opts.maxLevels` entries, where `hlv` is `hl`. -/
theorem C26_prepare_target (d : Db) (hl : 0 < d.opts.maxLevels) (hlv : 0 < d.lsm.levels.length) :
    (SwFresh (d.swPrepare).1 (d.swPrepare).2 ∧ (d.swPrepare).1.lsm.allEntries = []) ∧
    (∀ st0, d.swPrepareIncremental = .ok st0 →
      SwFresh d st0 ∧ d.lsm.mem = [] ∧ (∀ i, i ≤ swTarget d st0 → d.lsm.levels.getD i [] = [])) := by
  constructor
  · constructor
    · refine ⟨rfl, rfl, ?_⟩
      simp [Db.swPrepare, Lsm.init]
      exact hl
    · exact LL.init_allEntries _
  · intro st0 h
    unfold Db.swPrepareIncremental at h
    split at h
    · cases h -- a memtable has data: error
    · rename_i hmem
      have hm : d.lsm.mem = [] := by
        simp only [Bool.or_eq_true, not_or, Bool.not_eq_true', Bool.not_eq_true] at hmem
        simpa using hmem.1
      have hget : ∀ i, (∀ u, d.lsm.levels[i]? = some u → (!u.isEmpty) = false) → d.lsm.levels.getD i [] = [] := by
        intro i hi
        rw [List.getD_eq_getElem?_getD]
        cases hu : d.lsm.levels[i]? with
        | none => rfl
        | some u => simpa using hi u hu
      split at h
      · rename_i hnone -- every level is empty: `prevLevel = 0`, the target is the last level
        cases h
        exact ⟨⟨rfl, rfl, hlv⟩, hm, fun i _ => hget i fun u hu =>
          Bool.eq_false_iff.mpr (List.find?_eq_none.mp hnone (i, u) ((LL.mem_zipIdx _ _ _).mpr hu))⟩
      · rename_i i ts hsome -- level `i` is the first with a table
        split at h
        · cases h -- `i = 0`: the code would run `Flatten`, error
        · rename_i hi0 -- the target is level `i - 1`
          cases h
          obtain ⟨h1, h2⟩ := LL.find_zipIdx _ _ _ _ hsome
          have hi0' : i ≠ 0 := by simpa using hi0
          refine ⟨⟨rfl, rfl, (List.getElem?_eq_some_iff.mp h1).1⟩, hm, fun j hj => hget j fun u hu => h2 j u ?_ hu⟩
          unfold swTarget at hj
          simp only [beq_iff_eq, if_neg hi0'] at hj
          omega

/-- After `Flush` the database holds exactly the streamed entries (in their
    `handleRequests` form) plus what it held before (nothing after `Prepare`). -/
theorem C26_contents (d : Db) (st0 st : SwState) (bufs : List (List SKV)) (sizes ids : List Nat)
    (d' : Db) (valid : Bool) (h0 : SwFresh d st0)
    (hw : d.swWriteAll st0 bufs = (st, .ok)) (hf : d.swFlush st sizes ids = some (d', valid)) :
    List.Perm d'.lsm.allEntries ((dataEnts bufs.flatten).map d.swForm ++ d.lsm.allEntries) := by
  obtain ⟨tables0, hs, _, hlsm, _⟩ := swFlush_some hf
  have hT := sw_tables (ids := ids) hs
  have hI := sw_newEnts_perm h0 hw
  have hL := flushLevels_perm d st (withIds tables0 ids) (sw_index h0 hw)
  rw [hT] at hL
  refine (allEntries_perm d'.lsm).trans ?_
  rw [hlsm]
  show ((d.lsm.mem :: d.lsm.imm.reverse).flatten ++ lvlEnts (flushLevels d st (withIds tables0 ids))).Perm _
  refine (hL.append_left _).trans ?_
  refine (List.perm_append_comm_assoc _ _ _).trans ?_
  exact List.Perm.append hI (allEntries_perm d.lsm).symm

/-- Under the API's precondition the target level (empty before, see
    `C26_prepare_target`) satisfies the C14 invariant after `Flush`, holds the streamed entries
    in internal-key order, and passes `levelValid`, the test `validate` applies to a level `≥ 1`. -/
theorem C26_levels_valid (d : Db) (st0 st : SwState) (bufs : List (List SKV)) (sizes ids : List Nat)
    (d' : Db) (valid : Bool) (h0 : SwFresh d st0) (hin : SwInputOk bufs.flatten)
    (hempty : d.lsm.levels.getD (swTarget d st0) [] = [])
    (hdata : dataEnts bufs.flatten ≠ [])
    (hw : d.swWriteAll st0 bufs = (st, .ok)) (hf : d.swFlush st sizes ids = some (d', valid)) :
    SwLevelOk (swTarget d st0) (d'.lsm.levels.getD (swTarget d st0) []) ∧
    ((d'.lsm.levels.getD (swTarget d st0) []).Pairwise
      (fun a b => ∀ x ∈ a.ents, ∀ y ∈ b.ents, cmpBytes x.key y.key = .lt)) ∧
    SortedEnts ((d'.lsm.levels.getD (swTarget d st0) []).map (·.ents)).flatten ∧
    levelValid (d'.lsm.levels.getD (swTarget d st0) []) = true := by
  obtain ⟨tables0, hs, hk, hlsm, _⟩ := swFlush_some hf
  have hT := sw_tables (ids := ids) hs
  have e1 := sw_target hdata hw
  have hsorted := sw_newEnts_sorted h0 hin hw
  have hflat : SortedEnts (tblEnts (withIds tables0 ids)) := hT.symm ▸ hsorted
  obtain ⟨hok, hpe⟩ := LL.new_tables_of (ids := ids) hsorted hs
  have hne := fun t ht => (hok t ht).1.1
  have hpk : (withIds tables0 ids).Pairwise (LL.Sep LL.keyLt) :=
    LL.cuts_pairwise (fun t ht => (hok t ht).1) hpe (cutsAtKeyChange_of_keyCutsOk (LL.withIds_map_ents tables0 ids) hk)
  -- the target level was empty, and sorting the new tables by `Smallest` leaves them in place
  have hlevel : d'.lsm.levels.getD (swTarget d st0) [] = withIds tables0 ids := by
    rw [hlsm]
    show (flushLevels d st (withIds tables0 ids)).getD (swTarget d st0) [] = _
    rw [← e1] at hempty ⊢
    rw [flushLevels_getD d st _ (sw_index h0 hw) hempty]
    exact sortBySmallest_id hne hpe
  rw [hlevel]
  exact ⟨⟨fun t ht => (hok t ht).1, fun _ => hpk⟩, hpk, hflat, levelValid_of_sorted hne hpe⟩

/-- In normal mode the next commit timestamp is above every streamed version and is
    never lowered. -/
theorem C26_ts (d : Db) (st0 st : SwState) (bufs : List (List SKV)) (sizes ids : List Nat)
    (d' : Db) (valid : Bool) (h0 : SwFresh d st0) (hm : d.opts.managed = false)
    (hw : d.swWriteAll st0 bufs = (st, .ok)) (hf : d.swFlush st sizes ids = some (d', valid)) :
    d.nextTs ≤ d'.nextTs ∧ ∀ e ∈ dataEnts bufs.flatten, e.ver < d'.nextTs := by
  obtain ⟨_, _, _, _, hts⟩ := swFlush_some hf
  obtain ⟨_, hv, _⟩ := foldl_max_spec (·.ver) (dataEnts bufs.flatten) st0.maxVersion
  rw [← sw_maxVersion hw] at hv
  rw [hts]
  unfold flushTs
  simp only [hm, Bool.false_eq_true, if_false]
  constructor
  · split <;> omega
  · intro e he
    have := hv e he
    split <;> omega

/-- Two write sequences that deliver the same entries per stream (any
    batching into buffers, any interleaving of the stream ids, done markers anywhere) give the
    same `Flush` result. -/
theorem C26_batching_irrelevant (d : Db) (st0 st1 st2 : SwState) (bufs1 bufs2 : List (List SKV))
    (sizes ids : List Nat) (h0 : SwFresh d st0) (hin : SwInputOk bufs1.flatten)
    (hproj : ∀ sid, projStream bufs1.flatten sid = projStream bufs2.flatten sid)
    (hw1 : d.swWriteAll st0 bufs1 = (st1, .ok)) (hw2 : d.swWriteAll st0 bufs2 = (st2, .ok)) :
    d.swFlush st1 sizes ids = d.swFlush st2 sizes ids := by
  have hin2 : SwInputOk bufs2.flatten :=
    ⟨fun sid => hproj sid ▸ hin.1 sid, fun s1 s2 h => by rw [← hproj s1, ← hproj s2]; exact hin.2 s1 s2 h⟩
  have hmem : ∀ e, e ∈ dataEnts bufs1.flatten ↔ e ∈ dataEnts bufs2.flatten := by
    intro e
    simp only [mem_dataEnts, hproj]
  have hnil : dataEnts bufs1.flatten = [] ↔ dataEnts bufs2.flatten = [] := by
    simp only [List.eq_nil_iff_forall_not_mem, hmem]
  apply swFlush_congr
  · apply sorted_ext (sw_newEnts_sorted h0 hin hw1) (sw_newEnts_sorted h0 hin2 hw2)
    intro x
    rw [(sw_newEnts_perm h0 hw1).mem_iff, (sw_newEnts_perm h0 hw2).mem_iff]
    simp only [List.mem_map, hmem]
  · rw [sw_prevLevel hw1, sw_prevLevel hw2]
    simp only [hnil]
  · rw [sw_maxVersion hw1, sw_maxVersion hw2]
    obtain ⟨a1, b1, c1⟩ := foldl_max_spec (·.ver) (dataEnts bufs1.flatten) st0.maxVersion
    obtain ⟨a2, b2, c2⟩ := foldl_max_spec (·.ver) (dataEnts bufs2.flatten) st0.maxVersion
    apply Nat.le_antisymm
    · rcases c1 with c1 | ⟨e, he, hv⟩
      · omega
      · have := b2 e ((hmem e).mp he); omega
    · rcases c2 with c2 | ⟨e, he, hv⟩
      · omega
      · have := b1 e ((hmem e).mpr he); omega

namespace C26Sample

def mk (k : UInt8) (v : Nat) (val : Bytes := [1]) : Ent :=
  { key := [k], ver := v, emeta := 0, umeta := 0, exp := 0, val := val }

/-- three levels, value threshold 2 (so `1@9` below gets the value-pointer bit) -/
def d0 : Db := { opts := { maxLevels := 3, threshold := 2 }, lsm := Lsm.init 3, nextTs := 4 }

/-- stream 1 = `1@9, 1@4, 2@3`, stream 2 = `5@7`, interleaved over three buffers -/
def bufsA : List (List SKV) :=
  [[{ sid := 2, e := mk 5 7 }, { sid := 1, e := mk 1 9 [1, 2, 3] }, { sid := 1, e := mk 1 4 }],
   [{ sid := 2, done := true, e := mk 0 0 }, { sid := 1, e := mk 2 3 }],
   [{ sid := 1, done := true, e := mk 0 0 }]]

/-- the same streams, batched differently, no done marker for stream 2 -/
def bufsB : List (List SKV) :=
  [[{ sid := 1, e := mk 1 9 [1, 2, 3] }],
   [{ sid := 1, e := mk 1 4 }, { sid := 2, e := mk 5 7 }, { sid := 1, e := mk 2 3 },
    { sid := 1, done := true, e := mk 0 0 }]]

def sizes0 : List Nat := [2, 2]
def ids0 : List Nat := [11, 12]

/-- a decidable sufficient condition for `SwInputOk`: check the stream ids that occur -/
theorem inputOk_of_sids (kvs : List SKV) (sids : List Nat) (hs : ∀ kv ∈ kvs, kv.sid ∈ sids)
    (h1 : ∀ s ∈ sids, (projStream kvs s).Pairwise (fun a b => entCmp a b = .lt))
    (h2 : ∀ s1 ∈ sids, ∀ s2 ∈ sids, s1 ≠ s2 →
      (∀ x ∈ projStream kvs s1, ∀ y ∈ projStream kvs s2, cmpBytes x.key y.key = .lt) ∨
      (∀ x ∈ projStream kvs s1, ∀ y ∈ projStream kvs s2, cmpBytes y.key x.key = .lt)) :
    SwInputOk kvs := by
  have hnil : ∀ s, s ∉ sids → projStream kvs s = [] := by
    intro s hns
    simp only [projStream, List.map_eq_nil_iff, List.filter_eq_nil_iff, Bool.and_eq_true,
      beq_iff_eq, not_and]
    intro kv hkv _ e
    exact hns (e ▸ hs kv hkv)
  constructor
  · intro sid
    by_cases h : sid ∈ sids
    · exact h1 sid h
    · rw [hnil sid h]; exact sortedEnts_nil
  · intro s1 s2 hne
    by_cases ha : s1 ∈ sids
    · by_cases hb : s2 ∈ sids
      · exact h2 s1 ha s2 hb hne
      · left; intro x _ y hy; rw [hnil s2 hb] at hy; cases hy
    · left; intro x hx; rw [hnil s1 ha] at hx; cases hx

theorem inputOkA : SwInputOk bufsA.flatten :=
  inputOk_of_sids _ [1, 2] (by decide) (by decide) (by decide)

theorem fresh0 : SwFresh d0 {} := ⟨rfl, rfl, by decide⟩

/-- the hypotheses of `C26_contents`, `C26_levels_valid`, `C26_ts` hold together on the sample
    (and the data is not empty, the target level is empty before) -/
theorem run :
    ∃ st d' valid, SwFresh d0 {} ∧ SwInputOk bufsA.flatten ∧
      d0.lsm.levels.getD (swTarget d0 {}) [] = [] ∧ dataEnts bufsA.flatten ≠ [] ∧
      d0.opts.managed = false ∧
      d0.swWriteAll {} bufsA = (st, .ok) ∧ d0.swFlush st sizes0 ids0 = some (d', valid) := by
  have h1 : (d0.swWriteAll {} bufsA).2 = .ok := by decide
  have h2 : (d0.swFlush (d0.swWriteAll {} bufsA).1 sizes0 ids0).isSome = true := by decide
  obtain ⟨⟨d', v⟩, h⟩ := Option.isSome_iff_exists.mp h2
  exact ⟨(d0.swWriteAll {} bufsA).1, d', v, fresh0, inputOkA, by decide, by decide, by decide,
    Prod.ext rfl h1, h⟩

end C26Sample

open C26Sample in
/-- non-vacuity of `C26_prepare_target`: `Prepare` on the sample, `PrepareIncremental` on a DB
    whose last level holds a table (target = level 1) -/
example : 0 < d0.opts.maxLevels ∧ 0 < d0.lsm.levels.length ∧
    (∃ st0, ({ d0 with lsm := { d0.lsm with levels := [[], [], [{ ents := [mk 1 1] }]] } } : Db).swPrepareIncremental
      = .ok st0 ∧ st0.prevLevel = 2) ∧
    (∃ st0, d0.swPrepareIncremental = .ok st0 ∧ st0.prevLevel = 0) :=
  ⟨by decide, by decide, ⟨{ prevLevel := 2 }, rfl, rfl⟩, ⟨{}, rfl, rfl⟩⟩

open C26Sample in
/-- why `C26_prepare_target` needs `hlv`: with `lsm.levels = []` (and `maxLevels = 7 > 0`)
    `PrepareIncremental` succeeds but there is no level to write to. -/
example : let d : Db := { opts := {}, lsm := { mem := [], imm := [], levels := [] } }
    0 < d.opts.maxLevels ∧ (∃ st0, d.swPrepareIncremental = .ok st0 ∧ ¬ SwFresh d st0) :=
  ⟨by decide, {}, rfl, fun h => absurd h.2.2 (by decide)⟩

open C26Sample in
example : ∃ st d' valid, SwFresh d0 {} ∧ SwInputOk bufsA.flatten ∧
    d0.lsm.levels.getD (swTarget d0 {}) [] = [] ∧ dataEnts bufsA.flatten ≠ [] ∧
    d0.opts.managed = false ∧
    d0.swWriteAll {} bufsA = (st, .ok) ∧ d0.swFlush st sizes0 ids0 = some (d', valid) := run

open C26Sample in
/-- what the sample produces: level 2 = `[1@9(vptr) 1@4] [2@3 5@7]`, `nextTs = 10` -/
example : ((d0.swFlush (d0.swWriteAll {} bufsA).1 sizes0 ids0).map
      (fun r => (r.1.lsm.levels.getD 2 [], r.1.nextTs, r.2))) =
    some ([{ ents := [{ mk 1 9 [1, 2, 3] with emeta := 2 }, mk 1 4], id := 11 },
           { ents := [mk 2 3, mk 5 7], id := 12 }], 10, true) := by decide

open C26Sample in
/-- non-vacuity of `C26_batching_irrelevant`: the two batchings deliver the same streams, both
    write sequences succeed -/
example : SwFresh d0 {} ∧ SwInputOk bufsA.flatten ∧
    (∀ sid, projStream bufsA.flatten sid = projStream bufsB.flatten sid) ∧
    (d0.swWriteAll {} bufsA).2 = .ok ∧ (d0.swWriteAll {} bufsB).2 = .ok ∧ bufsA.flatten.length ≠ bufsB.flatten.length := by
  refine ⟨fresh0, inputOkA, ?_, by decide, by decide, by decide⟩
  intro sid
  by_cases h1 : sid = 1
  · subst h1; decide
  · by_cases h2 : sid = 2
    · subst h2; decide
    · have hb1 : (1 == sid) = false := beq_eq_false_iff_ne.mpr (fun e => h1 e.symm)
      have hb2 : (2 == sid) = false := beq_eq_false_iff_ne.mpr (fun e => h2 e.symm)
      simp [projStream, bufsA, bufsB, hb1, hb2]

/-! ## F20: an incremental stream write puts tables on a level above older data; a compaction whose
base level lay below that level would uncover deleted data (levels.go `levelTargets` never picks a
base level below a non-empty level) -/

def f20k1 : Ent := { key := [0x6b], ver := 1, emeta := 0, umeta := 0, exp := 0, val := [0x61] }
def f20k3 : Ent := { key := [0x6b], ver := 3, emeta := 0, umeta := 0, exp := 0, val := [0x62] }
def f20k4 : Ent := { key := [0x6b], ver := 4, emeta := 65, umeta := 0, exp := 0, val := [] }
def f20z5 : Ent := { key := [0x7a], ver := 5, emeta := 64, umeta := 0, exp := 0, val := [1] }
/-- `k = a @1` was streamed to the last level of an empty 3-level DB -/
def f20Db1 : Db := { opts := { maxLevels := 3 }, lsm := { mem := [], imm := [], levels := [[], [], [{ ents := [f20k1] }]] }, nextTs := 2 }
/-- `k = b @3` streamed incrementally (to level 1), then `delete k @4`, a commit `@5`, a flush -/
def f20Before : Lsm := { mem := [], imm := [], levels := [[{ ents := [f20k4, f20z5] }], [{ ents := [f20k3] }], [{ ents := [f20k1] }]] }
/-- the result an L0 → L2 compaction would have (base level 2, jumping over the non-empty level 1,
    which `levelTargets` excludes) with discard timestamp 4: `subcompact` of the merge of the L0
    table and the overlapping L2 table -/
def f20After : Lsm := { mem := [], imm := [], levels := [[], [{ ents := [f20k3] }],
  [{ ents := subcompact { discardTs := 4, numKeep := 1, hasOverlap := false, now := 0, dropPrefixes := [] } [f20k4, f20k1, f20z5] }]] }

/-- witness: `PrepareIncremental` on a DB whose only data is on the last level targets level 1;
    such an L0 → L2 compaction would make the deleted key read its old streamed value again. -/
theorem C26_F20_skipped_level_witness :
    (f20Db1.swPrepareIncremental.toOption.map (swTarget f20Db1)) = some 1 ∧
    f20After.levels = [[], [{ ents := [f20k3] }], [{ ents := [f20z5] }]] ∧
    visible 0 (f20Before.get [0x6b] 10) = none ∧
    visible 0 (f20After.get [0x6b] 10) = some f20k3 := by
  decide

end Badger
