import BadgerProofs.Props.C01Db
/-!
# C36 composed: managed mode, every history

`MDbReach o hist d`: the database model in MANAGED mode reached from `Db.init o` by any sequence of
`begin` at a caller-chosen read timestamp, `set` with or without an explicit per-entry version,
`get`, iterator reads, `commit` at a caller-chosen commit timestamp, `discard`, `SetDiscardTs`
(non-decreasing), flushes, clock ticks and picker-valid compactions at any discard timestamp up to
`discardTs`. The ONLY hypothesis on a commit is the managed-mode contract `FreshSeq`: each entry it
writes is above the versions already committed for ITS OWN key (timestamps may go up and down across
keys and transactions; the excluded case is finding F27, `C36_write_below_counterexample`).

`C36_db_snapshot`: a read at any chosen timestamp `≥ discardTs` returns exactly the newest committed
write at or below it over the whole history. `C36_db_discard_raise`: raising the discard timestamp
changes no such read.

The invariant is `DbL.Tree` alone (`Props/C01Db.lean`): in managed mode the discard watermark is
`discardTs`, which no transaction step touches, so no bookkeeping about open readers is needed.
-/
namespace Badger

/-- what `commit id cts` writes (nothing unless the commit reaches the write path) -/
def Db.commitEnts (d : Db) (id cts : Nat) : List Ent :=
  match d.findTxn id with
  | some t => if commitGoes d t cts then commitEntries d t (commitTsOf d cts) else []
  | none => []

inductive MDbReach (o : Opts) : List Ent → Db → Prop
  | init (now : Nat) : MDbReach o [] (Db.init o now)
  | begin {hist : List Ent} {d : Db} (r : MDbReach o hist d) (id : Nat) (upd : Bool) (rts : Nat) :
      MDbReach o hist (d.begin id upd rts).1
  | set {hist : List Ent} {d : Db} (r : MDbReach o hist d) (id : Nat) (e : Ent) :
      MDbReach o hist (d.modify id e).1
  | get {hist : List Ent} {d : Db} (r : MDbReach o hist d) (id : Nat) (k : Bytes) :
      MDbReach o hist (d.txnGet id k).1
  | reads {hist : List Ent} {d : Db} (r : MDbReach o hist d) (id : Nat) (t : TxnM) (rs : List Bytes)
      (hf : d.findTxn id = some t) : MDbReach o hist (d.setTxn { t with reads := rs })
  | discard {hist : List Ent} {d : Db} (r : MDbReach o hist d) (id : Nat) : MDbReach o hist (d.discardTxn id)
  | commit {hist : List Ent} {d : Db} (r : MDbReach o hist d) (id cts : Nat)
      (hfresh : FreshSeq hist (d.commitEnts id cts)) :
      MDbReach o ((d.commitEnts id cts).reverse ++ hist) (d.commit id cts).1
  | setDiscard {hist : List Ent} {d : Db} (r : MDbReach o hist d) (ts : Nat) (h : d.discardTs ≤ ts) :
      MDbReach o hist ({ d with discardTs := ts } : Db).cleanup
  | flush {hist : List Ent} {d : Db} (r : MDbReach o hist d) (fid : Nat) :
      MDbReach o hist { d with lsm := d.lsm.flush fid }
  | tick {hist : List Ent} {d : Db} (r : MDbReach o hist d) (now' : Nat) (h : d.now ≤ now') :
      MDbReach o hist { d with now := now' }
  | compact {hist : List Ent} {d : Db} {s' : Lsm} (r : MDbReach o hist d) (cd : CompactDef) (dts : Nat)
      (hd : dts ≤ d.discardAtOrBelow)
      (hi : ChoiceIdxOk d.lsm cd) (htop : cd.top ≠ []) (hvc : validChoice d.lsm cd = true)
      (hdp : cd.dropPrefixes = []) (hs : d.lsm.compact cd dts d.opts.numKeep d.now = some s')
      (hcut : ∀ new0, splitSizes cd.outSizes (compactOutput d.lsm cd dts d.opts.numKeep d.now).1 = some new0 →
        CutsAtKeyChange (withIds new0 cd.outIds)) :
      MDbReach o hist { d with lsm := s' }

namespace MDbL
open DbL

variable {o : Opts} {hist : List Ent} {d : Db}

theorem commit_writes (d : Db) (id cts : Nat) :
    (d.commitEnts id cts = [] ∧ ((d.commit id cts).1 = d ∨ (d.commit id cts).1 = d.discardTxn id) ∧
      ∀ ts, (d.commit id cts).2 ≠ .ok ts) ∨
    ∃ t, d.findTxn id = some t ∧ commitGoes d t cts = true ∧
      d.commitEnts id cts = commitEntries d t (commitTsOf d cts) := by
  rcases commit_stops_or_goes d id cts with ⟨h1, h2⟩ | ⟨t, hf, hg, _⟩
  · refine .inl ⟨?_, h1, h2⟩
    unfold Db.commitEnts
    split
    · split
      · rename_i t hf hg
        exact absurd (commit_goes cts hf hg).res (h2 _)
      · rfl
    · rfl
  · exact .inr ⟨t, hf, hg, by unfold Db.commitEnts; rw [hf]; exact if_pos hg⟩

theorem commit_inv (hm : o.managed = true) (h : Tree o hist d) (id cts : Nat)
    (hfresh : FreshSeq hist (d.commitEnts id cts)) :
    Tree o ((d.commitEnts id cts).reverse ++ hist) (d.commit id cts).1 := by
  rcases commit_writes d id cts with ⟨he, hd | hd, _⟩ | ⟨t, hf, hg, he⟩ <;> rw [he] at hfresh ⊢
  · rw [hd]; exact h
  · rw [hd]
    exact h.sameM hm (discardTxn_same d id)
  · refine h.commitGoes hf hg hfresh ?_
    have g := commit_goes cts hf hg
    rw [discardAtOrBelow_managed (h.opts ▸ hm), discardAtOrBelow_managed (g.opts ▸ h.opts ▸ hm), g.discardTs]
    exact Nat.le_refl _

/-- every transaction step leaves the tree, the options, the clock and `discardTs` alone (`SameStore`, the
    `_same` lemmas of Lemmas/Txn.lean) -/
theorem tree_of_reach (hm : o.managed = true) (r : MDbReach o hist d) : Tree o hist d := by
  induction r with
  | init now => exact Tree.init o now
  | begin _ id upd rts ih => exact ih.sameM hm (begin_same ..)
  | set _ id e ih => exact ih.sameM hm (modify_same ..)
  | get _ id k ih => exact ih.sameM hm (txnGet_same ..)
  | reads _ id t rs hf ih => exact ih.sameM hm (setTxn_same ..)
  | discard _ id ih => exact ih.sameM hm (discardTxn_same ..)
  | commit _ id cts hfresh ih => exact commit_inv hm ih id cts hfresh
  | setDiscard _ ts hts ih =>
    obtain ⟨c, l, e⟩ := cleanup_frame _
    rw [e]; exact ih.frameM hm rfl rfl hts (Nat.le_refl _)
  | flush _ fid ih => exact ih.flush fid
  | tick _ now' hn ih => exact ih.frame rfl rfl (Nat.le_refl _) hn
  | compact _ cd dts hd hi htop hvc hdp hs hcut ih => exact ih.compact cd dts hd hi htop hvc hdp hs hcut

end MDbL

/-- **C36 for the whole database model, every managed history**: a read at any chosen timestamp at
    or above the discard timestamp sees exactly the newest committed write at or below it (absent if
    deleted or expired), whatever was flushed or compacted in between. -/
theorem C36_db_snapshot {o : Opts} {hist : List Ent} {d : Db} (hm : o.managed = true)
    (r : MDbReach o hist d) {id : Nat} {t : TxnM} {k : Bytes} (hf : d.findTxn id = some t)
    (hk : k.isEmpty = false) (hdisc : t.discarded = false)
    (hpend : (if t.update then t.pending.find? (·.key == k) else none) = none)
    (hts : d.discardTs ≤ t.readTs) :
    (d.txnGet id k).2 = getResOf (visible d.now (newestLE hist k t.readTs)) := by
  have h := MDbL.tree_of_reach hm r
  exact h.txnGet hf hk hdisc hpend (by rw [discardAtOrBelow_managed (h.opts ▸ hm)]; exact hts)

/-- **raising the discard timestamp never changes a read at or above it**: the read is the same
    function of the history before and after `SetDiscardTs`. -/
theorem C36_db_discard_raise {o : Opts} {hist : List Ent} {d : Db} (hm : o.managed = true)
    (r : MDbReach o hist d) (ts : Nat) (hts : d.discardTs ≤ ts) (k : Bytes) (rts : Nat) (hr : ts ≤ rts) :
    visible d.now ((({ d with discardTs := ts } : Db).cleanup).lsm.get k rts) =
      visible d.now (newestLE hist k rts) ∧
    visible d.now (d.lsm.get k rts) = visible d.now (newestLE hist k rts) := by
  have h := MDbL.tree_of_reach hm r
  have hr' : d.discardAtOrBelow ≤ rts := by rw [discardAtOrBelow_managed (h.opts ▸ hm)]; omega
  have hv := h.tracks.reads hr' (Nat.le_refl _) k
  rw [(cleanup_same _).lsm]
  exact ⟨hv, hv⟩

/-! ## non-vacuity: commits at caller-chosen timestamps 7 then 5 on different keys (non-monotone),
    the second with an explicit per-entry version 3 -/

def C36_dbOpts : Opts := { managed := true, maxBatchCount := 100, maxBatchSize := 100000 }
def C36_dbD2 : Db :=
  (((Db.init C36_dbOpts 0).begin 1 true 0).1.modify 1 ⟨[0x61], 0, 0, 0, 0, [7]⟩).1
def C36_dbD5 : Db :=
  ((((C36_dbD2.commit 1 7).1.begin 2 true 0).1.modify 2 ⟨[0x62], 0, 0, 0, 0, [5]⟩).1.modify 2 ⟨[0x63], 3, 0, 0, 0, [3]⟩).1

theorem C36_db_example_reach :
    MDbReach C36_dbOpts ((C36_dbD5.commitEnts 2 5).reverse ++ ((C36_dbD2.commitEnts 1 7).reverse ++ []))
      (C36_dbD5.commit 2 5).1 := by
  have r2 : MDbReach C36_dbOpts [] C36_dbD2 := MDbReach.set (MDbReach.begin (MDbReach.init 0) 1 true 0) 1 _
  have r3 := MDbReach.commit r2 1 7 (by decide)
  have r5 : MDbReach C36_dbOpts _ C36_dbD5 := MDbReach.set (MDbReach.set (MDbReach.begin r3 2 true 0) 2 _) 2 _
  exact MDbReach.commit r5 2 5 (by decide)

theorem C36_db_example_hist :
    ((C36_dbD5.commitEnts 2 5).reverse ++ (C36_dbD2.commitEnts 1 7).reverse).map (fun e => (e.key, e.ver)) =
      [([0x63], 3), ([0x62], 5), ([0x61], 7)] := by decide

end Badger
