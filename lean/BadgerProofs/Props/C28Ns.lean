import BadgerModel.Namespace
import BadgerProofs.Props.C28
/-!
# C28, banned namespaces (`BadgerModel/Namespace.lean`)

* a write to a key in a banned namespace is rejected and changes nothing (`C28_banned_set_rejected`),
  and the rejection comes after the validation errors and before `ErrTxnTooBig`
  (`C28_banned_order`);
* `Txn.Get` of such a key answers `ErrBannedKey` and records no read (`C28_banned_get`);
* no iterator ever yields such a key, in any mode or direction (`C28_banned_iter_hidden`);
* keys outside the banned namespaces — in particular every key when namespaces are off or nothing
  is banned — are handled exactly as without the feature (`C28_unbanned_*`), so every other theorem
  about `Db.modify`, `Db.txnGet` and `Db.iteratePicked` applies to them unchanged;
* `BanNamespace` bans the keys of that namespace and no others (`C28_ban_bans`), and is refused when
  namespaces are off.
-/
namespace Badger

theorem hideBanned_of_not (d : Db) (readTs : Nat) (e : Ent) (h : d.isBanned e.key = false) :
    hideBanned d readTs e = e := by simp [hideBanned, h]

/-- a banned entry is moved to a version above the snapshot -/
theorem hideBanned_ver_of_banned (d : Db) (readTs : Nat) (e : Ent) (h : d.isBanned e.key = true) :
    readTs < (hideBanned d readTs e).ver := by
  simp only [hideBanned, h, if_true]
  omega

/-- **No iterator yields a key of a banned namespace** — any options, direction, seek key,
    transaction (its own pending writes included) and LSM state. -/
theorem C28_banned_iter_hidden (d : Db) (id : Nat) (o : IterOpts) (seek : Option Bytes) (dnh : Tbl → Bool)
    (items : List Ent) (h : d.iteratePickedNs id o seek dnh = some items) :
    ∀ x ∈ items, d.isBanned x.key = false := by
  unfold Db.iteratePickedNs at h
  split at h
  · cases h
  · rename_i t _
    simp only [Option.some.injEq] at h
    subst h
    intro x hx
    have hx' := (List.takeWhile_sublist _).subset hx
    obtain ⟨hm, hv, -⟩ := (parseItems_yield o t.readTs d.now _).2 _ _ x hx'
    obtain ⟨e, _, rfl⟩ := List.mem_map.mp hm
    -- `parseItems` yields only versions `≤ readTs`, and a banned entry sits above
    cases hb : d.isBanned e.key with
    | false => rw [hideBanned_of_not d _ e hb]; exact hb
    | true => exact absurd hv (Nat.not_le.mpr (hideBanned_ver_of_banned d t.readTs e hb))

/-- when no key is banned the iterator is the plain one -/
theorem C28_unbanned_iter (d : Db) (id : Nat) (o : IterOpts) (seek : Option Bytes) (dnh : Tbl → Bool)
    (h : ∀ k, d.isBanned k = false) : d.iteratePickedNs id o seek dnh = d.iteratePicked id o seek dnh := by
  have : ∀ r, hideBanned d r = _root_.id := fun r => funext fun a => hideBanned_of_not d r a (h _)
  unfold Db.iteratePickedNs Db.iteratePicked
  cases d.findTxn id with
  | none => rfl
  | some t => simp only [this, List.map_id]

/-- **A write to a banned key is rejected and nothing changes** (database and transaction). -/
theorem C28_banned_set_rejected (d : Db) (id : Nat) (e : Ent) (hb : d.isBanned e.key = true) :
    (d.modifyNs id e).1 = d ∧ (d.modifyNs id e).2 ≠ none := by
  have hs := C28_reject_no_effect d id e
  unfold Db.modifyNs
  generalize d.modify id e = r at hs ⊢
  rcases r with ⟨d', _ | err⟩
  · simp [hb]
  · obtain rfl : d' = d := hs err rfl
    cases err <;> simp [hb]

/-- the place of the check: the errors of the validation `switch` win, `ErrBannedKey` wins over
    `ErrTxnTooBig` and over acceptance -/
theorem C28_banned_order (d : Db) (id : Nat) (e : Ent) (hb : d.isBanned e.key = true) :
    (d.modifyNs id e).2 =
      match (d.modify id e).2 with
      | none => some .banned
      | some .txntoobig => some .banned
      | some err => some err := by
  unfold Db.modifyNs
  rcases d.modify id e with ⟨d', _ | err⟩
  · simp [hb]
  · cases err <;> simp [hb]

theorem C28_unbanned_set (d : Db) (id : Nat) (e : Ent) (hb : d.isBanned e.key = false) :
    d.modifyNs id e = d.modify id e := by
  unfold Db.modifyNs
  split <;> simp [*]

/-- **`Txn.Get` of a banned key** (non-empty key, live transaction) answers `ErrBannedKey`; the
    database — conflict-detection read set included — is unchanged. -/
theorem C28_banned_get (d : Db) (id : Nat) (t : TxnM) (k : Bytes) (hf : d.findTxn id = some t)
    (hk : k.isEmpty = false) (hd : t.discarded = false) (hb : d.isBanned k = true) :
    d.txnGetNs id k = (d, .err "err:banned") := by
  unfold Db.txnGetNs
  simp [hf, hk, hd, hb]

theorem C28_unbanned_get (d : Db) (id : Nat) (k : Bytes) (hb : d.isBanned k = false) :
    d.txnGetNs id k = d.txnGet id k := by
  unfold Db.txnGetNs
  split
  · rfl
  · simp [hb]

theorem C28_nothing_banned (d : Db) (h : d.opts.nsOffset = none ∨ d.banned = []) (k : Bytes) :
    d.isBanned k = false := by
  unfold Db.isBanned isBannedKey
  rcases h with h | h
  · rw [h]
  · rw [h]; cases d.opts.nsOffset <;> simp

theorem C28_short_key_not_banned (d : Db) (off : Nat) (h : d.opts.nsOffset = some off) (k : Bytes)
    (hl : k.length ≤ off + 8) : d.isBanned k = false := by
  unfold Db.isBanned isBannedKey
  rw [h]; simp [hl]

theorem C28_ban_refused_without_namespaces (d : Db) (ns : Nat) (h : d.opts.nsOffset = none) :
    d.banNamespace ns = none := by
  unfold Db.banNamespace; rw [h]

/-- `BanNamespace(ns)` bans exactly the keys that carry `ns` (in addition to those banned before) -/
theorem C28_ban_bans (d d' : Db) (ns off : Nat) (ho : d.opts.nsOffset = some off)
    (h : d.banNamespace ns = some d') (k : Bytes) :
    d'.isBanned k = (d.isBanned k || (decide (off + 8 < k.length) && nsOf off k == ns)) := by
  unfold Db.banNamespace at h
  rw [ho] at h
  obtain rfl := Option.some.inj h
  simp only [Db.isBanned, isBannedKey, ho]
  by_cases hl : k.length ≤ off + 8
  · simp [hl, Nat.not_lt.mpr hl]   -- too short to carry a namespace: banned neither before nor after
  · simp only [hl, if_false, Nat.lt_of_not_le hl, decide_true, Bool.true_and]
    split
    · rename_i hc   -- `ns` was banned already: the list is unchanged
      by_cases he : nsOf off k = ns
      · simpa [he] using hc
      · simp [he]
    · rw [List.contains_cons, Bool.or_comm]   -- `ns` is put in front of the list

def nsK7 : Bytes := [0x78] ++ beBytes 7 8 ++ [0x61]
def nsK8 : Bytes := [0x78] ++ beBytes 8 8 ++ [0x61]

/-- namespace offset 1; `x ‖ be64(7) ‖ a` and `x ‖ be64(8) ‖ a` committed by transaction 1, then
    namespace 7 banned -/
def nsExampleDb : Db :=
  let d0 := Db.init { nsOffset := some 1, maxBatchCount := 1000, maxBatchSize := 100000 } 0
  let (d1, _) := d0.begin 1 true 0
  let (d2, _) := d1.modifyNs 1 { key := nsK7, ver := 0, emeta := 0, umeta := 0, exp := 0, val := [1] }
  let (d3, _) := d2.modifyNs 1 { key := nsK8, ver := 0, emeta := 0, umeta := 0, exp := 0, val := [2] }
  let (d4, _) := d3.commit 1 0
  (d4.banNamespace 7).getD d4

def nsExampleTxn : Db := (nsExampleDb.begin 2 true 0).1

-- non-vacuity: in `nsExampleTxn` the key `x ‖ be64(7) ‖ a` is rejected by Set, refused by Get and
-- hidden from the iterator while the same key in namespace 8 is served by all three
example :
    (nsExampleTxn.modifyNs 2 { key := nsK7, ver := 0, emeta := 0, umeta := 0, exp := 0, val := [3] }).2 = some .banned ∧
    (nsExampleTxn.modifyNs 2 { key := nsK8, ver := 0, emeta := 0, umeta := 0, exp := 0, val := [3] }).2 = none ∧
    (match (nsExampleTxn.txnGetNs 2 nsK7).2 with | .err _ => true | _ => false) = true ∧
    (match (nsExampleTxn.txnGetNs 2 nsK8).2 with | .found _ _ => true | _ => false) = true := by
  decide

example : (match nsExampleTxn.iteratePickedNs 2 {} none (fun _ => false) with
    | some l => l.map Ent.key | none => []) = [nsK8] := by decide +kernel

end Badger
