import BadgerModel.Crypto
import BadgerProofs.Lemmas.Log
import BadgerProofs.Props.C16
import BadgerProofs.Lemmas.Lists
/-!
# C23 — encryption at rest is transparent and keeps plaintext off disk

The cipher is an arbitrary `E : key → counter block → 16 bytes` (AES is trusted, DESIGN §3).
What is proved: XOR-stream involution, transparency of log records / table blocks / stored
data keys for *any* `E`, exact disjointness of the CTR counter ranges of the records of a log
file (including the carry into the base IV), the classification of every write that carries
user bytes, the behaviour of `Open` with a wrong key, and that data-key and master-key
rotation keep old data readable.

What is *not* a theorem (labelled in props/C23.json): freshness of the random IVs
(`crypto/rand`) and secrecy of the cipher.

**Finding F23a, fixed by 497bf84.** Before the fix, with an encryption key and
`EncryptionKeyRotationDuration` longer than the time since the Unix epoch (e.g. `math.MaxInt64`,
"never rotate"), `LatestDataKey` returned `kr.dataKeys[0]` = nil on a fresh registry and every
WAL, value-log and table file was written in plaintext. Since the fix the last key is reused
only if it exists; `C23_no_plaintext` proves the full statement with no side condition and
`C23_F23a_regression_witness` keeps the old rule's counterexample.
-/
namespace Badger
open Crypto

/-- `XORBlock` with the same key and IV is its own inverse, for every cipher. -/
theorem C23_xor_involution (E : BlockFn) (key : Bytes) (iv : Nat) (b : Bytes) :
    xorStream E key iv (xorStream E key iv b) = b := by
  unfold xorStream; exact xorFrom_invol _ b 0

theorem xorStream_length (E : BlockFn) (key : Bytes) (iv : Nat) (b : Bytes) :
    (xorStream E key iv b).length = b.length := by
  unfold xorStream; exact xorFrom_length _ b 0

/-- Log records (`.mem` and `.vlog`) are transparent: decoding what `encodeEntry` wrote at
    offset `off` of a file with data key `key` and base IV `base` returns the entry, for every
    cipher (instance of `C16_roundtrip` at the key stream `ks E key (base ‖ off)`). -/
theorem C23_transparent (E : BlockFn) (key : Bytes) (base off : Nat) (e : Entry) (rest : Bytes)
    (hkv : e.key.length + e.value.length < 2 ^ 32) (hexp : e.expiresAt < 2 ^ 64) :
    decodeEntry (ks E key (logIV base off))
      (encodeEntry (ks E key (logIV base off)) e ++ rest) = some e :=
  C16_roundtrip _ e rest hkv hexp

/-- Table blocks and index are transparent: `Table.decrypt (Builder.encrypt data) = data`. -/
theorem C23_transparent_block (E : BlockFn) (key : Bytes) (iv : Nat) (data : Bytes)
    (hiv : iv < 2 ^ 128) : decryptBlob E key (encryptBlob E key iv data) = data := by
  unfold decryptBlob encryptBlob
  have hl : (xorStream E key iv data ++ beBytes iv 16).length - 16 = (xorStream E key iv data).length := by
    simp
  rw [hl, List.drop_left, List.take_left, beNat_beBytes _ _ (by simpa using hiv)]
  exact C23_xor_involution E key iv data

theorem maybeXor_invol (E : BlockFn) (key : Bytes) (iv : Nat) (b : Bytes) :
    maybeXor E key iv (maybeXor E key iv b) = b := by
  unfold maybeXor
  split
  · rfl
  · exact C23_xor_involution E key iv b

/-- The key registry is transparent: a data key read back with the master key it was stored
    under is the data key. -/
theorem C23_transparent_registry (E : BlockFn) (master : Bytes) (k : DataKey) :
    loadDataKey E master (storeDataKey E master k) = k := by
  rw [loadDataKey, storeDataKey]
  simp only [maybeXor_invol]

theorem readKeyRegistry_write (E : BlockFn) (key : Bytes) (rot : Int) (iv : Nat)
    (keys : List DataKey) :
    readKeyRegistry E key rot (writeKeyRegistry E key iv keys) =
      .ok { master := key, rotationNs := rot, dataKeys := keys,
            lastCreated := maxNat (keys.map (·.createdAt)), nextKeyID := maxNat (keys.map (·.id)) } := by
  have hk : (keys.map (storeDataKey E key)).map (loadDataKey E key) = keys := by
    rw [List.map_map, show loadDataKey E key ∘ storeDataKey E key = id from
      funext (C23_transparent_registry E key), List.map_id]
  simp only [readKeyRegistry, validRegistry, writeKeyRegistry, maybeXor_invol, hk, beq_self_eq_true,
    Bool.not_true, Bool.false_eq_true, if_false]

/-- The byte-level IV of `generateIV` is the number `base·2^32 + offset`. -/
theorem C23_generateIV (baseIV : Bytes) (off : Nat) (hb : baseIV.length = 12) (ho : off < 2 ^ 32) :
    beNat (generateIV baseIV off) = logIV (beNat baseIV) off ∧ (generateIV baseIV off).length = 16 := by
  unfold generateIV logIV
  have ht : baseIV.take 12 = baseIV := by rw [← hb]; exact List.take_length
  rw [ht, beNat_append, beBytes_length, Nat.mod_eq_of_lt ho, beNat_beBytes _ _ (by simpa using ho)]
  exact ⟨rfl, by simp [hb]⟩

theorem blocks_le (l : Nat) : blocks l ≤ l := by unfold blocks; omega

private theorem add_block_lt {o l j : Nat} (hj : j < blocks l) : o + j < o + l :=
  Nat.add_lt_add_left (Nat.lt_of_lt_of_le hj (blocks_le l)) o

/-- Within a file below 4 GiB the counter never wraps and never carries into the base-IV part:
    block `j` of the record at `o` uses the counter `base · 2^32 + (o + j)`. -/
theorem ctrOf_logIV {base o j : Nat} (hb : base < 2 ^ 96) (h : o + j < 2 ^ 32) :
    ctrOf (logIV base o) j = base * 2 ^ 32 + (o + j) := by
  have h1 : base * 2 ^ 32 + 2 ^ 32 ≤ 2 ^ 128 :=
    Nat.le_trans (Nat.le_of_eq (Nat.succ_mul base (2 ^ 32)).symm) (Nat.mul_le_mul_right (2 ^ 32) hb)
  rw [ctrOf, logIV, ctrMod, Nat.add_assoc,
    Nat.mod_eq_of_lt (Nat.lt_of_lt_of_le (Nat.add_lt_add_left h _) h1)]

private theorem mul_add_ne {p b1 b2 x1 x2 : Nat} (h1 : x1 < p) (h2 : x2 < p) (hne : b1 ≠ b2) :
    b1 * p + x1 ≠ b2 * p + x2 := by
  intro h
  have hp : 0 < p := Nat.lt_of_le_of_lt (Nat.zero_le _) h1
  have q : (b1 * p + x1) / p = (b2 * p + x2) / p := congrArg (· / p) h
  rw [Nat.mul_comm b1, Nat.mul_comm b2, Nat.mul_add_div hp, Nat.mul_add_div hp,
    Nat.div_eq_of_lt h1, Nat.div_eq_of_lt h2] at q
  exact hne q

/-- CTR counter ranges of two records of one log file are disjoint. Records at offsets
    `o1 < o2` of one file (same data key, same 12-byte base IV), whose encrypted parts have
    `l1` and `l2` bytes: the first record ends before the second begins (`o1 + l1 ≤ o2`; in the
    file even `o1 + header + l1 + 4 ≤ o2`) and the file stays below 4 GiB (`o2 + l2 ≤ 2^32`, the
    offsets are `uint32`). Then no 128-bit counter block is used by both, i.e. no key-stream
    block is reused — the carry of `offset + block` into the base-IV part cannot happen. -/
theorem C23_ctr_disjoint (base o1 l1 o2 l2 : Nat) (hb : base < 2 ^ 96)
    (h12 : o1 + l1 ≤ o2) (hend : o2 + l2 ≤ 2 ^ 32) (j1 j2 : Nat) (hj1 : j1 < blocks l1)
    (hj2 : j2 < blocks l2) :
    ctrOf (logIV base o1) j1 ≠ ctrOf (logIV base o2) j2 := by
  have k2 : o2 + j2 < 2 ^ 32 := Nat.lt_of_lt_of_le (add_block_lt hj2) hend
  have k12 : o1 + j1 < o2 + j2 :=
    Nat.lt_of_lt_of_le (add_block_lt hj1) (Nat.le_trans h12 (Nat.le_add_right o2 j2))
  rw [ctrOf_logIV hb (Nat.lt_trans k12 k2), ctrOf_logIV hb k2]
  exact Nat.ne_of_lt (Nat.add_lt_add_left k12 _)

/-- Records of two log files with different base IVs never share a counter block either. -/
theorem C23_ctr_disjoint_files (b1 b2 o1 l1 o2 l2 : Nat) (hb1 : b1 < 2 ^ 96) (hb2 : b2 < 2 ^ 96)
    (hne : b1 ≠ b2) (h1 : o1 + l1 ≤ 2 ^ 32) (h2 : o2 + l2 ≤ 2 ^ 32) (j1 j2 : Nat)
    (hj1 : j1 < blocks l1) (hj2 : j2 < blocks l2) :
    ctrOf (logIV b1 o1) j1 ≠ ctrOf (logIV b2 o2) j2 := by
  have k1 : o1 + j1 < 2 ^ 32 := Nat.lt_of_lt_of_le (add_block_lt hj1) h1
  have k2 : o2 + j2 < 2 ^ 32 := Nat.lt_of_lt_of_le (add_block_lt hj2) h2
  rw [ctrOf_logIV hb1 k1, ctrOf_logIV hb2 k2]
  exact mul_add_ne k1 k2 hne

/-- The hypothesis `o1 + l1 ≤ o2` of `C23_ctr_disjoint` is what the file layout gives: a record is
    longer than its encrypted part (key and value) by at least 6 bytes, the two fixed bytes of the
    header and the 4 of the CRC; the header's three varints are not counted. -/
theorem C23_record_longer (e : Entry) : e.key.length + e.value.length + 6 ≤ recLen e := by
  unfold recLen headerEncode
  simp only [List.length_cons]
  omega

-- the bound is needed: at 4 GiB `offset + block` carries into the base-IV part and meets a
-- counter block of another base IV
example : ctrOf (logIV 5 (2 ^ 32 - 1)) 1 = ctrOf (logIV 6 0) 0 := by decide
-- and two records overlapping in the file would share a block
example : ctrOf (logIV 5 100) 1 = ctrOf (logIV 5 101) 0 := by decide
-- non-vacuity of the disjointness theorem: two adjacent 40-byte records
example : ctrOf (logIV 7 20) 2 ≠ ctrOf (logIV 7 69) 0 :=
  C23_ctr_disjoint 7 20 40 69 40 (by omega) (by omega) (by omega) 2 0 (by decide) (by decide)

/-- The three runs of bytes of `logRecordWrites` are exactly `encodeEntry` of the record model
    (`BadgerModel/Log.lean`) under the key stream of the file's data key and `base ‖ offset`. -/
theorem C23_log_record_bytes (E : BlockFn) (master : Bytes) (keyOf : Nat → Bytes) (kind : FileKind)
    (k : DataKey) (base off : Nat) (e : Entry) :
    ((logRecordWrites kind (some k) base off e
        (beBytes (crc32c (encodeBody (ks E (keyOf k.id) (logIV base off)) e)) 4)).map
      (fun w => realize E master keyOf w.payload)).flatten =
    encodeEntry (ks E (keyOf k.id) (logIV base off)) e := by
  simp [logRecordWrites, realize, encodeEntry, encodeBody, xorStream]

namespace Crypto

theorem lookup_new (l : List DataKey) (dk : DataKey) :
    (l.filter (fun k => k.id != dk.id) ++ [dk]).find? (fun k => k.id == dk.id) = some dk := by
  rw [List.find?_append, find?_filter_key_self DataKey.id, Option.none_or, List.find?_singleton,
    if_pos (beq_self_eq_true _)]

/-- With a master key, `LatestDataKey` always yields a data key — for every registry state,
    clock and rotation interval (finding F23a, file head). -/
theorem latest_some (r : Registry) (now : Nat) (fk : Bytes) (fiv : Nat) (hm : r.master ≠ []) :
    ((r.latestDataKey now fk fiv).2).isSome = true ∧
    (r.latestDataKey now fk fiv).1.master = r.master := by
  unfold Registry.latestDataKey Registry.newDataKey
  simp only [hm, if_false]
  split
  · split <;> exact ⟨rfl, rfl⟩
  · exact ⟨rfl, rfl⟩

/-- Every write that carries user bytes went through the cipher. A list of writes whose `user` flags
    and payload constructors are literals passes by evaluation. -/
def AllEnc (ws : List Write) : Prop := ws.all (fun w => !w.user || w.payload.isEnc) = true

theorem allEnc_append {a b : List Write} (ha : AllEnc a) (hb : AllEnc b) : AllEnc (a ++ b) := by
  rw [AllEnc, List.all_append, ha, hb]; rfl

theorem allEnc_newKey (E : BlockFn) (r r' : Registry) (dk : Option DataKey) :
    AllEnc (newKeyWrites E r r' dk) := by
  unfold newKeyWrites
  split
  · rfl
  · cases dk <;> rfl

theorem allEnc_table (k : DataKey) (bs : List (Nat × Bytes)) (iiv : Nat) (idx footer : Bytes) :
    AllEnc (tableWrites (some k) bs iiv idx footer) := by
  refine allEnc_append (allEnc_append ?_ rfl) rfl
  rw [AllEnc, List.all_flatten, List.all_map]
  exact List.all_eq_true.mpr fun _ _ => rfl

def LogsKeyed (d : Db) : Prop := ∀ lf ∈ d.logs, lf.dk.isSome = true

/-- One event of a keyed database: its writes are encrypted where they carry user bytes, and the
    database stays keyed. -/
theorem step_keyed (E : BlockFn) (d : Db) (ev : Ev) (hm : d.reg.master ≠ []) (hl : LogsKeyed d) :
    AllEnc (step E d ev).2 ∧ (step E d ev).1.reg.master ≠ [] ∧ LogsKeyed (step E d ev).1 := by
  cases ev with
  | newLog kind now fk fiv base =>
    obtain ⟨hs, hm'⟩ := latest_some d.reg now fk fiv hm
    refine ⟨allEnc_append (allEnc_newKey E _ _ _) rfl, hm' ▸ hm, ?_⟩
    intro lf hlf
    rcases List.mem_append.mp hlf with h | h
    · exact hl lf h
    · rw [List.mem_singleton] at h; subst h; exact hs
  | append i e crc =>
    simp only [step]
    cases hi : d.logs[i]? with
    | none => exact ⟨rfl, hm, hl⟩
    | some lf =>
      have hk := hl lf (List.mem_of_getElem? hi)
      simp only []
      refine ⟨?_, hm, ?_⟩
      · cases hdk : lf.dk with
        | none => rw [hdk] at hk; cases hk
        | some k => rfl
      · intro lf' hlf'
        rcases List.mem_or_eq_of_mem_set hlf' with h | h
        · exact hl lf' h
        · subst h; exact hk
  | table now fk fiv bs iiv idx footer =>
    obtain ⟨hs, hm'⟩ := latest_some d.reg now fk fiv hm
    refine ⟨allEnc_append (allEnc_newKey E _ _ _) ?_, hm' ▸ hm, hl⟩
    show AllEnc (tableWrites (d.reg.latestDataKey now fk fiv).2 bs iiv idx footer)
    cases hdk : (d.reg.latestDataKey now fk fiv).2 with
    | none => rw [hdk] at hs; cases hs
    | some k => exact allEnc_table _ _ _ _ _
  | manifest b => exact ⟨rfl, hm, hl⟩

theorem runWrites_allEnc (E : BlockFn) (evs : List Ev) :
    ∀ (d : Db), d.reg.master ≠ [] → LogsKeyed d → AllEnc (runWrites E d evs) := by
  induction evs with
  | nil => intro d _ _; rfl
  | cons ev evs ih =>
    intro d hm hl
    obtain ⟨h1, h2, h3⟩ := step_keyed E d ev hm hl
    exact allEnc_append h1 (ih _ h2 h3)

end Crypto

def C23_no_plaintextStatement : Prop :=
  ∀ (E : BlockFn) (master : Bytes) (rot : Int) (evs : List Ev), master ≠ [] →
    ∀ w ∈ runWrites E ⟨Registry.empty master rot, []⟩ evs, w.user = true → w.payload.isEnc = true

/-- The full statement, with no side condition (finding F23a, file head). With an encryption
    key, for every cipher, every rotation interval, every clock and every history of log-file
    creations, appends, table builds (flushes, compactions, stream writers) and MANIFEST changes:
    every write carrying user key / value bytes — the `key ‖ value` part of every WAL and
    value-log record, every table block, and the table index with its block base keys and bloom
    filter — has an `isEnc` payload (`.enc` under a data key; the other one, `.encMaster` under
    the master key, is written to the key registry only). Plaintext by design and free of user
    bytes: record headers (meta, user meta, key/value lengths, expiry) and CRCs, log-file headers
    (key id, base IV), block/index IVs, table footers, MANIFEST, LOCK. -/
theorem C23_no_plaintext : C23_no_plaintextStatement := by
  intro E master rot evs hm w hw hu
  have := List.all_eq_true.mp
    (runWrites_allEnc E evs ⟨Registry.empty master rot, []⟩ hm (by intro lf h; cases h)) w hw
  rwa [hu] at this

/-- Regression witness for finding F23a (file head). Under the OLD rule
    (`latestDataKeyOld`: age test first, then `kr.dataKeys[kr.nextKeyID]` whatever it is) a fresh
    registry with a master key, rotation interval `math.MaxInt64` ns and the clock in 2026 hands
    out NO data key — the log file is then bootstrapped with key id 0 and `logRecordWrites`
    emits the entry's `key ‖ value` as a `.plain` payload — while the rule in the tree creates
    data key 1. -/
theorem C23_F23a_regression_witness :
    ((Registry.empty [1] (2 ^ 63 - 1)).latestDataKeyOld 1790000000000000000 [9] 3).2 = none ∧
    (logRecordWrites .vlog none 4 20 ⟨[107], [118], 0, 0, 0⟩ []).any
      (fun w => w.user && !w.payload.isEnc) = true ∧
    (((Registry.empty [1] (2 ^ 63 - 1)).latestDataKey 1790000000000000000 [9] 3).2.map (·.id)) = some 1 := by
  decide

-- non-vacuity: user writes exist and are encrypted, also with the "never rotate" interval
example : (runWrites (fun _ _ _ => 0) ⟨Registry.empty [1] (2 ^ 63 - 1), []⟩
    [.newLog .vlog 1790000000000000000 [9] 3 4, .append 0 ⟨[107], [118], 0, 0, 0⟩ []]).any
      (fun w => w.user && w.payload.isEnc) = true := by decide

/-- The 12-byte sanity text distinguishes the two keys under this registry IV (fails for a
    cipher/key pair with probability 2⁻⁹⁶; an assumption about AES, not about badger). -/
def SanityDistinguishes (E : BlockFn) (key key' : Bytes) (iv : Nat) : Prop :=
  maybeXor E key' iv (maybeXor E key iv sanityText) ≠ sanityText

/-- A directory whose registry was written with `key` (possibly none) and opened
    with a different key `key'` of valid length (possibly none): `Open` fails with
    `ErrEncryptionKeyMismatch`, and the only file it wrote to is the LOCK pid file (written and
    removed): no registry, MANIFEST, memtable, value-log or table write. -/
theorem C23_wrong_key (E : BlockFn) (key key' : Bytes) (rot : Int) (iv fiv : Nat)
    (keys : List DataKey) (hlen : validKeyLen key' = true)
    (hd : SanityDistinguishes E key key' iv) :
    (openRegistry E key' rot fiv ⟨some (writeKeyRegistry E key iv keys)⟩).1 = .error .keyMismatch ∧
    ∀ w ∈ (openRegistry E key' rot fiv ⟨some (writeKeyRegistry E key iv keys)⟩).2, w.kind = .lock := by
  have hv : validRegistry E key' (writeKeyRegistry E key iv keys) = false := by
    unfold validRegistry writeKeyRegistry
    simp only
    exact beq_false_of_ne hd
  unfold openRegistry readKeyRegistry
  simp [hlen, hv]

/-- The right key opens the registry and yields exactly the data keys that were stored. -/
theorem C23_right_key (E : BlockFn) (key : Bytes) (rot : Int) (iv fiv : Nat) (keys : List DataKey)
    (hlen : validKeyLen key = true) :
    ∃ r, (openRegistry E key rot fiv ⟨some (writeKeyRegistry E key iv keys)⟩).1 = .ok r ∧
      r.dataKeys = keys ∧ r.master = key := by
  simp only [openRegistry, hlen, readKeyRegistry_write]
  exact ⟨_, rfl, rfl, rfl⟩

/-- A newly created data key takes the next id, so every key that could be looked up before is
    looked up unchanged afterwards. -/
theorem newDataKey_keeps (r : Registry) (now : Nat) (fk : Bytes) (fiv : Nat) (id : Nat) (k : DataKey)
    (hids : ∀ k' ∈ r.dataKeys, k'.id ≤ r.nextKeyID) (hk : r.lookup id = some k) :
    (r.newDataKey now fk fiv).1.lookup id = some k ∧
    (∀ k' ∈ (r.newDataKey now fk fiv).1.dataKeys, k'.id ≤ (r.newDataKey now fk fiv).1.nextKeyID) := by
  have hkid : k.id = id := key_of_find? DataKey.id hk
  have hle : id ≤ r.nextKeyID := hkid ▸ hids k (List.mem_of_find?_eq_some hk)
  refine ⟨?_, fun k' hk' => ?_⟩
  · simp only [Registry.newDataKey, Registry.lookup]
    rw [List.find?_append, find?_filter_key_ne DataKey.id _ (Nat.ne_of_lt (Nat.lt_succ_of_le hle)),
      show r.dataKeys.find? (fun k' => k'.id == id) = some k from hk]
    rfl
  · show k'.id ≤ r.nextKeyID + 1
    rcases List.mem_append.mp hk' with h | h
    · exact Nat.le_succ_of_le (hids k' (List.mem_filter.mp h).1)
    · rw [List.mem_singleton] at h; subst h; exact Nat.le_refl _

/-- Data-key rotation keeps old keys: whatever `LatestDataKey` does (reuse or create), every
    data key that could be looked up before is looked up unchanged afterwards (ids of new keys
    are larger than all existing ids), so every file written under it stays decodable
    (`C23_transparent`, `C23_transparent_block`). -/
theorem C23_rotation (r : Registry) (now : Nat) (fk : Bytes) (fiv : Nat) (id : Nat) (k : DataKey)
    (hids : ∀ k' ∈ r.dataKeys, k'.id ≤ r.nextKeyID) (hk : r.lookup id = some k) :
    (r.latestDataKey now fk fiv).1.lookup id = some k ∧
    (∀ k' ∈ (r.latestDataKey now fk fiv).1.dataKeys, k'.id ≤ (r.latestDataKey now fk fiv).1.nextKeyID) := by
  have hnew := newDataKey_keeps r now fk fiv id k hids hk
  unfold Registry.latestDataKey
  split
  · exact ⟨hk, hids⟩
  · split
    · split
      · exact ⟨hk, hids⟩
      · exact hnew
    · exact hnew

theorem le_maxNat {l : List Nat} {x : Nat} (h : x ∈ l) : x ≤ maxNat l := by
  induction l with
  | nil => cases h
  | cons y ys ih =>
    simp only [maxNat]
    rcases List.mem_cons.mp h with e | e
    · subst e; exact Nat.le_max_left _ _
    · exact Nat.le_trans (ih e) (Nat.le_max_right _ _)

/-- The side condition of `C23_rotation` holds for every registry read from a file (and
    trivially for a fresh one): no key id exceeds `nextKeyID`. -/
theorem C23_rotation_ids_of_read (E : BlockFn) (master : Bytes) (rot : Int) (f : RegFile) (r : Registry)
    (h : readKeyRegistry E master rot f = .ok r) : ∀ k ∈ r.dataKeys, k.id ≤ r.nextKeyID := by
  unfold readKeyRegistry at h
  split at h
  · cases h
  · cases h
    intro k hk
    exact le_maxNat (List.mem_map_of_mem hk)

/-- Master-key rotation (`badger rotate`): reading the registry with the old key and
    rewriting it with the new key succeeds, touches only the registry, and a subsequent open
    with the new key sees exactly the same data keys (same ids, same key material) — so every
    data file, none of which is rewritten, stays readable. -/
theorem C23_rotation_master (E : BlockFn) (oldKey newKey : Bytes) (iv fiv : Nat) (rot : Int)
    (keys : List DataKey) :
    ∃ f', rotateMaster E oldKey newKey fiv (writeKeyRegistry E oldKey iv keys) = .ok f' ∧
      ∃ r', readKeyRegistry E newKey rot f' = .ok r' ∧ r'.dataKeys = keys := by
  simp only [rotateMaster, readKeyRegistry_write]
  exact ⟨_, rfl, _, readKeyRegistry_write E newKey rot fiv keys, rfl⟩

-- non-vacuity: a toy cipher for which the sanity text distinguishes two keys
private def toyE : BlockFn := fun key ctr j => UInt8.ofNat (key.length + ctr + j)
example : SanityDistinguishes toyE (List.replicate 16 1) (List.replicate 32 1) 5 := by
  unfold SanityDistinguishes; decide
example : SanityDistinguishes toyE (List.replicate 16 1) [] 5 := by
  unfold SanityDistinguishes; decide

end Badger
