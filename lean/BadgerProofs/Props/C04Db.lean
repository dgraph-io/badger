import BadgerProofs.Props.C04
/-!
# C04, second half: pending writes are invisible to every other transaction

A `Set` / `Delete` (`Db.modify`) of transaction `id'` changes nothing any OTHER transaction can
observe through `Get`: the result depends only on the other transaction's own record, the LSM tree
and the clock. Together with `C01_db_snapshot` (a `Get` is a function of the COMMIT history) this
is "pending writes are never visible to any other transaction before the commit".
-/
namespace Badger

/-- **C04**: a pending write of transaction `id'` is invisible to a `Get` of any other transaction -/
theorem C04_db_pending_invisible (d : Db) (id id' : Nat) (hne : id ≠ id') (e : Ent) (k : Bytes) :
    ((d.modify id' e).1.txnGet id k).2 = (d.txnGet id k).2 :=
  ((C04_commit_invisible_before d id' e).2 id hne).1 k

end Badger
