import BadgerProofs.Props.C27
/-!
# C27 — the side condition `Buf.NoClash` in terms of the operation history

`Buf.NoClash` is the condition under which the emission order BEFORE badger commit 2dbbdab was
harmless (finding F8; today's order needs none, see `C27_last_wins`). `Buf.addAll {} ops` is the
buffer (`pendingWrites`, `duplicateWrites`) of one internal transaction after the operations `ops`
(`Txn.modify` each). Both lists are characterised by the history, for today's `Txn.modify`:
`pendingWrites[k]` is the last operation on `k`; `duplicateWrites` holds exactly the operations
directly followed, among the operations on their key, by one of a different raw version.
-/
namespace Badger

def lastOn (ops : List Ent) (k : Bytes) : Option Ent := ops.reverse.find? (·.key == k)

/-- the side condition of the old emission order in terms of the history of one internal transaction: whenever an operation `d`
    on a key is directly followed, among the operations on that key, by an operation `e'` with a different
    (raw) version, the resolved version of `d` differs from the resolved version of the key's last operation -/
def HistNoClash (cts : Nat) (ops : List Ent) : Prop :=
  ∀ (a b c : List Ent) (d e' : Ent), ops = a ++ d :: (b ++ e' :: c) → e'.key = d.key →
    (∀ x ∈ b, x.key ≠ d.key) → d.ver ≠ e'.ver →
    ∀ p, lastOn ops d.key = some p → effVer cts d.ver ≠ effVer cts p.ver

theorem lastOn_nil (k : Bytes) : lastOn [] k = none := rfl

theorem lastOn_cons (e : Ent) (l : List Ent) (k : Bytes) :
    lastOn (e :: l) k = (lastOn l k).or (if e.key == k then some e else none) := by
  unfold lastOn
  rw [List.reverse_cons, List.find?_append, List.find?_singleton]

theorem lastOn_eq_some_iff (l : List Ent) (k : Bytes) (o : Ent) :
    lastOn l k = some o ↔ o.key = k ∧ ∃ a b, l = a ++ o :: b ∧ ∀ x ∈ b, x.key ≠ k := by
  unfold lastOn
  rw [List.find?_eq_some_iff_append, beq_iff_eq]
  refine and_congr_right fun _ => ?_
  constructor
  · rintro ⟨as, bs, hl, hno⟩
    refine ⟨bs.reverse, as.reverse, by simpa using List.reverse_eq_iff.mp hl, fun x hx => ?_⟩
    simpa using hno x (List.mem_reverse.mp hx)
  · rintro ⟨a, b, hl, hno⟩
    refine ⟨b.reverse, a.reverse, by rw [hl]; simp, fun x hx => ?_⟩
    simpa using hno x (List.mem_reverse.mp hx)

theorem Buf.addAll_pending_find (b : Buf) (es : List Ent) (k : Bytes) :
    (b.addAll es).pending.find? (·.key == k) = (lastOn es k).or (b.pending.find? (·.key == k)) := by
  induction es generalizing b with
  | nil => rfl
  | cons e es ih =>
    show ((b.add e).addAll es).pending.find? _ = _
    rw [ih, Buf.add_pending_find, lastOn_cons, Option.or_assoc]
    cases e.key == k <;> rfl

/-- `duplicateWrites` after more operations: what it held, and every entry that was `pendingWrites[e.key]` when an
    operation `e` of another version arrived -/
theorem Buf.addAll_dups_mem (b : Buf) (es : List Ent) (d : Ent) :
    d ∈ (b.addAll es).dups ↔ d ∈ b.dups ∨ ∃ l e c, es = l ++ e :: c ∧
      (b.addAll l).pending.find? (·.key == e.key) = some d ∧ d.ver ≠ e.ver := by
  induction es generalizing b with
  | nil => simp [Buf.addAll]
  | cons e₀ es ih =>
    show d ∈ ((b.add e₀).addAll es).dups ↔ _
    rw [ih, Buf.add_dups_mem, or_assoc]
    refine or_congr_right ⟨?_, ?_⟩
    · rintro (h | ⟨l, e, c, rfl, h⟩)
      · exact ⟨[], e₀, es, rfl, h⟩
      · exact ⟨e₀ :: l, e, c, rfl, h⟩
    · rintro ⟨l, e, c, hl, h⟩
      rcases List.cons_eq_append_iff.mp hl with ⟨rfl, hc⟩ | ⟨l', rfl, rfl⟩
      · cases hc; exact .inl h
      · exact .inr ⟨l', e, c, rfl, h⟩

/-- `pendingWrites[k]` is the last operation on `k` -/
theorem C27_pending_is_last (ops : List Ent) (k : Bytes) :
    (Buf.addAll {} ops).pending.find? (·.key == k) = lastOn ops k := by
  rw [Buf.addAll_pending_find]
  exact Option.or_none

/-- `duplicateWrites` holds exactly the operations overwritten by an operation of a different version -/
theorem C27_dups_mem (ops : List Ent) (d : Ent) :
    d ∈ (Buf.addAll {} ops).dups ↔
      ∃ (a b c : List Ent) (e' : Ent), ops = a ++ d :: (b ++ e' :: c) ∧ e'.key = d.key ∧
        (∀ x ∈ b, x.key ≠ d.key) ∧ d.ver ≠ e'.ver := by
  rw [Buf.addAll_dups_mem]
  constructor
  · rintro (h | ⟨l, e', c, rfl, hl, hv⟩)
    · cases h
    · rw [C27_pending_is_last, lastOn_eq_some_iff] at hl
      obtain ⟨hk, a, b, rfl, hno⟩ := hl
      exact ⟨a, b, c, e', List.append_assoc a (d :: b) (e' :: c), hk.symm, hk ▸ hno, hv⟩
  · rintro ⟨a, b, c, e', rfl, hk, hno, hv⟩
    refine .inr ⟨a ++ d :: b, e', c, (List.append_assoc a (d :: b) (e' :: c)).symm, ?_, hv⟩
    rw [C27_pending_is_last, lastOn_eq_some_iff]
    exact ⟨hk.symm, a, b, rfl, hk ▸ hno⟩

theorem pending_mem_iff_last (ops : List Ent) (p : Ent) (k : Bytes) :
    (p ∈ (Buf.addAll {} ops).pending ∧ p.key = k) ↔ lastOn ops k = some p := by
  rw [← C27_pending_is_last]
  constructor
  · rintro ⟨hp, rfl⟩
    exact find?_key_of_mem Ent.key (Buf.addAll_keysDistinct Buf.empty_keysDistinct ops) hp
  · intro h
    exact ⟨List.mem_of_find?_eq_some h, key_of_find? Ent.key h⟩

theorem C27_noClash_iff_history (cts : Nat) (ops : List Ent) :
    (Buf.addAll {} ops).NoClash cts ↔ HistNoClash cts ops := by
  unfold Buf.NoClash HistNoClash
  constructor
  · intro h a b c d e' hops hk hno hv p hp
    have hd : d ∈ (Buf.addAll {} ops).dups := (C27_dups_mem ops d).mpr ⟨a, b, c, e', hops, hk, hno, hv⟩
    obtain ⟨hpm, hpk⟩ := (pending_mem_iff_last ops p d.key).mpr hp
    exact h d hd p hpm hpk.symm
  · intro h d hd p hp hk
    obtain ⟨a, b, c, e', hops, hk', hno, hv⟩ := (C27_dups_mem ops d).mp hd
    exact h a b c d e' hops hk' hno hv p ((pending_mem_iff_last ops p d.key).mp ⟨hp, hk.symm⟩)

def h27Key : Bytes := [0x6b]
def h27e5a : Ent := { key := h27Key, ver := 5, emeta := 0, umeta := 0, exp := 0, val := [1] }
def h27e7 : Ent := { key := h27Key, ver := 7, emeta := 0, umeta := 0, exp := 0, val := [2] }
def h27e5b : Ent := { key := h27Key, ver := 5, emeta := 0, umeta := 0, exp := 0, val := [3] }
def h27e9 : Ent := { key := h27Key, ver := 9, emeta := 0, umeta := 0, exp := 0, val := [4] }
def h27other : Ent := { key := [0x6c], ver := 5, emeta := 0, umeta := 0, exp := 0, val := [5] }

-- `pendingWrites[k]` / `lastOn` on a concrete history with two keys
example : lastOn [h27e5a, h27other, h27e7, h27e5b] h27Key = some h27e5b := by decide
example : (Buf.addAll {} [h27e5a, h27other, h27e7, h27e5b]).pending = [h27other, h27e5b] := by decide
-- `duplicateWrites` is non-empty there: both overwritten operations are recorded
example : (Buf.addAll {} [h27e5a, h27other, h27e7, h27e5b]).dups = [h27e5a, h27e7] := by decide
-- an operation overwritten by one of the SAME version is not recorded
example : (Buf.addAll {} [h27e5a, h27e5b]).dups = [] := by decide

/-- the A-B-A version pattern (finding F8) violates the history condition … -/
example : ¬ HistNoClash 0 [h27e5a, h27e7, h27e5b] := by
  rw [← C27_noClash_iff_history]; decide

/-- … and directly: the witness is `d = e5a`, `e' = e7`, last operation `e5b` -/
example : ¬ HistNoClash 0 [h27e5a, h27e7, h27e5b] := by
  intro h
  exact h [] [] [h27e5b] h27e5a h27e7 rfl rfl (by intro x hx; cases hx) (by decide) h27e5b (by decide) rfl

/-- A-B-A-C is harmless: the repeated version is not the key's last one -/
example : HistNoClash 0 [h27e5a, h27e7, h27e5b, h27e9] := by
  rw [← C27_noClash_iff_history]; decide

/-- version 0 resolves to the commit timestamp: `Set; DeleteAt 9; Set` clashes (both `ver = 0` operations
    resolve to `cts`, the first one is in `duplicateWrites`, the second is the key's last operation) -/
example : ¬ HistNoClash 3 [{ h27e5a with ver := 0 }, h27e9, { h27e5b with ver := 0 }] := by
  rw [← C27_noClash_iff_history]; decide

end Badger
