import BadgerProofs.Props.C16
import BadgerProofs.Lemmas.LogTorn
import BadgerProofs.Lemmas.LogZero
/-!
# C09 (log part) — a torn tail of a WAL / value log is recovered, not surfaced

`iterate` on a log whose tail is cut at an arbitrary byte `c`, the rest missing
(`C09_log_trunc`, unconditional) or zero-filled (`C09_log_zero_*`), delivers exactly the units
that lie entirely before the cut (`unitsBefore`), in order, and returns the end of the last of
them as `validEndOffset` (the offset `Open` truncates the file to). No byte of the damaged
record is ever delivered: the delivered list is literally `deliveredUnits … (unitsBefore …)`.
Whatever bytes follow the cut, it is enough that the torn candidate record completed by them is
not accepted (`log_cut_continued`).
(The MANIFEST part of C09 is `C09Manifest.lean`.)
-/
namespace Badger

/-- `unitsBefore` is maximal: the next unit does not fit before the cut. -/
theorem C09_unitsBefore_maximal (cipher : Nat → Nat → UInt8) (us : List LogUnit) :
    ∀ (off c : Nat) (u : LogUnit) (rest : List LogUnit),
    us = unitsBefore cipher off c us ++ u :: rest →
    c < encLen cipher off (unitsEntries (unitsBefore cipher off c us ++ [u])) := by
  intro off c u rest h
  obtain ⟨rest', h1, _, h3⟩ := unitsBefore_spec cipher us off c
  exact h3 u rest (List.append_cancel_left (h1.symm.trans h))

/-- The log cut at `c` and continued by arbitrary bytes `x`. It is enough that the torn record — `t`
    at offset `o` (`tornAt`), nothing or a strict prefix of a well-formed record — completed by `x` is
    not accepted. -/
theorem log_cut_continued (fid : Nat) (cipher : Nat → Nat → UInt8) (us : List LogUnit)
    (wf : ∀ u ∈ us, u.WF) (c : Nat) (x : Bytes)
    (hno : ∀ o t, tornAt cipher vlogHeaderSize c (unitsEntries us) = (o, t) →
      (t = [] ∨ ∃ ks e j, e.WF ∧ j < (encodeEntry ks e).length ∧ t = (encodeEntry ks e).take j) →
      TornRejected (cipher o) (t ++ x)) :
    iterate fid cipher ((encodeAll cipher vlogHeaderSize (unitsEntries us)).take c ++ x) =
      ⟨none, deliveredUnits fid cipher vlogHeaderSize (unitsBefore cipher vlogHeaderSize c us),
        vlogHeaderSize +
          encLen cipher vlogHeaderSize (unitsEntries (unitsBefore cipher vlogHeaderSize c us))⟩ := by
  obtain ⟨ts, p, tail, hts, hp, htake, htorn, htail⟩ := take_units cipher us vlogHeaderSize c wf
  rw [htake, List.append_assoc]
  exact C16_txn_units fid cipher _ (fun u hu => wf u ((unitsBefore_prefix cipher us _ _).subset hu))
    ts hts p hp _ (breaks_of_tornRejected _ (hno _ _ htorn htail))

/-- The tail is missing; no hypothesis. For every list of well-formed units and every cut `c`,
    iterating the first `c` bytes delivers exactly the units that fit entirely before the cut —
    a prefix of the units written, maximal (`C09_unitsBefore_maximal`) — and `validEndOffset`
    is the end of the last of them, a record boundary `≤ c`. An incomplete transaction (marker
    missing or torn) is dropped as a whole. -/
theorem C09_log_trunc (fid : Nat) (cipher : Nat → Nat → UInt8) (us : List LogUnit)
    (wf : ∀ u ∈ us, u.WF) (c : Nat) :
    iterate fid cipher ((encodeAll cipher vlogHeaderSize (unitsEntries us)).take c) =
      ⟨none, deliveredUnits fid cipher vlogHeaderSize (unitsBefore cipher vlogHeaderSize c us),
        vlogHeaderSize +
          encLen cipher vlogHeaderSize (unitsEntries (unitsBefore cipher vlogHeaderSize c us))⟩ ∧
    unitsBefore cipher vlogHeaderSize c us <+: us ∧
    encLen cipher vlogHeaderSize (unitsEntries (unitsBefore cipher vlogHeaderSize c us)) ≤ c := by
  refine ⟨?_, unitsBefore_prefix cipher us _ _, unitsBefore_len cipher us _ _⟩
  have := log_cut_continued fid cipher us wf c [] fun o t _ ht => by
    rw [List.append_nil]
    rcases ht with rfl | ⟨ks, e, j, hwf, hj, rfl⟩
    · exact .inl (safeRead_of_header_torn _ torn_eof)
    · exact .inl (C16_safeRead_prefix ks _ e hwf j hj)
  rwa [List.append_nil] at this

/-- The log is cut at `c` and followed by `n` zero bytes.
    Let `(o, t) = tornAt …` be the offset and surviving bytes of the torn record. If the torn
    candidate `t ++ 0ⁿ` is not accepted as a record (`TornRejected`, decidable), the result is the
    same as for the truncated log. -/
theorem C09_log_zero_operational (fid : Nat) (cipher : Nat → Nat → UInt8) (us : List LogUnit)
    (wf : ∀ u ∈ us, u.WF) (c n : Nat)
    (hno : TornRejected (cipher (tornAt cipher vlogHeaderSize c (unitsEntries us)).1)
      ((tornAt cipher vlogHeaderSize c (unitsEntries us)).2 ++ List.replicate n 0)) :
    iterate fid cipher ((encodeAll cipher vlogHeaderSize (unitsEntries us)).take c ++
        List.replicate n 0) =
      ⟨none, deliveredUnits fid cipher vlogHeaderSize (unitsBefore cipher vlogHeaderSize c us),
        vlogHeaderSize +
          encLen cipher vlogHeaderSize (unitsEntries (unitsBefore cipher vlogHeaderSize c us))⟩ :=
  log_cut_continued fid cipher us wf c _ fun _ _ h _ => by rwa [h] at hno

/-- A zero-filled tail behind a cut that falls exactly between two records (or beyond the end of the
    log): no hypothesis is needed. -/
theorem C09_log_zero_boundary (fid : Nat) (cipher : Nat → Nat → UInt8) (us : List LogUnit)
    (wf : ∀ u ∈ us, u.WF) (c n : Nat)
    (hb : (tornAt cipher vlogHeaderSize c (unitsEntries us)).2 = []) :
    iterate fid cipher ((encodeAll cipher vlogHeaderSize (unitsEntries us)).take c ++
        List.replicate n 0) =
      ⟨none, deliveredUnits fid cipher vlogHeaderSize (unitsBefore cipher vlogHeaderSize c us),
        vlogHeaderSize +
          encLen cipher vlogHeaderSize (unitsEntries (unitsBefore cipher vlogHeaderSize c us))⟩ := by
  apply C09_log_zero_operational fid cipher us wf c n
  rw [hb, List.nil_append]
  exact tornRejected_zeros _ n

/-- The log is cut at `c` and followed by `n` zero bytes.
    Under the sole hypothesis that the torn candidate record (`tornAt`: the surviving bytes of the
    first record that does not lie entirely before the cut, completed by the zeros) has no CRC
    collision — wherever `safeRead.Entry` gets as far as comparing checksums on it, they differ —
    `iterate` delivers exactly the units before the cut and returns the end of the last one.
    (`NoCrcCollision` is decidable; it is false e.g. when the lost bytes were zeros anyway, in
    which case nothing was damaged.) -/
theorem C09_log_zero (fid : Nat) (cipher : Nat → Nat → UInt8) (us : List LogUnit)
    (wf : ∀ u ∈ us, u.WF) (c n : Nat)
    (hno : NoCrcCollision ((tornAt cipher vlogHeaderSize c (unitsEntries us)).2 ++ List.replicate n 0)) :
    iterate fid cipher ((encodeAll cipher vlogHeaderSize (unitsEntries us)).take c ++
        List.replicate n 0) =
      ⟨none, deliveredUnits fid cipher vlogHeaderSize (unitsBefore cipher vlogHeaderSize c us),
        vlogHeaderSize +
          encLen cipher vlogHeaderSize (unitsEntries (unitsBefore cipher vlogHeaderSize c us))⟩ := by
  refine log_cut_continued fid cipher us wf c _ fun o t h ht => ?_
  rw [h] at hno
  rcases ht with rfl | ⟨ks, e, j, hwf, _, rfl⟩
  · exact tornRejected_zeros _ n
  · exact tornRejected_take_zeros ks _ e hwf j n hno

-- non-vacuity: a concrete cut log. Two units; the cut falls inside the end marker of the second.
set_option maxRecDepth 100000 in
example : (iterate 1 (fun _ => noKs)
    ((encodeAll (fun _ => noKs) 20 (unitsEntries exUnits)).take 70 ++ List.replicate 30 0)).endOffset = 40 := by
  decide +kernel

end Badger
