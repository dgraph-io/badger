import BadgerModel.Mvcc
import BadgerProofs.Lemmas.Txn
import BadgerProofs.Props.C04
/-!
# C05 — iterators return the visible keys exactly once, in order, honoring options

Model: `seekList` (the merged internal iterator after `Seek`/`Rewind`), `parseItems` (the
`parseItem`/`Next` loop, forward with `lastKey`, reverse with the FILL loop), `validPrefix`
(`Valid`/`ValidForPrefix`), `Db.iterate`. Specification (Lemmas/TxnSpec.lean): over the sorted merged
stream,

* `specScanFwd merged readTs since now prefix seekKey` — the entries from the first key
  `≥ seekKey`, up to the first key without the prefix, that are the newest version of their key
  inside the window `since < ver ≤ readTs` (`newestVisible`) and live;
* `specScanRev …` — the same filter over the reversed stream from the last key `≤ seekKey`;
* `specAllVersions stream readTs since` — every entry of the stream inside the window.

`C05_forward`, `C05_reverse`, `C05_allversions` are EQUALITIES between the model's loop and the
specification (fuel: the bound `Db.iterate` uses suffices, `C05_iterate_*`). The component
properties (`C05_exactly_once`, `C05_sound`, `C05_complete_fwd`, `mem_specScanRev`, `C05_seek_lands`,
`C05_prefix_stop`) are corollaries stated over the specification and transported by the
equalities.

Hypotheses, all explicit:
* `SortedEnts merged` — holds for `mergeAll` of sorted sources (`mergeAll_sorted`, C21/C14);
* `NoHidden o merged` — `InternalAccess`, or no entry whose *encoded* key starts with
  `!badger!` (internal keys are skipped entry by entry: `C05_internal_hidden`);
* forward + prefix: the seek key has the prefix (always true for `Rewind`, `C05_rewind_key`).
  `Seek(k)` with a `k` outside the prefix is outside this statement; the model (= the code)
  then lands wherever the first entry `≥ k@readTs` is.

Prefetch: the model has no prefetch parameter at all — `parseItems` is a
function of the merged stream and the options only, so the yielded (key, version, meta)
sequence is trivially independent of `PrefetchValues`/`PrefetchSize`; values are C06.
(There is no theorem to state: the parameter does not exist in the model.)
-/
namespace Badger

/-- `Rewind` (or `Seek` with an empty key) positions at the prefix, which has the prefix. -/
theorem C05_rewind_key (o : IterOpts) (seek : Option Bytes)
    (h : seek = none ∨ seek = some []) : o.prefix_.isPrefixOf (seekKeyOf o seek) = true := by
  rcases h with rfl | rfl <;> simp [seekKeyOf]

theorem C05_forward (merged : List Ent) (o : IterOpts) (readTs now fuel : Nat) (seek : Option Bytes)
    (hs : SortedEnts merged) (hrev : o.reverse = false) (hall : o.allVersions = false)
    (hn : NoHidden o merged) (hsk : o.prefix_.isPrefixOf (seekKeyOf o seek) = true)
    (hf : (seekList merged o readTs seek).length ≤ fuel) :
    parseItems o readTs now fuel none (seekList merged o readTs seek) =
      specScanFwd merged readTs o.sinceTs now o.prefix_ (seekKeyOf o seek) := by
  have hsub : (seekList merged o readTs seek).Sublist merged := by
    rw [seekList_eq, hrev]; exact seekFrom_sublist merged false _ _
  rw [parseItems_fwd o readTs now hall hrev fuel none _ hf,
    filter_scanVis (hn.sublist ((List.takeWhile_sublist _).trans hsub)), seekList_eq, hrev]
  exact fwdCore_spec merged hs readTs o.sinceTs now o.prefix_ _ hsk

/-- **Reverse iteration**: the FILL loop returns, for each key in descending order, the newest
    version inside the window, if live. -/
theorem C05_reverse (merged : List Ent) (o : IterOpts) (readTs now fuel : Nat) (seek : Option Bytes)
    (hs : SortedEnts merged) (hrev : o.reverse = true) (hall : o.allVersions = false)
    (hn : NoHidden o merged.reverse)
    (hf : 2 * (seekList merged o readTs seek).length + 1 ≤ fuel) :
    parseItems o readTs now fuel none (seekList merged o readTs seek) =
      specScanRev merged readTs o.sinceTs now (seekKeyOf o seek) := by
  have hsub : (seekList merged o readTs seek).Sublist merged.reverse := by
    rw [seekList_eq, hrev]; exact seekFrom_sublist merged true _ _
  have hd : SortedDesc (seekList merged o readTs seek) := (sortedDesc_reverse hs).sublist hsub
  rw [(parseItems_rev o readTs now hall hrev fuel).2 none _ hd (hn.sublist hsub) hf, seekList_eq, hrev]
  exact revCore_spec merged hs readTs o.sinceTs now _

/-- **AllVersions**: every version inside the window — delete markers and expired entries
    included — in stream order (forward: up to the prefix boundary). -/
theorem C05_allversions (merged : List Ent) (o : IterOpts) (readTs now fuel : Nat)
    (seek : Option Bytes) (hall : o.allVersions = true)
    (hn : NoHidden o (seekList merged o readTs seek))
    (hf : (seekList merged o readTs seek).length ≤ fuel) :
    parseItems o readTs now fuel none (seekList merged o readTs seek) =
      specAllVersions
        (if o.reverse then seekList merged o readTs seek
         else (seekList merged o readTs seek).takeWhile (fun e => o.prefix_.isPrefixOf e.key))
        readTs o.sinceTs := by
  rw [parseItems_all o readTs now hall fuel none _ hf]
  refine filter_scanVis (hn.sublist ?_) readTs
  split
  · exact List.Sublist.refl _
  · exact List.takeWhile_sublist _

/-- In forward `AllVersions` mode the versions of a key come newest first (the output is
    strictly increasing in the internal-key order: key ascending, version descending), and no
    `(key, version)` is yielded twice. -/
theorem C05_allversions_order (merged : List Ent) (o : IterOpts) (readTs : Nat) (seek : Option Bytes)
    (hs : SortedEnts merged) (hrev : o.reverse = false) :
    SortedEnts (specAllVersions
      ((seekList merged o readTs seek).takeWhile (fun e => o.prefix_.isPrefixOf e.key))
      readTs o.sinceTs) := by
  apply hs.sublist
  refine List.filter_sublist.trans ((List.takeWhile_sublist _).trans ?_)
  rw [seekList_eq, hrev]; exact seekFrom_sublist merged false _ _

/-- `AllVersions` yields exactly the versions with `since < ver ≤ readTs` (`since = 0`: no
    lower bound), whatever their meta. -/
theorem C05_allversions_mem (stream : List Ent) (readTs since : Nat) (x : Ent) :
    x ∈ specAllVersions stream readTs since ↔
      x ∈ stream ∧ x.ver ≤ readTs ∧ (since = 0 ∨ since < x.ver) := by
  simp only [specAllVersions, List.mem_filter, inWindow_iff]

/-- Without `InternalAccess` no entry whose encoded key starts with `!badger!` is ever yielded
    (forward and `AllVersions` modes; the reverse FILL loop does not re-test the candidate it
    replaces, exactly as `iterator.go`, so there the statement needs keys of ≥ 8 bytes, where
    "internal" is a property of the user key alone — not claimed here). -/
theorem C05_internal_hidden (o : IterOpts) (readTs now : Nat) (hia : o.internalAccess = false)
    (hmode : o.allVersions = true ∨ o.reverse = false) (fuel : Nat) (lk : Option Bytes) (l : List Ent) :
    ∀ x ∈ parseItems o readTs now fuel lk l, badgerPrefix.isPrefixOf x.ikey = false := by
  intro x hx
  have := ((parseItems_yield o readTs now fuel).2 lk l x hx).2.2.2 hmode
  rwa [hia] at this

/-- **Soundness**: every yielded item is an entry of the stream, the newest version of its key
    with `since < ver ≤ readTs`, live at `now`; its key is on the right side of the seek key and
    (forward) has the prefix. -/
theorem C05_sound (merged : List Ent) (hs : SortedEnts merged) (readTs since now : Nat) (pfx sk : Bytes) :
    (∀ x ∈ specScanFwd merged readTs since now pfx sk,
      x ∈ merged ∧ newestVisible merged readTs since x.key = some x ∧
      deletedOrExpired x.emeta x.exp now = false ∧ cmpBytes x.key sk ≠ .lt ∧
      pfx.isPrefixOf x.key = true) ∧
    (∀ x ∈ specScanRev merged readTs since now sk,
      x ∈ merged ∧ newestVisible merged readTs since x.key = some x ∧
      deletedOrExpired x.emeta x.exp now = false ∧ (sk.isEmpty = true ∨ cmpBytes x.key sk ≠ .gt)) := by
  constructor
  · intro x hx
    obtain ⟨htw, hy⟩ := List.mem_filter.mp hx
    obtain ⟨hm, hge⟩ := (mem_dropWhile_key_lt hs sk x).mp ((List.takeWhile_sublist _).subset htw)
    simp only [yieldable, Bool.and_eq_true, decide_eq_true_eq, Bool.not_eq_true'] at hy
    exact ⟨hm, hy.1, hy.2, hge, mem_takeWhile_imp (p := fun e : Ent => pfx.isPrefixOf e.key) htw⟩
  · intro x hx
    obtain ⟨h1, h2, h3, h4⟩ := (mem_specScanRev hs readTs since now sk x).mp hx
    exact ⟨h1, h3, h4, h2⟩

theorem C05_newestVisible_since_zero (merged : List Ent) (readTs : Nat) (k : Bytes) :
    newestVisible merged readTs 0 k = newestLE merged k readTs :=
  newestLE_filter_of (fun _ he => inWindow_iff.mpr ⟨he.2, .inl rfl⟩) merged

/-- **Completeness (forward)**: every key whose newest in-window version is live, at or after
    the seek key and with the prefix, is yielded — no visible key with the prefix at or after
    the seek position is omitted. (`hsk`: the seek key has the prefix.) -/
theorem C05_complete_fwd (merged : List Ent) (hs : SortedEnts merged) (readTs since now : Nat)
    (pfx sk : Bytes) (hsk : pfx.isPrefixOf sk = true) (y : Ent)
    (hnew : newestVisible merged readTs since y.key = some y)
    (hlive : deletedOrExpired y.emeta y.exp now = false)
    (hge : cmpBytes y.key sk ≠ .lt) (hp : pfx.isPrefixOf y.key = true) :
    y ∈ specScanFwd merged readTs since now pfx sk := by
  have hym : y ∈ merged := (List.mem_filter.mp (newestLE_some_mem hnew).1).1
  exact (mem_specScanFwd_iff hs readTs since now hsk y).mpr ⟨hym, hge, hp, hnew, hlive⟩

theorem head?_pairwise_mem {α : Type} {R : α → α → Prop} {l : List α} (hp : l.Pairwise R) {x y : α}
    (hx : l.head? = some x) (hy : y ∈ l) : y = x ∨ R x y := by
  cases l with
  | nil => cases hx
  | cons a tl =>
    rw [List.head?_cons, Option.some.injEq] at hx
    subst hx
    rcases List.mem_cons.mp hy with rfl | hy
    · exact .inl rfl
    · exact .inr ((List.pairwise_cons.mp hp).1 y hy)

/-- **Prefix boundary** (`Valid`/`ValidForPrefix`): everything the user sees has the prefix (for
    a key iterator: *is* the key); and in forward mode the scan already stops exactly at the
    boundary, so `Valid` cuts nothing (with `C05_complete_fwd`: nothing with the prefix at or
    after the seek position is omitted). -/
theorem C05_prefix_stop (o : IterOpts) (items : List Ent) :
    (∀ x ∈ validPrefix o items,
      (if o.prefixIsKey then x.key = o.prefix_ else o.prefix_.isPrefixOf x.key = true)) ∧
    (∀ (merged : List Ent) (readTs now : Nat) (sk : Bytes), SortedEnts merged → o.prefixIsKey = false →
      validPrefix o (specScanFwd merged readTs o.sinceTs now o.prefix_ sk) =
        specScanFwd merged readTs o.sinceTs now o.prefix_ sk) := by
  constructor
  · intro x hx
    have h := mem_takeWhile_imp hx
    by_cases hk : o.prefixIsKey = true
    · simpa [hk] using h
    · simpa [hk] using h
  · intro merged readTs now sk hs hk
    exact validPrefix_of_prefix hk fun x hx => ((C05_sound merged hs readTs o.sinceTs now o.prefix_ sk).1 x hx).2.2.2.2

/-- `Txn.NewIterator` + `Seek`/`Rewind` + the `Next` loop, forward: the items are the forward
    specification over the merged stream (pending writes first, then the LSM sources). -/
theorem C05_iterate_forward (d : Db) (id : Nat) (t : TxnM) (o : IterOpts) (seek : Option Bytes)
    (ht : d.findTxn id = some t) (hsrc : ∀ s ∈ d.lsm.sources, SortedEnts s)
    (hrev : o.reverse = false) (hall : o.allVersions = false)
    (hn : NoHidden o (mergeAll (pendingSource t :: d.lsm.sources)))
    (hsk : o.prefix_.isPrefixOf (seekKeyOf o seek) = true) :
    d.iterate id o seek =
      some (validPrefix o (specScanFwd (mergeAll (pendingSource t :: d.lsm.sources)) t.readTs o.sinceTs
        d.now o.prefix_ (seekKeyOf o seek))) := by
  rw [iterate_eq o seek ht, scanOut,
    C05_forward _ o t.readTs d.now _ seek (iterStream_sorted t hsrc) hrev hall hn hsk (by omega)]

theorem C05_iterate_reverse (d : Db) (id : Nat) (t : TxnM) (o : IterOpts) (seek : Option Bytes)
    (ht : d.findTxn id = some t) (hsrc : ∀ s ∈ d.lsm.sources, SortedEnts s)
    (hrev : o.reverse = true) (hall : o.allVersions = false)
    (hn : NoHidden o (mergeAll (pendingSource t :: d.lsm.sources)).reverse) :
    d.iterate id o seek =
      some (validPrefix o (specScanRev (mergeAll (pendingSource t :: d.lsm.sources)) t.readTs o.sinceTs
        d.now (seekKeyOf o seek))) := by
  rw [iterate_eq o seek ht, scanOut,
    C05_reverse _ o t.readTs d.now _ seek (iterStream_sorted t hsrc) hrev hall hn (by omega)]

/-- **Exactly once**: no user key is yielded twice and the keys are strictly monotone in the
    direction of iteration. -/
theorem C05_exactly_once (merged : List Ent) (hs : SortedEnts merged) (readTs since now : Nat)
    (pfx sk : Bytes) :
    (specScanFwd merged readTs since now pfx sk).Pairwise (fun a b => cmpBytes a.key b.key = .lt) ∧
    (specScanRev merged readTs since now sk).Pairwise (fun a b => cmpBytes b.key a.key = .lt) := by
  have hf : SortedEnts (specScanFwd merged readTs since now pfx sk) := hs.sublist (specScanFwd_sublist ..)
  have hr : SortedDesc (specScanRev merged readTs since now sk) :=
    (sortedDesc_reverse hs).sublist (specScanRev_sublist ..)
  exact ⟨hf.imp_of_mem fun ha hb hab => yieldable_key_lt (List.mem_filter.mp ha).2 (List.mem_filter.mp hb).2 hab,
    hr.imp_of_mem fun ha hb hab => yieldable_key_lt (List.mem_filter.mp hb).2 (List.mem_filter.mp ha).2 hab⟩

/-- **Seek lands** on the first visible key `≥ seek` (forward), `≤ seek` (reverse): the first yielded key is on
    the right side of the seek key, and every visible key on that side (forward: with the prefix) is yielded, so
    none lies before it. -/
theorem C05_seek_lands (merged : List Ent) (hs : SortedEnts merged) (readTs since now : Nat)
    (pfx sk : Bytes) (hsk : pfx.isPrefixOf sk = true) :
    (∀ x, (specScanFwd merged readTs since now pfx sk).head? = some x →
      cmpBytes x.key sk ≠ .lt ∧
      ∀ y, newestVisible merged readTs since y.key = some y →
        deletedOrExpired y.emeta y.exp now = false → cmpBytes y.key sk ≠ .lt →
        pfx.isPrefixOf y.key = true → cmpBytes x.key y.key ≠ .gt) ∧
    (∀ x, (specScanRev merged readTs since now sk).head? = some x →
      (sk.isEmpty = true ∨ cmpBytes x.key sk ≠ .gt) ∧
      ∀ y, newestVisible merged readTs since y.key = some y →
        deletedOrExpired y.emeta y.exp now = false → (sk.isEmpty = true ∨ cmpBytes y.key sk ≠ .gt) →
        cmpBytes y.key x.key ≠ .gt) := by
  refine ⟨fun x hx => ⟨((C05_sound merged hs readTs since now pfx sk).1 x (List.mem_of_head? hx)).2.2.2.1,
      fun y h1 h2 h3 h4 => ?_⟩,
    fun x hx => ⟨((C05_sound merged hs readTs since now [] sk).2 x (List.mem_of_head? hx)).2.2.2,
      fun y h1 h2 h3 => ?_⟩⟩
  · rcases head?_pairwise_mem (C05_exactly_once merged hs readTs since now pfx sk).1 hx
      (C05_complete_fwd merged hs readTs since now pfx sk hsk y h1 h2 h3 h4) with rfl | h
    · rw [cmpBytes_refl]; simp
    · rw [h]; simp
  · rcases head?_pairwise_mem (C05_exactly_once merged hs readTs since now pfx sk).2 hx
      ((mem_specScanRev hs readTs since now sk y).mpr
        ⟨(List.mem_filter.mp (newestLE_some_mem h1).1).1, h3, h1, h2⟩) with rfl | h
    · rw [cmpBytes_refl]; simp
    · rw [h]; simp

/-- A pending write is the newest in-window version of its key in the iterator's merged stream
    (whenever `readTs` is inside the window), hence — by `C05_sound`/`C05_complete_fwd`/`mem_specScanRev` — the
    iterator of the writing transaction shows the pending value, user meta, expiry or deletion
    for that key, and nothing else for that key. -/
theorem C05_pending_overlay (d : Db) (t : TxnM) (p : Ent) (since : Nat)
    (hsrc : ∀ s ∈ d.lsm.sources, SortedEnts s) (hp : p ∈ pendingSource t)
    (hw : since = 0 ∨ since < t.readTs) :
    newestVisible (mergeAll (pendingSource t :: d.lsm.sources)) t.readTs since p.key = some p := by
  obtain ⟨hmem, hver, hsorted, -, -⟩ := C04_iter_pending_first d t p hsrc hp
  unfold newestVisible
  rw [newestLE_sorted_some_iff (hsorted.filter _)]
  have hwin : inWindow t.readTs since p = true := inWindow_iff.mpr (by omega)
  refine ⟨List.mem_filter.mpr ⟨hmem, hwin⟩, rfl, by omega, ?_⟩
  intro x _ _ hx
  omega

-- a sorted stream with keys that are prefixes of one another, a delete marker, an expired
-- entry and versions above readTs; forward, reverse, AllVersions, SinceTs, prefix, seek.
def exStream : List Ent :=
  [ ⟨[0x61], 9, 0, 0, 0, [9]⟩, ⟨[0x61], 5, 0, 0, 0, [5]⟩, ⟨[0x61], 2, 0, 0, 0, [2]⟩,
    ⟨[0x61, 0x00], 4, 1, 0, 0, []⟩, ⟨[0x61, 0x00], 3, 0, 0, 0, [3]⟩,
    ⟨[0x61, 0xff], 6, 0, 0, 50, [6]⟩, ⟨[0x61, 0xff], 1, 0, 0, 0, [1]⟩,
    ⟨[0x62], 7, 0, 0, 0, [7]⟩ ]

example : List.Pairwise (fun a b => entCmp a b = .lt) exStream := by decide

example :
    (parseItems {} 7 100 20 none (seekList exStream {} 7 none)).map (fun e => (e.key, e.ver)) =
      [([0x61], 5), ([0x62], 7)] ∧
    parseItems {} 7 100 20 none (seekList exStream {} 7 none) = specScanFwd exStream 7 0 100 [] [] ∧
    (parseItems { reverse := true } 7 10 20 none (seekList exStream { reverse := true } 7 none)).map
        (fun e => (e.key, e.ver)) = [([0x62], 7), ([0x61, 0xff], 6), ([0x61], 5)] ∧
    parseItems { reverse := true } 7 10 20 none (seekList exStream { reverse := true } 7 none) =
      specScanRev exStream 7 0 10 [] ∧
    (parseItems { prefix_ := [0x61], sinceTs := 4 } 7 100 20 none
        (seekList exStream { prefix_ := [0x61], sinceTs := 4 } 7 (some [0x61, 0x00]))).map
        (fun e => (e.key, e.ver)) = [] ∧
    (parseItems { allVersions := true, prefix_ := [0x61, 0x00] } 7 100 20 none
        (seekList exStream { allVersions := true, prefix_ := [0x61, 0x00] } 7 none)).map
        (fun e => (e.key, e.ver)) = [([0x61, 0x00], 4), ([0x61, 0x00], 3)] := by
  decide

end Badger
