import BadgerProofs.Props.C08
import BadgerProofs.Lemmas.PowerMain
/-!
# C10 — with SyncWrites, acknowledged commits survive the loss of unsynced data

Power loss (`Fs.lean`): every inode independently keeps its page-cache content or the content
of its last `sync`; every name independently is bound as in the directory or as in the directory
of the last `syncDir` (`crashPowerWith`, all choices). The size a fresh file gets from
`ftruncate` right after `open(O_CREAT)` is taken to be durable with its directory entry.

* `C10_power_safe` (statement: `C10_power_safeStatement`) — the property for the code as it is
  (`Cfg.dirSyncFix = true`: the directory is fsynced after a `.mem` / `.vlog` file is created and
  between the msync of a flushed table and its MANIFEST record): for SyncWrites, every history,
  every power-loss choice, `Open` succeeds and finds the first `k` commits, `acked ≤ k ≤ issued`.
  Proof: `BadgerProofs/Lemmas/Power*.lean` — per name the four candidates a power loss can leave
  (`Fs.quad`), an invariant `PInv` over them on top of the kill invariant `Inv`, preserved by
  every step (`PInv_step`), and `power_recover`.
* Regression witnesses for the protocol *before* the repair of finding F4 (`dirSyncFix = false`:
  no directory fsync at those three places):
  - `C10_counterexample` : a commit acknowledged right after a memtable rotation is lost when
    the new `.mem`'s directory entry does not survive (recovered: nothing; acknowledged: 1);
  - `C10_counterexample_table` : a flushed table is recorded in the fsynced MANIFEST while its
    own directory entry is not durable: `Open` fails with "file does not exist for table 1".
  `C10_fixed_witness_wal` / `C10_fixed_witness_table`: the same two scenarios under the repaired
  protocol survive the loss of *everything* unsynced. Replay on the real code: corpus/C10/f4.ops.
-/
namespace Badger

def PowerSafe (R : ViewRel) (c : Cfg) : Prop :=
  ∀ (h : List Sched), SchedHistOk R (MState.init c).p h →
    ∀ (keepDir : Path → Bool) (keepData : Nat → Bool),
      ∃ r, recover false (crashPowerWith ((MState.init c).exec h).fs keepDir keepData) = .ok r ∧
        ∃ k, ((MState.init c).exec h).p.acked ≤ k ∧ k ≤ ((MState.init c).exec h).p.commits.length ∧
          R.r r.entries (txnsEnts (((MState.init c).exec h).p.commits.take k))

def C10_power_safeStatement (R : ViewRel) : Prop :=
  ∀ c : Cfg, c.syncWrites = true → c.dirSyncFix = true → PowerSafe R c

theorem C10_power_safe (R : ViewRel) : C10_power_safeStatement R := by
  intro c hsw hfix h hok kd ks
  obtain ⟨hwf, hI, hP⟩ := init_pinv R c hfix hsw
  obtain ⟨_, hI', hP'⟩ := exec_pinv R (MState.init c) h hwf hI hP hok
  exact power_recover R _ _ hI' hP' kd ks

/-- the same claim for the protocol before the repair of F4 (false: `C10_counterexample`) -/
def C10_power_safe_oldStatement (R : ViewRel) : Prop :=
  ∀ c : Cfg, c.syncWrites = true → c.dirSyncFix = false → PowerSafe R c

def f4Ent : CEnt := { key := [1], ver := 0, del := false, val := [1] }

/-- rotate the (empty) memtable, let the flusher drop it, commit one entry into the new
    `.mem` 2 and wait for the acknowledgement (SyncWrites: the WAL is msynced) -/
def f4History : List Sched :=
  [.flushReq, .w, .w, .w, .w, .f, .commit [f4Ent] false, .w, .w, .w, .w, .w, .w, .w]

def entsOf : Except RecErr RState → Option (List CEnt)
  | .ok r => some r.entries
  | .error _ => none

theorem C10_f4_facts :
    ((MState.init { dirSyncFix := false }).exec f4History).p.acked = 1 ∧
    ((MState.init { dirSyncFix := false }).exec f4History).p.commits = [{ ts := 1, ents := [{ f4Ent with ver := 1 }] }] ∧
    entsOf (recover false (crashPowerWith ((MState.init { dirSyncFix := false }).exec f4History).fs (fun p => p != .mem 2) (fun _ => true)))
      = some [] := by
  decide +kernel

/-- F4, first form: the acknowledged commit is gone after a power loss that takes the
    never-fsynced directory entry of the new WAL file -/
theorem C10_counterexample : ¬ C10_power_safe_oldStatement setView := by
  intro h
  obtain ⟨r, hr, k, hk1, hk2, hv⟩ := h { dirSyncFix := false } rfl rfl f4History (by simp [f4History, SchedHistOk])
    (fun p => p != .mem 2) (fun _ => true)
  obtain ⟨ha, hc, he⟩ := C10_f4_facts
  rw [hr] at he
  simp only [entsOf, Option.some.injEq] at he
  rw [ha] at hk1
  rw [hc] at hk2 hv
  have hk : k = 1 := by simp at hk2; omega
  subst hk
  have := (hv { f4Ent with ver := 1 }).mpr (by simp [txnsEnts])
  rw [he] at this
  simp at this

/-- commit, rotate, flush up to the fsync of the MANIFEST -/
def f4TableHistory : List Sched :=
  [.commit [f4Ent] false, .w, .w, .w, .w, .w, .w, .w, .flushReq, .w, .w, .w, .w, .f, .f, .f, .f, .f]

/-- F4, second form: the MANIFEST (fsynced) lists table 1, whose directory entry was never
    fsynced: `Open` fails with "file does not exist for table 1" -/
theorem C10_counterexample_table :
    errOf (recover false (crashPowerWith ((MState.init { dirSyncFix := false }).exec f4TableHistory).fs (fun p => p != .sst 1) (fun _ => true)))
      = some (.missingTable 1) := by
  decide +kernel

/-- `f4History` under the repaired protocol: the rotation has one more atom (the fsync of the
    directory after the new `.mem` is created) -/
def f4HistoryFixed : List Sched :=
  [.flushReq, .w, .w, .w, .w, .w, .f, .commit [f4Ent] false, .w, .w, .w, .w, .w, .w, .w]

/-- `f4TableHistory` under the repaired protocol, again up to the fsync of the MANIFEST: the
    rotation and the flush have one more atom each (the fsync of the directory: after the new
    `.mem` is created, and between the msync of the table and its MANIFEST record) -/
def f4TableHistoryFixed : List Sched :=
  [.commit [f4Ent] false, .w, .w, .w, .w, .w, .w, .w, .flushReq, .w, .w, .w, .w, .w, .f, .f, .f, .f, .f, .f]

/-- under the fixed protocol the commit of the first scenario survives even when *nothing*
    unsynced survives -/
theorem C10_fixed_witness_wal :
    entsOf (recover false (crashPowerWith ((MState.init {}).exec f4HistoryFixed).fs
      (fun _ => false) (fun _ => false))) = some [{ f4Ent with ver := 1 }] := by
  decide +kernel

/-- … and the second scenario re-opens (the entry is found in the table and in the not yet
    deleted WAL) -/
theorem C10_fixed_witness_table :
    entsOf (recover false (crashPowerWith ((MState.init {}).exec f4TableHistoryFixed).fs
      (fun _ => false) (fun _ => false))) = some [{ f4Ent with ver := 1 }, { f4Ent with ver := 1 }] := by
  decide +kernel

end Badger
