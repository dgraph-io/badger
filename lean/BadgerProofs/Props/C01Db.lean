import BadgerProofs.Props.C01Reach
import BadgerProofs.Props.C29
import BadgerProofs.Lemmas.DbInv
import BadgerProofs.Lemmas.Txn
import BadgerProofs.Lemmas.Buf
import BadgerModel.Reopen
import BadgerModel.Drop
/-!
# C01 / C03 / C34 composed: snapshot reads of the whole database model, for every history

`DbReach o hist d`: the database model `d` (`Mvcc.lean`: transactions, timestamp oracle, read
watermark, LSM tree) is reached from `Db.init o` in NORMAL mode by any finite sequence of
`begin`, `set`, `get`, iterator reads, `commit`, `discard`, memtable flushes, clock ticks,
`Close` + `Open`, `DropAll` and compactions that the production pickers can choose, run with any discard
timestamp not above `discardAtOrBelow` (the read watermark); `hist` is the list of entries the successful
commits wrote since the last `DropAll`, newest first.

`C01_db_snapshot`: in every reachable state, `Txn.Get` of a transaction that is not discarded
returns the newest committed write `≤ readTs` in `hist` (absent if deleted or
expired) — with NO hypothesis about the state: that the discard watermark never passes the read
timestamp of an open transaction (C34), that commit timestamps are fresh and above every open
reader (C03), and that flushes / compactions keep the reads (C12) are all derived along the run.

The invariant `DbL.Inv`: `DbL.Tree` (the tree is `Reach`ed from the commit history by compactions that
ran at or below the present discard watermark; managed mode, `Props/C36Db.lean`, keeps the same half),
every version of the history below `nextTs`, and `InvW` (`Lemmas/DbInv.lean`: the read watermark counts
every transaction that still holds its mark). A transaction step is a `SameStore` step (Lemmas/Txn.lean)
that replaces one record of the table (`InvW.replace`), takes a read mark (`InvW.begin`) or gives one
up (`InvW.finish`).
-/
namespace Badger

/-- what a successful commit of `t` writes in normal mode: the pending writes at `nextTs` -/
def normalEnts (d : Db) (t : TxnM) : List Ent :=
  t.pending.map (fun e => d.lsmForm { e with ver := d.nextTs, emeta := setBit e.emeta bitTxn })

/-- the entries the commit of transaction `id` adds to the history (newest first) -/
def Db.commitHist (d : Db) (id : Nat) : List Ent :=
  match d.findTxn id, (d.commit id 0).2 with
  | some t, .ok _ => (normalEnts d t).reverse
  | _, _ => []

inductive DbReach (o : Opts) : List Ent → Db → Prop
  | init (now : Nat) : DbReach o [] (Db.init o now)
  | begin {hist : List Ent} {d : Db} (r : DbReach o hist d) (id : Nat) (upd : Bool) :
      DbReach o hist (d.begin id upd 0).1
  | set {hist : List Ent} {d : Db} (r : DbReach o hist d) (id : Nat) (e : Ent) (hv : e.ver = 0) :
      DbReach o hist (d.modify id e).1
  | get {hist : List Ent} {d : Db} (r : DbReach o hist d) (id : Nat) (k : Bytes) :
      DbReach o hist (d.txnGet id k).1
  | reads {hist : List Ent} {d : Db} (r : DbReach o hist d) (id : Nat) (t : TxnM) (rs : List Bytes)
      (hf : d.findTxn id = some t) : DbReach o hist (d.setTxn { t with reads := rs })
  | discard {hist : List Ent} {d : Db} (r : DbReach o hist d) (id : Nat) : DbReach o hist (d.discardTxn id)
  | commit {hist : List Ent} {d : Db} (r : DbReach o hist d) (id : Nat) (hmax : d.nextTs ≤ maxU64) :
      DbReach o (d.commitHist id ++ hist) (d.commit id 0).1
  | flush {hist : List Ent} {d : Db} (r : DbReach o hist d) (fid : Nat) :
      DbReach o hist { d with lsm := d.lsm.flush fid }
  | tick {hist : List Ent} {d : Db} (r : DbReach o hist d) (now' : Nat) (h : d.now ≤ now') :
      DbReach o hist { d with now := now' }
  /-- `Close` (flush of the memtable) + `Open` on the same directory. Premise: the timestamps do
      not go back, i.e. the newest committed version is still stored (`MaxVersion()` counts stored
      entries only; the excluded case is finding F29: timestamps reused after a restart). -/
  | reopen {hist : List Ent} {d : Db} (r : DbReach o hist d) (fid : Nat)
      (hnext : d.nextTs ≤ ({ d with lsm := d.lsm.flush fid } : Db).closeOpen.nextTs) :
      DbReach o hist ({ d with lsm := d.lsm.flush fid } : Db).closeOpen
  /-- `DB.DropAll` (on-disk databases; `Db.dropAll`, BadgerModel/Drop.lean): the tree is emptied, the
      oracle, the watermarks and the open transactions stay; the committed history starts afresh. -/
  | dropall {hist : List Ent} {d : Db} (r : DbReach o hist d) (hmem : o.inMemory = false) :
      DbReach o [] d.dropAll
  | compact {hist : List Ent} {d : Db} {s' : Lsm} (r : DbReach o hist d) (cd : CompactDef) (dts : Nat)
      (hd : dts ≤ d.discardAtOrBelow)
      (hi : ChoiceIdxOk d.lsm cd) (htop : cd.top ≠ []) (hvc : validChoice d.lsm cd = true)
      (hdp : cd.dropPrefixes = []) (hs : d.lsm.compact cd dts d.opts.numKeep d.now = some s')
      (hcut : ∀ new0, splitSizes cd.outSizes (compactOutput d.lsm cd dts d.opts.numKeep d.now).1 = some new0 →
        CutsAtKeyChange (withIds new0 cd.outIds)) :
      DbReach o hist { d with lsm := s' }

namespace DbL

variable {o : Opts} {hist : List Ent} {d : Db}

/-- the tree is reached from the commit history, and no compaction has run at a discard timestamp
    above the present discard watermark or at a clock above the present one -/
structure Tree (o : Opts) (hist : List Ent) (d : Db) : Prop where
  opts : d.opts = o
  reach : ∃ dm nm, Reach d.opts.maxLevels hist dm nm d.lsm ∧ dm ≤ d.discardAtOrBelow ∧ nm ≤ d.now

theorem Tree.frame {d' : Db} (h : Tree o hist d) (ho : d'.opts = d.opts) (hl : d'.lsm = d.lsm)
    (hw : d.discardAtOrBelow ≤ d'.discardAtOrBelow) (hn : d.now ≤ d'.now) : Tree o hist d' := by
  obtain ⟨dm, nm, r, h1, h2⟩ := h.reach
  exact ⟨ho.trans h.opts, dm, nm, by rw [ho, hl]; exact r, Nat.le_trans h1 hw, Nat.le_trans h2 hn⟩

theorem Tree.init (o : Opts) (now : Nat) : Tree o [] (Db.init o now) :=
  ⟨rfl, 0, 0, Reach.init, Nat.zero_le _, Nat.zero_le _⟩

theorem Tree.flush (h : Tree o hist d) (fid : Nat) : Tree o hist { d with lsm := d.lsm.flush fid } := by
  obtain ⟨dm, nm, r, h1, h2⟩ := h.reach
  exact ⟨h.opts, dm, nm, Reach.flush r fid, h1, h2⟩

theorem Tree.compact (h : Tree o hist d) {s' : Lsm} (cd : CompactDef) (dts : Nat)
    (hd : dts ≤ d.discardAtOrBelow)
    (hi : ChoiceIdxOk d.lsm cd) (htop : cd.top ≠ []) (hvc : validChoice d.lsm cd = true)
    (hdp : cd.dropPrefixes = []) (hs : d.lsm.compact cd dts d.opts.numKeep d.now = some s')
    (hcut : ∀ new0, splitSizes cd.outSizes (compactOutput d.lsm cd dts d.opts.numKeep d.now).1 = some new0 →
      CutsAtKeyChange (withIds new0 cd.outIds)) : Tree o hist { d with lsm := s' } := by
  obtain ⟨dm, nm, r, h1, h2⟩ := h.reach
  exact ⟨h.opts, max dm dts, max nm d.now, Reach.compact r cd dts d.opts.numKeep d.now hi htop hvc hdp hs hcut,
    Nat.max_le.mpr ⟨h1, hd⟩, Nat.max_le.mpr ⟨h2, Nat.le_refl _⟩⟩

theorem Tree.commitGoes (h : Tree o hist d) {id cts : Nat} {t : TxnM} (hf : d.findTxn id = some t)
    (hg : commitGoes d t cts = true) (hfresh : FreshSeq hist (commitEntries d t (commitTsOf d cts)))
    (hw : d.discardAtOrBelow ≤ (d.commit id cts).1.discardAtOrBelow) :
    Tree o ((commitEntries d t (commitTsOf d cts)).reverse ++ hist) (d.commit id cts).1 := by
  obtain ⟨dm, nm, r, h1, h2⟩ := h.reach
  have g := commit_goes cts hf hg
  refine ⟨g.opts.trans h.opts, dm, nm, ?_, Nat.le_trans h1 hw, Nat.le_trans h2 (Nat.le_of_eq g.now.symm)⟩
  rw [g.opts, g.lsm, ← C01_foldl_putEnt]
  exact reach_fresh r _ hfresh

theorem Tree.tracks (h : Tree o hist d) : Tracks hist d.discardAtOrBelow d.now d.lsm := by
  obtain ⟨_, _, r, h1, h2⟩ := h.reach
  exact r.tracks.mono h1 h2

theorem Tree.txnGet (h : Tree o hist d) {id : Nat} {t : TxnM} {k : Bytes} (hf : d.findTxn id = some t)
    (hk : k.isEmpty = false) (hdisc : t.discarded = false)
    (hpend : (if t.update then t.pending.find? (·.key == k) else none) = none)
    (hts : d.discardAtOrBelow ≤ t.readTs) :
    (d.txnGet id k).2 = getResOf (visible d.now (newestLE hist k t.readTs)) := by
  have hp : pendingHit t k = none := hpend
  rw [← h.tracks.reads hts (Nat.le_refl _) k, txnGet_eq k hf,
    getAnswer_visible _ _ (List.isEmpty_eq_false_iff.mp hk) hdisc, hp]
  cases visible d.now (d.lsm.get k t.readTs) <;> rfl

/-- managed mode: the discard watermark is `discardTs`, which no transaction step touches -/
theorem Tree.frameM {d' : Db} (hm : o.managed = true) (h : Tree o hist d) (ho : d'.opts = d.opts)
    (hl : d'.lsm = d.lsm) (hw : d.discardTs ≤ d'.discardTs) (hn : d.now ≤ d'.now) : Tree o hist d' := by
  refine h.frame ho hl ?_ hn
  rw [discardAtOrBelow_managed (h.opts ▸ hm), discardAtOrBelow_managed (ho ▸ h.opts ▸ hm)]
  exact hw

theorem Tree.sameM {d' : Db} (hm : o.managed = true) (h : Tree o hist d) (s : SameStore d' d) : Tree o hist d' :=
  h.frameM hm s.opts s.lsm (Nat.le_of_eq s.discardTs.symm) (Nat.le_of_eq s.now.symm)

theorem discardAtOrBelow_le_normal {d' : Db} (hmd : d.opts.managed = false) (ho : d'.opts = d.opts)
    (hw : d.readMark.doneUntil ≤ d'.readMark.doneUntil) : d.discardAtOrBelow ≤ d'.discardAtOrBelow := by
  rw [discardAtOrBelow_normal hmd, discardAtOrBelow_normal (ho ▸ hmd)]
  exact hw

structure InvL (o : Opts) (hist : List Ent) (d : Db) : Prop where
  normal : d.opts.managed = false
  tree : Tree o hist d
  histLt : ∀ x ∈ hist, x.ver < d.nextTs

structure Inv (o : Opts) (hist : List Ent) (d : Db) : Prop where
  l : InvL o hist d
  w : InvW d.readMark d.nextTs d.txns

theorem Inv.nextPos (h : Inv o hist d) : 0 < d.nextTs := Nat.zero_lt_of_lt h.w.untilLt

theorem InvL.same {d' : Db} (h : InvL o hist d) (s : SameStore d' d)
    (hw : d.readMark.doneUntil ≤ d'.readMark.doneUntil) : InvL o hist d' :=
  ⟨s.opts ▸ h.normal, h.tree.frame s.opts s.lsm (discardAtOrBelow_le_normal h.normal s.opts hw) (Nat.le_of_eq s.now.symm),
    s.nextTs ▸ h.histLt⟩

theorem find_mem {id : Nat} {t : TxnM} (h : d.findTxn id = some t) : t ∈ d.txns :=
  List.mem_of_find?_eq_some h

theorem Inv.txnOk (h : Inv o hist d) {id : Nat} {t : TxnM} (hf : d.findTxn id = some t) : TxnOk d.nextTs t :=
  h.w.txns t (find_mem hf)

theorem Inv.setTxn (h : Inv o hist d) {id : Nat} {t t' : TxnM}
    (hf : d.findTxn id = some t) (hid : t'.id = t.id) (hok : TxnOk d.nextTs t')
    (hopen : ∀ i, isOpen i t' = true → isOpen i t = true) : Inv o hist (d.setTxn t') :=
  ⟨h.l.same (setTxn_same ..) (Nat.le_refl _),
    h.w.replace (find_mem hf) hid.symm hok hopen⟩

theorem init_inv (hm : o.managed = false) (now : Nat) : Inv o [] (Db.init o now) :=
  ⟨⟨hm, Tree.init o now, List.forall_mem_nil _⟩, InvW.fresh Nat.one_pos⟩

theorem begin_inv (h : Inv o hist d) (id : Nat) (upd : Bool) : Inv o hist (d.begin id upd 0).1 := by
  have hmd := h.l.normal
  have hle : d.readMark.doneUntil ≤ d.nextTs - 1 := Nat.le_sub_one_of_lt h.w.untilLt
  rw [begin_normal hmd]
  exact ⟨h.l.same ⟨rfl, rfl, rfl, rfl, rfl⟩ (WmL.marked h.w.ok _ _ hle).mono,
    h.w.begin _ rfl ⟨Nat.sub_lt h.nextPos Nat.one_pos, nofun, .nil, List.forall_mem_nil _, rfl⟩⟩

theorem TxnOk.finish {n : Nat} {t : TxnM} (tok : TxnOk n t) :
    TxnOk n { t with doneRead := true, discarded := true } :=
  ⟨tok.lt, fun _ => rfl, tok.keys, tok.vers, tok.nodups⟩

/-- `modTxn` is `Buf.add` on the transaction's buffer -/
theorem TxnOk.modTxn {n : Nat} {t : TxnM} (tok : TxnOk n t) (d : Db) {e : Ent} (hv : e.ver = 0) :
    TxnOk n (modTxn d t e) :=
  have hb := Buf.add_plain (b := ⟨t.pending, t.dups⟩) tok.vers tok.nodups hv
  ⟨tok.lt, tok.doneDisc, Buf.add_keysDistinct (b := ⟨t.pending, t.dups⟩) tok.keys e, hb.1, hb.2⟩

theorem set_inv (h : Inv o hist d) (id : Nat) (e : Ent) (hv : e.ver = 0) : Inv o hist (d.modify id e).1 := by
  rcases modify_cases d id e with h' | ⟨t, hf, h'⟩ <;> rw [h']
  · exact h
  · exact h.setTxn hf rfl ((h.txnOk hf).modTxn d hv) (fun i hi => hi)

theorem reads_inv (h : Inv o hist d) {id : Nat} {t : TxnM} (rs : List Bytes) (hf : d.findTxn id = some t) :
    Inv o hist (d.setTxn { t with reads := rs }) := by
  exact h.setTxn hf rfl { h.txnOk hf with } (fun i hi => hi)

theorem get_inv (h : Inv o hist d) (id : Nat) (k : Bytes) : Inv o hist (d.txnGet id k).1 := by
  rcases txnGet_fst d id k with e | ⟨t, hf, e⟩ <;> rw [e]
  · exact h
  · exact reads_inv h _ hf

theorem doneRead_mono (h : Inv o hist d) {id : Nat} {t : TxnM} (hf : d.findTxn id = some t) :
    d.readMark.doneUntil ≤ (d.doneRead t).1.readMark.doneUntil := by
  cases hdr : t.doneRead
  · rw [doneRead_open h.l.normal hdr]
    exact (WmL.marked h.w.ok _ _ (h.w.until_le (find_mem hf) hdr)).mono
  · rw [doneRead_done hdr]
    exact Nat.le_refl _

theorem finish_inv (h : Inv o hist d) {id : Nat} {t t' : TxnM}
    (hf : d.findTxn id = some t) (hid : t'.id = t.id) (hdone : t'.doneRead = true)
    (hok : TxnOk d.nextTs t') : Inv o hist ((d.doneRead t).1.setTxn t') := by
  refine ⟨h.l.same ((setTxn_same ..).trans (doneRead_same ..)) (doneRead_mono h hf), ?_⟩
  cases hdr : t.doneRead
  · rw [doneRead_open h.l.normal hdr]
    exact h.w.finish (find_mem hf) hid.symm hdr hdone hok
  · rw [doneRead_done hdr]
    exact h.w.replace (find_mem hf) hid.symm hok (fun i hi => by rw [(isOpen_iff.mp hi).1] at hdone; cases hdone)

theorem discard_inv (h : Inv o hist d) (id : Nat) : Inv o hist (d.discardTxn id) := by
  rcases discardTxn_cases d id with h' | ⟨t, hf, -, h'⟩ <;> rw [h']
  · exact h
  · exact finish_inv h hf rfl rfl (h.txnOk hf).finish

theorem flush_inv (h : Inv o hist d) (fid : Nat) : Inv o hist { d with lsm := d.lsm.flush fid } :=
  ⟨⟨h.l.normal, h.l.tree.flush fid, h.l.histLt⟩, h.w⟩

theorem tick_inv (h : Inv o hist d) (now' : Nat) (hn : d.now ≤ now') : Inv o hist { d with now := now' } :=
  ⟨⟨h.l.normal, h.l.tree.frame rfl rfl (Nat.le_refl _) hn, h.l.histLt⟩, h.w⟩

/-- the state after a successful commit, field by field -/
structure CommitOk (d : Db) (id : Nat) (t : TxnM) : Prop where
  res : (d.commit id 0).2 = .ok d.nextTs
  live : t.discarded = false
  opts : (d.commit id 0).1.opts = d.opts
  now : (d.commit id 0).1.now = d.now
  nextTs : (d.commit id 0).1.nextTs = d.nextTs + 1
  lsm : (d.commit id 0).1.lsm = (normalEnts d t).foldl (fun s e => s.putEnt e) d.lsm
  readMark : (d.commit id 0).1.readMark = (d.doneRead t).1.readMark
  txns : (d.commit id 0).1.txns = replaced d.txns { t with doneRead := true, discarded := true }

theorem commitEntries_normal (d : Db) (t : TxnM) (hv : ∀ e ∈ t.pending, e.ver = 0) (hd : t.dups = []) :
    commitEntries d t d.nextTs = normalEnts d t := by
  have hk : keepTogetherOf t = true := by
    unfold keepTogetherOf
    rw [hd, List.append_nil, List.all_eq_true]
    intro e he; simp [hv e he]
  unfold commitEntries normalEnts
  rw [hd, List.nil_append, hk]
  apply List.map_congr_left
  intro e he
  unfold finEnt
  simp [hv e he]

theorem commit_cases (h : Inv o hist d) (id : Nat) :
    (d.commitHist id = [] ∧ ((d.commit id 0).1 = d ∨ (d.commit id 0).1 = d.discardTxn id)) ∨
    ∃ t, d.findTxn id = some t ∧ commitGoes d t 0 = true ∧ d.commitHist id = (normalEnts d t).reverse ∧
      commitEntries d t (commitTsOf d 0) = normalEnts d t ∧ CommitOk d id t := by
  have hmd := h.l.normal
  rcases commit_stops_or_goes d id 0 with ⟨hd, hno⟩ | ⟨t, hf, hg, he⟩
  · -- nothing to write, a conflict or an error: no timestamp is answered
    refine .inl ⟨?_, hd⟩
    unfold Db.commitHist
    split
    · rename_i hok
      exact absurd hok (hno _)
    · rfl
  · have tok := h.txnOk hf
    have hdisc := (commitGoes_true hg).1
    obtain ⟨hres, hlsm, hnext, hopts, hnow, _⟩ := commit_goes 0 hf hg
    have hcts : commitTsOf d 0 = d.nextTs := by simp [commitTsOf, hmd]
    have hents : commitEntries d t (commitTsOf d 0) = normalEnts d t :=
      hcts ▸ commitEntries_normal d t tok.vers tok.nodups
    rw [hents, ← C01_foldl_putEnt] at hlsm
    rw [hcts] at hres
    obtain ⟨hmark, htxns, _⟩ := commitApply_normal hmd hf hdisc
    rw [← he] at hmark htxns
    have hh : d.commitHist id = (normalEnts d t).reverse := by
      unfold Db.commitHist
      rw [hf, hres]
    have hnext' : (d.commit id 0).1.nextTs = d.nextTs + 1 := by simpa [hmd] using hnext
    exact .inr ⟨t, hf, hg, hh, hents, { res := hres, live := hdisc, opts := hopts, now := hnow, nextTs := hnext',
                                          lsm := hlsm, readMark := hmark, txns := htxns }⟩

theorem normalEnts_ver (d : Db) (t : TxnM) : ∀ e ∈ normalEnts d t, e.ver = d.nextTs := by
  intro e he
  obtain ⟨x, _, rfl⟩ := List.mem_map.mp he
  rw [lsmForm_ver]

theorem mem_commitHist {id : Nat} {x : Ent} (h : x ∈ d.commitHist id) :
    ∃ t, d.findTxn id = some t ∧ x ∈ normalEnts d t := by
  unfold Db.commitHist at h
  split at h
  · rename_i t _ hf _
    exact ⟨t, hf, List.mem_reverse.mp h⟩
  · cases h

theorem normalEnts_keys (d : Db) (t : TxnM) (h : t.pending.Pairwise (fun a b => a.key ≠ b.key)) :
    (normalEnts d t).Pairwise (fun a b => a.key ≠ b.key) := by
  unfold normalEnts
  rw [List.pairwise_map]
  exact h.imp (fun hab => by rw [lsmForm_key, lsmForm_key]; exact hab)

theorem commit_inv (h : Inv o hist d) (id : Nat) (hmax : d.nextTs ≤ maxU64) :
    Inv o (d.commitHist id ++ hist) (d.commit id 0).1 := by
  rcases commit_cases h id with ⟨hh, hd | hd⟩ | ⟨t, hf, hg, hh, hents, ok⟩ <;> rw [hh]
  · rw [hd]; exact h
  · rw [hd]; exact discard_inv h id
  · have tok := h.txnOk hf
    refine ⟨⟨ok.opts ▸ h.l.normal, ?_, fun x hx => ?_⟩, ?_⟩
    · -- a commit at the fresh timestamp `nextTs`, one entry per key, is a commit of fresh entries
      rw [← hents]
      refine h.l.tree.commitGoes hf hg ?_ (discardAtOrBelow_le_normal h.l.normal ok.opts ?_)
      · rw [hents]
        exact freshSeq_uniform (normalEnts_ver d t) h.nextPos hmax (normalEnts_keys d t tok.keys)
          fun x hx _ _ _ => h.l.histLt x hx
      · rw [ok.readMark]
        exact doneRead_mono h hf
    · rw [ok.nextTs]
      rcases List.mem_append.mp hx with hx | hx
      · exact Nat.lt_succ_of_le (Nat.le_of_eq (normalEnts_ver d t x (List.mem_reverse.mp hx)))
      · exact Nat.lt_succ_of_lt (h.l.histLt x hx)
    · -- the table and the watermark are those of the state in which only the read mark was released
      have := (finish_inv h hf (t' := { t with doneRead := true, discarded := true }) rfl rfl tok.finish).w
      rw [setTxn_readMark, setTxn_nextTs, (doneRead_same d t).nextTs] at this
      rw [show ((d.doneRead t).1.setTxn _).txns = replaced (d.doneRead t).1.txns _ from rfl, doneRead_txns] at this
      rw [ok.nextTs, ok.readMark, ok.txns]
      exact this.mono (Nat.le_succ _)

theorem insertById_cons (t x : Tbl) (xs : List Tbl) :
    insertById t (x :: xs) = x :: insertById t xs ∨ insertById t (x :: xs) = t :: x :: xs := by
  rw [insertById]
  split
  · exact .inr rfl
  · exact .inl rfl

theorem sortTblsById_perm (l : List Tbl) : (sortTblsById l).Perm l :=
  foldr_insert_perm (ins := insertById) (fun _ => rfl) insertById_cons l

/-- what `Close` + `Open` make of `d`: options and clock kept, no transaction, everything below the new
    `nextTs` done, the tree as it was up to the order of level 0 -/
structure Reopened (d d' : Db) : Prop where
  opts : d'.opts = d.opts
  now : d'.now = d.now
  txns : d'.txns = []
  readMark : d'.readMark = { pend := [], doneUntil := d'.nextTs - 1 }
  nextPos : 0 < d'.nextTs
  lsm : d'.lsm = d.lsm ∨ ∃ l0 rest, d.lsm.levels = l0 :: rest ∧ d'.lsm = { d.lsm with levels := sortTblsById l0 :: rest }

theorem closeOpen_fields (d : Db) : Reopened d d.closeOpen := by
  refine ⟨rfl, rfl, rfl, rfl, Nat.succ_pos _, ?_⟩
  unfold Db.closeOpen
  cases hl : d.lsm.levels with
  | nil => exact .inl rfl
  | cons l0 rest => exact .inr ⟨l0, rest, rfl, rfl⟩

theorem closeOpen_inv (h : Inv o hist d) (hnext : d.nextTs ≤ d.closeOpen.nextTs) :
    Inv o hist d.closeOpen := by
  have hmd := h.l.normal
  obtain ⟨dm, nm, R, a, b⟩ := h.l.tree.reach
  rw [discardAtOrBelow_normal hmd] at a
  have hlt := h.w.untilLt
  have f := closeOpen_fields d
  generalize d.closeOpen = d' at *
  have hR : Reach d'.opts.maxLevels hist dm nm d'.lsm := by
    rw [f.opts]
    rcases f.lsm with e | ⟨l0, rest, hl, e⟩ <;> rw [e]
    · exact R
    · exact Reach.resort R hl (sortTblsById_perm l0)
  have hmd' : d'.opts.managed = false := by rw [f.opts]; exact hmd
  refine ⟨⟨hmd', ⟨f.opts.trans h.l.tree.opts, dm, nm, hR, ?_, Nat.le_trans b (Nat.le_of_eq f.now.symm)⟩,
    fun x hx => Nat.lt_of_lt_of_le (h.l.histLt x hx) hnext⟩, ?_⟩
  · rw [discardAtOrBelow_normal hmd', f.readMark]
    show dm ≤ d'.nextTs - 1
    omega
  · rw [f.readMark, f.txns]
    exact InvW.fresh f.nextPos

theorem dropall_inv (h : Inv o hist d) (hmem : o.inMemory = false) : Inv o [] d.dropAll := by
  obtain ⟨dm, nm, R, _, _⟩ := h.l.tree.reach
  have ho : d.dropAll.opts = d.opts := by
    unfold Db.dropAll
    rw [h.l.tree.opts, hmem]
    rfl
  have hl : d.dropAll.lsm = Lsm.init d.opts.maxLevels :=
    (Lsm.dropAll_eq_init d.lsm).trans (congrArg Lsm.init (reach_levels_length R))
  have ht : Tree o [] d.dropAll :=
    ⟨ho.trans h.l.tree.opts, 0, 0, by rw [ho, hl]; exact Reach.init, Nat.zero_le _, Nat.zero_le _⟩
  exact ⟨⟨ho ▸ h.l.normal, ht, List.forall_mem_nil _⟩, h.w⟩

theorem inv_of_reach (hm : o.managed = false) (r : DbReach o hist d) : Inv o hist d := by
  induction r with
  | init now => exact init_inv hm now
  | begin _ id upd ih => exact begin_inv ih id upd
  | set _ id e hv ih => exact set_inv ih id e hv
  | get _ id k ih => exact get_inv ih id k
  | reads _ id t rs hf ih => exact reads_inv ih rs hf
  | discard _ id ih => exact discard_inv ih id
  | commit _ id hmax ih => exact commit_inv ih id hmax
  | flush _ fid ih => exact flush_inv ih fid
  | tick _ now' hn ih => exact tick_inv ih now' hn
  | reopen _ fid hnext ih => exact closeOpen_inv (flush_inv ih fid) hnext
  | dropall _ hmem ih => exact dropall_inv ih hmem
  | compact _ cd dts hd hi htop hvc hdp hs hcut ih =>
    exact ⟨⟨ih.l.normal, ih.l.tree.compact cd dts hd hi htop hvc hdp hs hcut, ih.l.histLt⟩, ih.w⟩

theorem tree_of_reach (hm : o.managed = false) (r : DbReach o hist d) : Tree o hist d :=
  (inv_of_reach hm r).l.tree

end DbL

/-- **C34 at database level**: in every reachable state the discard watermark is at or below the
    read timestamp of every transaction that has not been discarded — compactions can never drop
    a version an open transaction may still read. -/
theorem C34_db_discard_below_open {o : Opts} {hist : List Ent} {d : Db} (hm : o.managed = false)
    (r : DbReach o hist d) {id : Nat} {t : TxnM} (hf : d.findTxn id = some t) (hdisc : t.discarded = false) :
    d.discardAtOrBelow ≤ t.readTs := by
  have h := DbL.inv_of_reach hm r
  have hopen : t.doneRead = false := by
    cases hd : t.doneRead
    · rfl
    · rw [(h.txnOk hf).doneDisc hd] at hdisc; cases hdisc
  rw [discardAtOrBelow_normal h.l.normal]
  exact h.w.until_le (DbL.find_mem hf) hopen

/-- **C01 for the whole database model, every history**: `Txn.Get` of a key the transaction has not
    written itself returns the newest committed write `≤ readTs` of the key in `hist` (the commits
    since the last `DropAll`), absent if that is a delete marker or expired — in every state
    reachable by any sequence of transaction steps, flushes, clock ticks, `Close` + `Open`,
    `DropAll` and picker-valid compactions at any discard timestamp up to the watermark. -/
theorem C01_db_snapshot {o : Opts} {hist : List Ent} {d : Db} (hm : o.managed = false)
    (r : DbReach o hist d) {id : Nat} {t : TxnM} {k : Bytes} (hf : d.findTxn id = some t)
    (hk : k.isEmpty = false) (hdisc : t.discarded = false)
    (hpend : (if t.update then t.pending.find? (·.key == k) else none) = none) :
    (d.txnGet id k).2 = getResOf (visible d.now (newestLE hist k t.readTs)) :=
  (DbL.tree_of_reach hm r).txnGet hf hk hdisc hpend (C34_db_discard_below_open hm r hf hdisc)

/-- **C03 at database level**: a successful commit writes all its entries at ONE timestamp that is
    above every version committed before and above the read timestamp of every transaction in the
    table (so no open transaction can see part of it). -/
theorem C03_db_commit_fresh {o : Opts} {hist : List Ent} {d : Db} (hm : o.managed = false)
    (r : DbReach o hist d) (id : Nat) :
    ∀ e ∈ d.commitHist id, e.ver = d.nextTs ∧ (∀ x ∈ hist, x.ver < e.ver) ∧ ∀ t ∈ d.txns, t.readTs < e.ver := by
  have h := DbL.inv_of_reach hm r
  intro e he
  obtain ⟨t, _, he⟩ := DbL.mem_commitHist he
  have hv := DbL.normalEnts_ver d t e he
  refine ⟨hv, fun x hx => by have := h.l.histLt x hx; omega, fun t ht => by have := (h.w.txns t ht).lt; omega⟩

/-- **repeatable reads**: the commit of any transaction leaves the snapshot of every transaction in
    the table unchanged. -/
theorem C01_db_repeatable {o : Opts} {hist : List Ent} {d : Db} (hm : o.managed = false)
    (r : DbReach o hist d) (id : Nat) {t : TxnM} (ht : t ∈ d.txns) (k : Bytes) :
    newestLE (d.commitHist id ++ hist) k t.readTs = newestLE hist k t.readTs := by
  rw [newestLE_append]
  have : newestLE (d.commitHist id) k t.readTs = none := by
    apply newestLE_eq_none_iff.mpr
    intro x hx hc
    have := (C03_db_commit_fresh hm r id x hx).2.2 t ht
    omega
  rw [this, pick_none_left]

/-! ## non-vacuity: a concrete run — commit `[1] ↦ [7]`, then a reader begun afterwards sees it -/

def C01_dbOpts : Opts := { maxBatchCount := 1000, maxBatchSize := 100000 }
def C01_dbE : Ent := ⟨[1], 0, 0, 0, 0, [7]⟩
def C01_dbD2 : Db := (((Db.init C01_dbOpts 0).begin 1 true 0).1.modify 1 C01_dbE).1
def C01_dbD4 : Db := ((C01_dbD2.commit 1 0).1.begin 2 false 0).1

theorem C01_db_example_reach : DbReach C01_dbOpts (C01_dbD2.commitHist 1 ++ []) C01_dbD4 :=
  DbReach.begin (DbReach.commit (DbReach.set (DbReach.begin (DbReach.init 0) 1 true) 1 C01_dbE rfl) 1 (by decide)) 2 false

theorem C01_db_example_hist : (C01_dbD2.commitHist 1).map (fun e => (e.key, e.ver, e.val)) = [([1], 1, [7])] := by decide

theorem C01_db_example_read :
    (match (C01_dbD4.txnGet 2 [1]).2 with
      | .found e v => e.val == [7] && v == 1
      | _ => false) = true := by decide

end Badger
