import BadgerProofs.Props.C24
import BadgerProofs.Props.C25
/-!
# C24 ∘ C25: the key-range split of a backup run is irrelevant — all producers read at the run's one
timestamp (`Stream.beginRun`; finding F7 is what happens otherwise) — so `C24_full` / `C24_incremental`
(stated for the unsplit run `backupKVs`) speak about every `backupRun` whose producers share their read timestamp.
-/
namespace Badger

/-- For any split points (all that `NumGo` can influence), a `DB.Backup(w, since)` whose
    producers all read at the run's timestamp `R` (`Stream.beginRun`) writes, range by range, exactly the KVs of `backupKVs`, and
    returns the maximum version among them. -/
theorem C24_split_irrelevant (view : List Ent) (hs : SortedEnts view) (since R now : Nat)
    (splits : List Bytes) (hne : ∀ s ∈ splits, s ≠ []) :
    (backupRun view [] since since now (splitRanges splits) R).lists.flatten = backupKVs view since R now ∧
    (backupRun view [] since since now (splitRanges splits) R).maxVersion =
      maxVersionOf (backupKVs view since R now) := by
  have h : (backupRun view [] since since now (splitRanges splits) R).lists.flatten =
      backupKVs view since R now :=
    C25_concat view hs (backupCfg [] since since now) R now splits hne (fun s _ => by simp [backupCfg])
  exact ⟨h, congrArg maxVersionOf h⟩

example : (backupRun C24Aux.exView [] 0 0 0 (splitRanges [[2]]) 5).lists.flatten = backupKVs C24Aux.exView 0 5 0 := by
  decide

end Badger
