import BadgerProofs.Lemmas.Sorted
/-!
# C13 — what the compaction filter (`subcompact` = the `addKeys` loop of levels.go) retains

For a sorted input stream `es` and no `dropPrefixes`, the filter is characterised *exactly*
(`C13_keep_n`, and in equational form `subcompact_eq_filter`) by three readable predicates
of the list:

* `counted p e`      — `e.ver ≤ discardTs` and `e` is not a merge entry (the versions the loop counts);
* `stops p es e`     — `e` is counted and is dead (deleted/expired at `p.now`), or carries
                       `bitDiscardEarlierVersions`, or is the `numKeep`-th counted version of its key;
* `belowBoundary p es e` — some strictly newer version of the same key `stops`.

The first entry of a key that `stops` is the *boundary* (`isBoundary`). An entry is dropped iff it
is below a boundary, or it is itself a dead boundary and `hasOverlap = false`. With `dropPrefixes` it is the
filter `notDropped` followed by the loop without prefixes (`subcompact_dropPrefixes`).
-/
namespace Badger

/-- the versions the loop counts: at or below the discard watermark and not a merge entry -/
def counted (p : CParams) (e : Ent) : Bool :=
  decide (e.ver ≤ p.discardTs) && !hasBit e.emeta bitMerge

/-- deleted or expired on the compaction's clock -/
def deadAt (p : CParams) (e : Ent) : Bool := deletedOrExpired e.emeta e.exp p.now

/-- number of counted versions of `e`'s key that are strictly newer than `e` -/
def countedBefore (p : CParams) (es : List Ent) (e : Ent) : Nat :=
  (es.filter (fun x => decide (x.key = e.key ∧ e.ver < x.ver) && counted p x)).length

/-- `e` makes the loop set `skipKey`: it is counted and dead / discard-earlier / the `numKeep`-th -/
def stops (p : CParams) (es : List Ent) (e : Ent) : Bool :=
  counted p e &&
    (deadAt p e || hasBit e.emeta bitDiscardEarlier || countedBefore p es e + 1 == p.numKeep)

/-- a strictly newer version of the same key stops -/
def belowBoundary (p : CParams) (es : List Ent) (e : Ent) : Bool :=
  es.any (fun x => decide (x.key = e.key ∧ e.ver < x.ver) && stops p es x)

/-- the boundary of a key: its first (newest) version that stops -/
def isBoundary (p : CParams) (es : List Ent) (e : Ent) : Bool :=
  stops p es e && !belowBoundary p es e

/-- the retention rule -/
def keeps (p : CParams) (es : List Ent) (e : Ent) : Bool :=
  !belowBoundary p es e && !(isBoundary p es e && deadAt p e && !p.hasOverlap)

theorem hasAnyPrefix_nil (ik : Bytes) : hasAnyPrefix ik [] = false := rfl

/-- `numVersions` as seen by entry `e` (after the `lastKey` reset) -/
def baseCount (st : FState) (e : Ent) : Nat :=
  if st.lastKey = some e.key then st.numVersions else 0

/-- the `lastKey` reset at the top of `filtStep`, in the shape it has after unfolding -/
theorem filtStep_reset (st : FState) (e : Ent) :
    (if (st.lastKey != some e.key) = true then ({ lastKey := some e.key } : FState)
      else { lastKey := st.lastKey, numVersions := st.numVersions }) =
    { lastKey := some e.key, skipKey := none, numVersions := baseCount st e } := by
  unfold baseCount
  by_cases hl : st.lastKey = some e.key <;> simp [hl]

/-- `stops`, as the loop evaluates it from its own counter -/
def stopsAt (p : CParams) (st : FState) (e : Ent) : Bool :=
  counted p e &&
    (deadAt p e || hasBit e.emeta bitDiscardEarlier || baseCount st e + 1 == p.numKeep)

/-- An entry that is not skipped sets `skipKey` iff it stops, and is written unless it stops, is dead
    and nothing overlaps below. -/
theorem filtStep_eq (p : CParams) (hp : p.dropPrefixes = []) (st : FState) (e : Ent) :
    filtStep p st e =
      if st.skipKey = some e.key then (st, false) else
      ({ lastKey := some e.key, skipKey := if stopsAt p st e then some e.key else none,
         numVersions := if counted p e then baseCount st e + 1 else baseCount st e },
        !(stopsAt p st e && deadAt p e && !p.hasOverlap)) := by
  unfold filtStep stopsAt counted deadAt
  rw [hp, hasAnyPrefix_nil]
  simp only [Bool.false_eq_true, if_false, beq_iff_eq, filtStep_reset]
  split
  · rfl
  · generalize (decide (e.ver ≤ p.discardTs) && !hasBit e.emeta bitMerge) = c
    generalize deletedOrExpired e.emeta e.exp p.now = d
    generalize hasBit e.emeta bitDiscardEarlier = b
    generalize (baseCount st e + 1 == p.numKeep) = n
    cases c
    · rfl
    · cases d <;> cases b <;> cases n <;> cases p.hasOverlap <;> rfl

theorem belowBoundary_eq_true {p : CParams} {es : List Ent} {e : Ent} :
    belowBoundary p es e = true ↔
      ∃ x ∈ es, (x.key = e.key ∧ e.ver < x.ver) ∧ stops p es x = true := by
  simp only [belowBoundary, List.any_eq_true, Bool.and_eq_true, decide_eq_true_eq]

theorem belowBoundary_eq_false {p : CParams} {es : List Ent} {e : Ent} :
    belowBoundary p es e = false ↔
      ∀ x ∈ es, x.key = e.key → e.ver < x.ver → stops p es x = false := by
  simp only [belowBoundary, List.any_eq_false, Bool.and_eq_true, decide_eq_true_eq, not_and,
    Bool.not_eq_true, and_imp]

theorem isBoundary_eq_true {p : CParams} {es : List Ent} {e : Ent} :
    isBoundary p es e = true ↔ stops p es e = true ∧ belowBoundary p es e = false := by
  simp only [isBoundary, Bool.and_eq_true, Bool.not_eq_true']

theorem stops_of_not_counted {p : CParams} {e : Ent} (h : counted p e = false) (es : List Ent) :
    stops p es e = false := by
  rw [stops, h, Bool.false_and]

/-- same-key entries of a sorted list are contiguous: if the prefix before `e` holds an entry
    of `e`'s key then the last entry of the prefix has that key -/
theorem lastKey_of_sorted {pre rest : List Ent} {e x : Ent} (h : SortedEnts (pre ++ e :: rest))
    (hx : x ∈ pre) (hk : x.key = e.key) : pre.getLast?.map (·.key) = some e.key := by
  rcases List.eq_nil_or_concat pre with rfl | ⟨ini, l, rfl⟩
  · cases hx
  · rw [List.concat_eq_append] at *
    rw [List.getLast?_concat]
    simp only [Option.map_some, Option.some.injEq]
    rw [sortedEnts_append] at h
    have hle : entCmp l e = .lt := h.2.2 l (by simp) e List.mem_cons_self
    rcases List.mem_append.mp hx with hx | hx
    · have hxl : entCmp x l = .lt := (sortedEnts_append.mp h.1).2.2 x hx l (by simp)
      rw [entCmp_key_squeeze hxl hle hk, hk]
    · simp only [List.mem_singleton] at hx
      rw [← hx, hk]

theorem countedBefore_eq_prefix (p : CParams) {pre rest : List Ent} {e : Ent}
    (h : SortedEnts (pre ++ e :: rest)) :
    countedBefore p (pre ++ e :: rest) e =
      (pre.filter (fun x => decide (x.key = e.key) && counted p x)).length := by
  unfold countedBefore
  rw [List.filter_append, List.length_append]
  have h2 : (e :: rest).filter (fun x => decide (x.key = e.key ∧ e.ver < x.ver) && counted p x) = [] := by
    rw [List.filter_eq_nil_iff]
    intro x hx hq
    simp only [Bool.and_eq_true, decide_eq_true_eq] at hq
    have hlt : entCmp x e = .lt := (entCmp_lt_same_key hq.1.1).mpr hq.1.2
    exact (sortedEnts_append.mp h).2.1.head_le hx hlt
  rw [h2, List.length_nil, Nat.add_zero]
  congr 1
  apply List.filter_congr
  intro x hx
  by_cases hk : x.key = e.key
  · have := h.prefix_newer hx hk
    simp [hk, this]
  · simp [hk]

theorem belowBoundary_iff (p : CParams) {pre rest : List Ent} {e : Ent}
    (h : SortedEnts (pre ++ e :: rest)) :
    belowBoundary p (pre ++ e :: rest) e = true ↔
      ∃ x ∈ pre, x.key = e.key ∧ stops p (pre ++ e :: rest) x = true := by
  rw [belowBoundary_eq_true]
  constructor
  · rintro ⟨x, hx, hq, hst⟩
    exact ⟨x, h.newer_mem_prefix hx hq.1 hq.2, hq.1, hst⟩
  · rintro ⟨x, hx, hk, hst⟩
    exact ⟨x, List.mem_append_left _ hx, ⟨hk, h.prefix_newer hx hk⟩, hst⟩

/-- the state of the `addKeys` loop after the prefix `pre` of the sorted stream `es` -/
structure FInv (p : CParams) (es pre : List Ent) (st : FState) : Prop where
  last : st.lastKey = pre.getLast?.map (·.key)
  skip : ∀ k, st.skipKey = some k →
    st.lastKey = some k ∧ ∃ x ∈ pre, x.key = k ∧ stops p es x = true
  skip' : ∀ x ∈ pre, stops p es x = true → st.lastKey = some x.key → st.skipKey = some x.key
  num : st.skipKey = none → ∀ k, st.lastKey = some k →
    st.numVersions = (pre.filter (fun x => decide (x.key = k) && counted p x)).length

theorem FInv.init (p : CParams) (es : List Ent) : FInv p es [] {} where
  last := rfl
  skip := by intro k h; cases h
  skip' := by intro x hx; cases hx
  num := by intro _ k h; cases h

theorem filtStep_spec {p : CParams} (hp : p.dropPrefixes = []) {es pre rest : List Ent} {e : Ent}
    {st : FState} (hes : es = pre ++ e :: rest) (hs : SortedEnts es) (hinv : FInv p es pre st) :
    (filtStep p st e).2 = keeps p es e ∧ FInv p es (pre ++ [e]) (filtStep p st e).1 := by
  subst hes
  have hlastE : (pre ++ [e]).getLast?.map (·.key) = some e.key := by
    rw [List.getLast?_concat]; rfl
  have hlast : ∀ x ∈ pre, x.key = e.key → st.lastKey = some e.key := fun x hx hk => by
    rw [hinv.last]; exact lastKey_of_sorted hs hx hk
  have hbelow : belowBoundary p (pre ++ e :: rest) e = true ↔ st.skipKey = some e.key := by
    rw [belowBoundary_iff p hs]
    constructor
    · rintro ⟨x, hx, hk, hst⟩
      rw [← hk]; exact hinv.skip' x hx hst (hk ▸ hlast x hx hk)
    · exact fun h => (hinv.skip _ h).2
  rw [filtStep_eq p hp]
  by_cases hskip : st.skipKey = some e.key
  · rw [if_pos hskip]
    have hl := (hinv.skip _ hskip).1
    refine ⟨by simp [keeps, hbelow.mpr hskip], ?_⟩
    exact {
      last := by rw [hlastE]; exact hl
      skip := fun k hk =>
        let ⟨h1, x, hx, h2⟩ := hinv.skip k hk
        ⟨h1, x, List.mem_append_left _ hx, h2⟩
      skip' := fun x _ _ hlx => by rw [← Option.some.inj (hl.symm.trans hlx)]; exact hskip
      num := fun hn => by rw [hskip] at hn; cases hn }
  · rw [if_neg hskip]
    have hb : belowBoundary p (pre ++ e :: rest) e = false :=
      Bool.eq_false_iff.mpr (mt hbelow.mp hskip)
    -- the loop's counter is the number of counted versions above `e`
    have hcb := countedBefore_eq_prefix p hs
    have hbc : baseCount st e = countedBefore p (pre ++ e :: rest) e := by
      rw [hcb]; unfold baseCount
      split
      · next hl =>
        refine hinv.num ?_ _ hl
        cases hsk : st.skipKey with
        | none => rfl
        | some k =>
          have := (hinv.skip k hsk).1
          rw [hl] at this; cases this; exact absurd hsk hskip
      · next hl =>
        symm
        rw [List.length_eq_zero_iff, List.filter_eq_nil_iff]
        intro x hx hq
        simp only [Bool.and_eq_true, decide_eq_true_eq] at hq
        exact hl (hlast x hx hq.1)
    have hst : stopsAt p st e = stops p (pre ++ e :: rest) e := by unfold stopsAt stops; rw [hbc]
    rw [hst]
    refine ⟨by simp [keeps, isBoundary, hb], ?_⟩
    exact {
      last := hlastE.symm
      skip := by
        intro k hk
        split at hk <;> cases hk
        exact ⟨rfl, e, by simp, rfl, ‹_›⟩
      skip' := by
        intro x hx hsx hlx
        have hk : x.key = e.key := (Option.some.inj hlx).symm
        rcases List.mem_append.mp hx with hx | hx
        · have := (belowBoundary_iff p hs).mpr ⟨x, hx, hk, hsx⟩
          rw [hb] at this; cases this
        · cases List.mem_singleton.mp hx
          exact if_pos hsx
      num := by
        intro _ k hk
        cases Option.some.inj hk
        show (if counted p e then _ else _) = _
        rw [hbc, hcb, List.filter_append, List.length_append]
        cases hc : counted p e <;> simp [hc] }

theorem filtRun_cons (p : CParams) (st : FState) (e : Ent) (es : List Ent) :
    filtRun p st (e :: es) =
      if (filtStep p st e).2 then e :: filtRun p (filtStep p st e).1 es
      else filtRun p (filtStep p st e).1 es := by
  rw [filtRun]

theorem filtRun_eq_filter {p : CParams} (hp : p.dropPrefixes = []) {es : List Ent}
    (hs : SortedEnts es) :
    ∀ (rest pre : List Ent) (st : FState), es = pre ++ rest → FInv p es pre st →
      filtRun p st rest = rest.filter (keeps p es) := by
  intro rest
  induction rest with
  | nil => intros; rfl
  | cons e rest ih =>
    intro pre st hes hinv
    obtain ⟨hk, hinv'⟩ := filtStep_spec hp hes hs hinv
    rw [filtRun_cons, hk, List.filter_cons,
      ih (pre ++ [e]) _ (by rw [hes, List.append_cons]) hinv']

theorem subcompact_eq_filter {p : CParams} (hp : p.dropPrefixes = []) {es : List Ent}
    (hs : SortedEnts es) : subcompact p es = es.filter (keeps p es) :=
  filtRun_eq_filter hp hs es [] {} rfl (FInv.init p es)

/-- **C13 (main statement)** — exact characterisation of what the compaction filter retains:
    an entry of the sorted input survives iff it is not below a boundary of its key and it is
    not a dead boundary dropped for lack of overlap. -/
theorem C13_keep_n {p : CParams} {es : List Ent} (hs : SortedEnts es) (hp : p.dropPrefixes = [])
    (e : Ent) :
    e ∈ subcompact p es ↔
      e ∈ es ∧ belowBoundary p es e = false ∧
        ¬(isBoundary p es e = true ∧ deadAt p e = true ∧ p.hasOverlap = false) := by
  rw [subcompact_eq_filter hp hs, List.mem_filter]
  unfold keeps
  cases belowBoundary p es e <;> cases isBoundary p es e <;> cases deadAt p e <;>
    cases p.hasOverlap <;> simp

/-- the boundary of a key is unique -/
theorem C13_boundary_unique {p : CParams} {es : List Ent} {a b : Ent} (ha : a ∈ es) (hb : b ∈ es)
    (hk : a.key = b.key) (h1 : isBoundary p es a = true) (h2 : isBoundary p es b = true) :
    a.ver = b.ver := by
  rw [isBoundary_eq_true, belowBoundary_eq_false] at h1 h2
  rcases Nat.lt_trichotomy a.ver b.ver with h | h | h
  · have := h1.2 b hb hk.symm h; rw [h2.1] at this; cases this
  · exact h
  · have := h2.2 a ha hk h; rw [h1.1] at this; cases this

/-- "below a boundary" really means: a strictly newer entry of the key is *the* boundary -/
theorem C13_below_iff_boundary_above {p : CParams} {es : List Ent} (e : Ent) :
    belowBoundary p es e = true ↔
      ∃ b ∈ es, b.key = e.key ∧ e.ver < b.ver ∧ isBoundary p es b = true := by
  rw [belowBoundary_eq_true]
  constructor
  · rintro ⟨x, hx, hq, hst⟩
    -- the newest stopper above `e`
    let S := es.filter fun x => decide (x.key = e.key ∧ e.ver < x.ver) && stops p es x
    have hS : ∀ y, y ∈ S ↔ y ∈ es ∧ (y.key = e.key ∧ e.ver < y.ver) ∧ stops p es y = true := by
      simp [S]
    obtain ⟨b, hb, hmax⟩ := exists_max_ver S (List.ne_nil_of_mem ((hS x).2 ⟨hx, hq, hst⟩))
    obtain ⟨hbe, hbq, hbs⟩ := (hS b).1 hb
    refine ⟨b, hbe, hbq.1, hbq.2, isBoundary_eq_true.2 ⟨hbs, belowBoundary_eq_false.2 ?_⟩⟩
    intro y hy hyk hyv
    cases hys : stops p es y with
    | false => rfl
    | true =>
      have := hmax y ((hS y).2 ⟨hy, ⟨hyk.trans hbq.1, by omega⟩, hys⟩)
      omega
  · rintro ⟨b, hb, hk, hv, hbd⟩
    exact ⟨b, hb, ⟨hk, hv⟩, (isBoundary_eq_true.1 hbd).1⟩

/-- an entry the loop does not count is dropped only when it lies below a boundary -/
theorem mem_subcompact_of_not_counted {p : CParams} {es : List Ent} {e : Ent} (hs : SortedEnts es)
    (hp : p.dropPrefixes = []) (hnc : counted p e = false) :
    e ∈ subcompact p es ↔ e ∈ es ∧ belowBoundary p es e = false := by
  rw [C13_keep_n hs hp, isBoundary, stops_of_not_counted hnc]
  simp

/-- merge entries are not counted towards `numKeep` -/
theorem C13_merge_uncounted (p : CParams) (e : Ent) (hm : hasBit e.emeta bitMerge = true) :
    counted p e = false := by simp [counted, hm]

theorem filtStep_other (p : CParams) (hp : p.dropPrefixes = []) (st : FState) (e : Ent) (k : Bytes)
    (hk : e.key ≠ k) (hs : st.skipKey ≠ some k) : (filtStep p st e).1.skipKey ≠ some k := by
  rw [filtStep_eq p hp]
  split
  · exact hs
  · show (if _ then some e.key else none) ≠ some k
    split
    · exact fun h => hk (Option.some.inj h)
    · nofun

theorem filtStep_live (p : CParams) (hp : p.dropPrefixes = []) (st : FState) (e : Ent)
    (hs : st.skipKey ≠ some e.key) (hexp : deletedOrExpired e.emeta e.exp p.now = false)
    (hbit : hasBit e.emeta bitMerge = true ∨ hasBit e.emeta bitDiscardEarlier = true) :
    (filtStep p st e).2 = true ∧
      (hasBit e.emeta bitDiscardEarlier = true ∨ (filtStep p st e).1.skipKey ≠ some e.key) := by
  rw [filtStep_eq p hp, if_neg hs]
  refine ⟨by simp [deadAt, hexp], hbit.symm.imp_right fun hm => ?_⟩
  -- a merge entry is not counted, so it does not stop
  simp [stopsAt, C13_merge_uncounted p e hm]

/-- **C13** — compaction never removes a version newer than the discard watermark. -/
theorem C13_keep_above {p : CParams} {es : List Ent} {e : Ent} (hs : SortedEnts es)
    (hp : p.dropPrefixes = []) (he : e ∈ es) (hv : p.discardTs < e.ver) : e ∈ subcompact p es := by
  have hnc : ∀ x : Ent, e.ver ≤ x.ver → counted p x = false := fun x hx => by
    rw [counted, decide_eq_false (by omega), Bool.false_and]
  exact (mem_subcompact_of_not_counted hs hp (hnc e (Nat.le_refl _))).2
    ⟨he, belowBoundary_eq_false.2 fun x _ _ hx => stops_of_not_counted (hnc x (Nat.le_of_lt hx)) es⟩

/-- **C13** — a merge entry survives iff it is not below a boundary of its key -/
theorem C13_merge_iff {p : CParams} {es : List Ent} {e : Ent} (hs : SortedEnts es)
    (hp : p.dropPrefixes = []) (hm : hasBit e.emeta bitMerge = true) :
    e ∈ subcompact p es ↔ e ∈ es ∧ belowBoundary p es e = false :=
  mem_subcompact_of_not_counted hs hp (C13_merge_uncounted p e hm)

/-- **C13** — entries carrying the merge bit are never dropped by the count/dead rule: a merge
    entry is dropped only when it lies below a boundary of its key, i.e. when some strictly newer
    version of the key `stops`. -/
theorem C13_merge_not_counted {p : CParams} {es : List Ent} {e : Ent} (hs : SortedEnts es)
    (hp : p.dropPrefixes = []) (he : e ∈ es) (hm : hasBit e.emeta bitMerge = true)
    (hno : ∀ e' ∈ es, e'.key = e.key → e'.ver > e.ver → stops p es e' = false) :
    e ∈ subcompact p es :=
  (C13_merge_iff hs hp hm).2 ⟨he, belowBoundary_eq_false.2 hno⟩

/-- everything of a key after (= older than) its boundary is dropped -/
theorem C13_below_dropped {p : CParams} {es : List Ent} {e : Ent} (hs : SortedEnts es)
    (hp : p.dropPrefixes = []) (hb : belowBoundary p es e = true) : e ∉ subcompact p es := by
  rw [C13_keep_n hs hp, hb]; simp

/-- the boundary entry itself is kept iff it is live or the key range overlaps lower levels -/
theorem C13_boundary_kept_iff {p : CParams} {es : List Ent} {e : Ent} (hs : SortedEnts es)
    (hp : p.dropPrefixes = []) (he : e ∈ es) (hb : isBoundary p es e = true) :
    e ∈ subcompact p es ↔ deadAt p e = false ∨ p.hasOverlap = true := by
  rw [C13_keep_n hs hp]
  cases deadAt p e <;> cases p.hasOverlap <;> simp [he, (isBoundary_eq_true.1 hb).2, hb]

/-- the filter by `g` is strictly longer than the filter by `f`: `f` implies `g`, and `x` satisfies `g` but not `f` -/
theorem filter_length_succ_le {α : Type} {f g : α → Bool} {x : α} {l : List α}
    (hfg : ∀ y ∈ l, f y = true → g y = true) (hx : x ∈ l) (hgx : g x = true) (hfx : f x = false) :
    (l.filter f).length + 1 ≤ (l.filter g).length := by
  rw [← List.countP_eq_length_filter, ← List.countP_eq_length_filter,
    List.countP_eq_countP_filter_add l g f]
  have h1 : l.countP f ≤ (l.filter f).countP g := by
    rw [List.countP_filter]
    exact List.countP_mono_left fun y hy hf => by simp [hf, hfg y hy hf]
  have h2 : 0 < (l.filter fun a => !f a).countP g :=
    List.countP_pos_iff.mpr ⟨x, List.mem_filter.mpr ⟨hx, by simp [hfx]⟩, hgx⟩
  omega

theorem countedBefore_lt {p : CParams} {es : List Ent} {e x : Ent} (hx : x ∈ es)
    (hk : x.key = e.key) (hv : e.ver < x.ver) (hc : counted p x = true) :
    countedBefore p es x + 1 ≤ countedBefore p es e := by
  unfold countedBefore
  apply filter_length_succ_le (x := x) _ hx
  · simp [hk, hv, hc]
  · simp
  · intro y _ hy
    simp only [Bool.and_eq_true, decide_eq_true_eq] at hy ⊢
    exact ⟨⟨hy.1.1.trans hk, by omega⟩, hy.2⟩

/-- **C13** — the newest versions are kept: if no strictly newer counted version of `e`'s key is
    dead or discard-earlier, and `e` is not counted or is among the first `numKeep` counted
    versions, then `e` is not below a boundary; it is kept unless it is itself a dead boundary
    with `hasOverlap = false`. In particular the first `min(numKeep, index of the first
    dead/discard-earlier version)` counted versions that are live survive. -/
theorem C13_keep_newest {p : CParams} {es : List Ent} {e : Ent} (hs : SortedEnts es)
    (hp : p.dropPrefixes = []) (he : e ∈ es)
    (hlive : ∀ x ∈ es, x.key = e.key → e.ver < x.ver → counted p x = true →
      deadAt p x = false ∧ hasBit x.emeta bitDiscardEarlier = false)
    (hn : countedBefore p es e < p.numKeep)
    (hself : deadAt p e = false ∨ p.hasOverlap = true ∨ counted p e = false) :
    e ∈ subcompact p es := by
  rw [C13_keep_n hs hp]
  refine ⟨he, belowBoundary_eq_false.2 fun x hx hk hv => ?_, ?_⟩
  · cases hst : stops p es x with
    | false => rfl
    | true =>
      simp only [stops, Bool.and_eq_true, Bool.or_eq_true, beq_iff_eq] at hst
      obtain ⟨hc, hst⟩ := hst
      have hl := hlive x hx hk hv hc
      have := countedBefore_lt hx hk hv hc
      rcases hst with (hst | hst) | hst
      · rw [hl.1] at hst; cases hst
      · rw [hl.2] at hst; cases hst
      · omega
  · rintro ⟨hb, hd, ho⟩
    rcases hself with h | h | h
    · rw [h] at hd; cases hd
    · rw [h] at ho; cases ho
    · rw [isBoundary, stops_of_not_counted h] at hb; cases hb

/-! ## with `dropPrefixes`: the prefix test happens first and does not touch the loop state -/

def CParams.noPrefixes (p : CParams) : CParams := { p with dropPrefixes := [] }

/-- no dropped prefix: what the prefix test of a compaction lets through, and what a `DropPrefix(ps)` leaves
    of the history -/
def notDropped (ps : List Bytes) (e : Ent) : Bool := !hasAnyPrefix e.key ps

theorem newestLE_notDropped_of_other {ps : List Bytes} {k : Bytes} (hk : hasAnyPrefix k ps = false)
    (hist : List Ent) (ts : Nat) : newestLE (hist.filter (notDropped ps)) k ts = newestLE hist k ts :=
  newestLE_filter_of (fun e he => by simp [notDropped, he.1, hk]) hist

theorem filtStep_noPrefixes (p : CParams) (st : FState) (e : Ent)
    (h : hasAnyPrefix e.key p.dropPrefixes = false) :
    filtStep p st e = filtStep p.noPrefixes st e := by
  unfold filtStep
  rw [h]
  rfl

theorem filtRun_dropPrefixes (p : CParams) (st : FState) (es : List Ent) :
    filtRun p st es =
      filtRun p.noPrefixes st (es.filter (notDropped p.dropPrefixes)) := by
  induction es generalizing st with
  | nil => rfl
  | cons e es ih =>
    cases h : hasAnyPrefix e.key p.dropPrefixes with
    | true =>
      have : filtStep p st e = (st, false) := by simp [filtStep, h]
      rw [filtRun_cons, this, List.filter_cons]
      simp only [notDropped, h, Bool.not_true, Bool.false_eq_true, if_false]
      exact ih st
    | false =>
      rw [filtRun_cons, List.filter_cons]
      simp only [notDropped, h, Bool.not_false, if_true]
      rw [filtRun_cons, ← filtStep_noPrefixes p st e h, ih]

/-- a compaction with `dropPrefixes` is the prefix filter (on user keys) followed by the plain
    compaction filter -/
theorem subcompact_dropPrefixes (p : CParams) (es : List Ent) :
    subcompact p es =
      subcompact p.noPrefixes (es.filter (notDropped p.dropPrefixes)) :=
  filtRun_dropPrefixes p {} es

/-- `C13_keep_n` for arbitrary `dropPrefixes`: the boundaries are those of the stream with the
    prefixed entries removed. -/
theorem C13_keep_n_prefixes {p : CParams} {es : List Ent} (hs : SortedEnts es) (e : Ent) :
    e ∈ subcompact p es ↔
      e ∈ es ∧ hasAnyPrefix e.key p.dropPrefixes = false ∧
        keeps p.noPrefixes (es.filter (fun e => !hasAnyPrefix e.key p.dropPrefixes)) e = true := by
  rw [subcompact_dropPrefixes, subcompact_eq_filter (p := p.noPrefixes) rfl (hs.filter _),
    List.mem_filter, List.mem_filter]
  unfold notDropped
  simp [and_assoc]

/-! ## sanity: a concrete stream exercising every branch -/

section Sanity

private def mk (k : Nat) (v : Nat) (m : Nat) (exp : Nat := 0) : Ent :=
  { key := [UInt8.ofNat k], ver := v, emeta := m, umeta := 0, exp := exp, val := [] }

/-- key 1: 12 (above the watermark), 9 (1st counted), 8 (merge entry, not counted),
           7 (2nd counted = `numKeep`: the live boundary, kept), 5 (below: dropped);
    key 2: 6 (deleted: dead boundary), 4 (below: dropped);
    key 3: 9 (expired at 50 ≤ now: dead boundary), 3 (below);
    key 4: 3 (discard-earlier: live boundary, kept), 2 (below: dropped) -/
private def sample : List Ent :=
  [mk 1 12 0, mk 1 9 0, mk 1 8 bitMerge, mk 1 7 0, mk 1 5 0,
   mk 2 6 bitDelete, mk 2 4 0,
   mk 3 9 0 50, mk 3 3 0,
   mk 4 3 bitDiscardEarlier, mk 4 2 0]

private def prm (ov : Bool) : CParams :=
  { discardTs := 10, numKeep := 2, hasOverlap := ov, now := 100, dropPrefixes := [] }

example : SortedEnts sample := by decide

example : subcompact (prm false) sample =
    [mk 1 12 0, mk 1 9 0, mk 1 8 bitMerge, mk 1 7 0, mk 4 3 bitDiscardEarlier] := by decide

example : subcompact (prm true) sample =
    [mk 1 12 0, mk 1 9 0, mk 1 8 bitMerge, mk 1 7 0, mk 2 6 bitDelete, mk 3 9 0 50,
     mk 4 3 bitDiscardEarlier] := by decide

example : sample.filter (keeps (prm false) sample) = subcompact (prm false) sample := by decide
example : sample.filter (keeps (prm true) sample) = subcompact (prm true) sample := by decide

example : sample.filter (isBoundary (prm false) sample) =
    [mk 1 7 0, mk 2 6 bitDelete, mk 3 9 0 50, mk 4 3 bitDiscardEarlier] := by decide

example : sample.filter (belowBoundary (prm false) sample) =
    [mk 1 5 0, mk 2 4 0, mk 3 3 0, mk 4 2 0] := by decide

example : sample.map (countedBefore (prm false) sample) = [0, 0, 1, 1, 2, 0, 1, 0, 1, 0, 1] := by
  decide

-- `numKeep = 0` never triggers the count rule (the Go code compares `numVersions == 0` after `++`)
example : subcompact { prm false with numKeep := 0 } [mk 1 9 0, mk 1 7 0, mk 1 5 0] =
    [mk 1 9 0, mk 1 7 0, mk 1 5 0] := by decide

-- non-vacuity of the hypotheses of C13_keep_above / C13_merge_not_counted
example : mk 1 12 0 ∈ sample ∧ (prm false).discardTs < (mk 1 12 0).ver := by decide
example : hasBit (mk 1 8 bitMerge).emeta bitMerge = true ∧
    ∀ e' ∈ sample, e'.key = (mk 1 8 bitMerge).key → e'.ver > (mk 1 8 bitMerge).ver →
      stops (prm false) sample e' = false := by decide

-- non-vacuity of C13_keep_newest (entry 1@7: one counted version above it, `numKeep = 2`)
example : (∀ x ∈ sample, x.key = (mk 1 7 0).key → (mk 1 7 0).ver < x.ver →
      counted (prm false) x = true →
      deadAt (prm false) x = false ∧ hasBit x.emeta bitDiscardEarlier = false) ∧
    countedBefore (prm false) sample (mk 1 7 0) < (prm false).numKeep ∧
    deadAt (prm false) (mk 1 7 0) = false := by decide

-- with a prefix: key 1 entirely dropped, the rest as before
example : subcompact { prm false with dropPrefixes := [[1]] } sample =
    [mk 4 3 bitDiscardEarlier] := by decide

end Sanity

end Badger
