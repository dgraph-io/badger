import BadgerProofs.Props.C01Db
/-!
# C02 at value level, for every history of the database model (normal mode, conflict detection on)

`C02_db_commit_reads_current`: when `Commit` of a read-write transaction succeeds in a reachable
state, no key it has read (`Get`, iterator items, `Seek` keys: `t.reads`) has a committed version
above its read timestamp — so every value it read is still the current one at its commit point
(`C02_db_serial_point`: reading at `readTs` or at `commitTs − 1` gives the same answer), which makes
the history of successful commits serializable in commit-timestamp order at the level of VALUES
(the oracle-level statement on fingerprints is `C02_serial`).

The invariant: every committed entry above the read watermark is recorded in `committedTxns` with
its key (`Covers`); `cleanupCommittedTransactions` only forgets commits at or below the watermark,
and the watermark is at or below the read timestamp of every open transaction (C34).
-/
namespace Badger

namespace DbL

/-- the keys of the pending writes are among the conflict keys -/
def WritesOk (t : TxnM) : Prop := ∀ e ∈ t.pending, e.key ∈ t.writes

/-- every committed entry above the read watermark is recorded in `committedTxns` -/
def Covers (hist : List Ent) (d : Db) : Prop :=
  ∀ x ∈ hist, d.readMark.doneUntil < x.ver → ∃ p ∈ d.committed, p.1 = x.ver ∧ x.key ∈ p.2

structure Inv2 (hist : List Ent) (d : Db) : Prop where
  wr : ∀ t ∈ d.txns, WritesOk t
  cov : Covers hist d

variable {o : Opts} {hist : List Ent} {d : Db}

theorem Inv2.same {d' : Db} (h2 : Inv2 hist d) (hc : d'.committed = d.committed)
    (hu : d.readMark.doneUntil ≤ d'.readMark.doneUntil) (hw : ∀ t ∈ d'.txns, WritesOk t) : Inv2 hist d' := by
  refine ⟨hw, ?_⟩
  intro x hx hlt
  obtain ⟨p, hp, h⟩ := h2.cov x hx (by omega)
  exact ⟨p, by rw [hc]; exact hp, h⟩

theorem Inv2.reads_current (h2 : Inv2 hist d) {t : TxnM} (hle : d.readMark.doneUntil ≤ t.readTs)
    (hnc : d.hasConflict t = false) : ∀ k ∈ t.reads, ∀ x ∈ hist, x.key = k → x.ver ≤ t.readTs := by
  intro k hk x hx hxk
  refine Nat.le_of_not_lt fun hgt => ?_
  obtain ⟨p, hp, h1, h2'⟩ := h2.cov x hx (by omega)
  rw [Db.hasConflict_of hp (by omega) hk (hxk ▸ h2')] at hnc
  cases hnc

theorem Inv2.setTxn (h2 : Inv2 hist d) {t' : TxnM} (hw : WritesOk t') : Inv2 hist (d.setTxn t') :=
  h2.same rfl (Nat.le_refl _) (forall_mem_replaced h2.wr hw)

theorem discard_inv2 (h : Inv o hist d) (h2 : Inv2 hist d) (id : Nat) :
    Inv2 hist (d.discardTxn id) := by
  rcases discardTxn_cases d id with h' | ⟨t, hf, -, h'⟩ <;> rw [h']
  · exact h2
  · refine h2.same ((setTxn_committed _ _).trans (doneRead_committed d t)) (doneRead_mono h hf) ?_
    show ∀ t' ∈ replaced (d.doneRead t).1.txns _, WritesOk t'
    rw [doneRead_txns]
    exact forall_mem_replaced h2.wr (h2.wr t (find_mem hf))

theorem begin_inv2 (h : Inv o hist d) (h2 : Inv2 hist d) (id : Nat) (upd : Bool) :
    Inv2 hist (d.begin id upd 0).1 := by
  rw [begin_normal h.l.normal]
  exact h2.same rfl (WmL.marked h.w.ok _ _ (Nat.le_sub_one_of_lt h.w.untilLt)).mono
    (forall_mem_replaced h2.wr (List.forall_mem_nil _))

theorem set_inv2 (hdet : o.detectConflicts = true) (h : Inv o hist d) (h2 : Inv2 hist d) (id : Nat) (e : Ent) :
    Inv2 hist (d.modify id e).1 := by
  rcases modify_cases d id e with h' | ⟨t, hf, h'⟩ <;> rw [h']
  · exact h2
  · refine h2.setTxn fun x hx => ?_
    show x.key ∈ (if d.opts.detectConflicts then e.key :: t.writes else t.writes)
    rw [h.l.tree.opts, hdet, if_pos rfl]
    rcases List.mem_append.mp hx with hx | hx
    · exact List.mem_cons_of_mem _ (h2.wr t (find_mem hf) x (List.mem_filter.mp hx).1)
    · rw [List.mem_singleton.mp hx]; exact List.mem_cons_self

theorem reads_inv2 (h2 : Inv2 hist d) {id : Nat} {t : TxnM} (rs : List Bytes) (hf : d.findTxn id = some t) :
    Inv2 hist (d.setTxn { t with reads := rs }) :=
  h2.setTxn (h2.wr t (find_mem hf))

theorem get_inv2 (h2 : Inv2 hist d) (id : Nat) (k : Bytes) : Inv2 hist (d.txnGet id k).1 := by
  rcases txnGet_fst d id k with e | ⟨t, hf, e⟩ <;> rw [e]
  · exact h2
  · exact reads_inv2 h2 _ hf

theorem commit_inv2 (hdet : o.detectConflicts = true) (h : Inv o hist d) (h2 : Inv2 hist d)
    (id : Nat) : Inv2 (d.commitHist id ++ hist) (d.commit id 0).1 := by
  have hmd := h.l.normal
  rcases commit_cases h id with ⟨hh, hd | hd⟩ | ⟨t, hf, hg, hh, _, ok⟩ <;> rw [hh]
  · rw [hd]; exact h2
  · rw [hd]; exact discard_inv2 h h2 id
  · have hcm : (d.commit id 0).1.committed = (d.nextTs, t.writes) :: (d.doneRead t).1.cleanup.committed := by
      rw [commit_goes_eq 0 hf hg, (commitApply_normal hmd hf ok.live).2.2, h.l.tree.opts, hdet, if_pos rfl]
    have hmono := doneRead_mono h hf
    refine ⟨?_, fun x hx hlt => ?_⟩
    · rw [ok.txns]
      exact forall_mem_replaced h2.wr (h2.wr t (find_mem hf))
    · rw [ok.readMark] at hlt
      rw [hcm]
      rcases List.mem_append.mp hx with hx | hx
      · -- an entry of this commit
        have hx' := List.mem_reverse.mp hx
        refine ⟨(d.nextTs, t.writes), List.mem_cons_self, (normalEnts_ver d t x hx').symm, ?_⟩
        obtain ⟨e, he, rfl⟩ := List.mem_map.mp hx'
        rw [lsmForm_key]
        exact h2.wr t (find_mem hf) e he
      · obtain ⟨p, hp, h1, h2'⟩ := h2.cov x hx (Nat.lt_of_le_of_lt hmono hlt)
        refine ⟨p, List.mem_cons_of_mem _ (cleanup_keeps _ p ?_ ?_), h1, h2'⟩
        · rw [doneRead_committed]; exact hp
        · rw [discardAtOrBelow_normal (by rw [(doneRead_same _ _).opts]; exact hmd), h1]
          exact hlt

/-- nothing of `committedTxns` survives `Close` + `Open`, and nothing needs to: every committed version
    is at or below the new read watermark (`= MaxVersion = nextTs - 1`) -/
theorem closeOpen_inv2 (d : Db) (hlt : ∀ x ∈ hist, x.ver < d.closeOpen.nextTs) : Inv2 hist d.closeOpen := by
  refine ⟨List.forall_mem_nil _, fun x hx hgt => ?_⟩
  have := hlt x hx
  change d.closeOpen.nextTs - 1 < x.ver at hgt
  omega

theorem inv2_of_reach (hm : o.managed = false) (hdet : o.detectConflicts = true) (r : DbReach o hist d) :
    Inv2 hist d := by
  induction r with
  | init now => exact ⟨List.forall_mem_nil _, List.forall_mem_nil _⟩
  | begin r id upd ih => exact begin_inv2 (inv_of_reach hm r) ih id upd
  | set r id e hv ih => exact set_inv2 hdet (inv_of_reach hm r) ih id e
  | get _ id k ih => exact get_inv2 ih id k
  | reads _ id t rs hf ih => exact reads_inv2 ih rs hf
  | discard r id ih => exact discard_inv2 (inv_of_reach hm r) ih id
  | commit r id hmax ih => exact commit_inv2 hdet (inv_of_reach hm r) ih id
  | flush _ fid ih => exact ih.same rfl (Nat.le_refl _) ih.wr
  | tick _ now' hn ih => exact ih.same rfl (Nat.le_refl _) ih.wr
  | reopen r fid hnext ih =>
    exact closeOpen_inv2 _ fun x hx => Nat.lt_of_lt_of_le ((inv_of_reach hm r).l.histLt x hx) hnext
  | dropall _ hmem ih => exact ⟨ih.wr, List.forall_mem_nil _⟩
  | compact _ cd dts hd hi htop hvc hdp hs hcut ih => exact ih.same rfl (Nat.le_refl _) ih.wr

end DbL

/-- **C02, value level, every history**: if `Commit` of transaction `id` succeeds in a reachable
    state, then no key the transaction has read has a committed version above its read timestamp. -/
theorem C02_db_commit_reads_current {o : Opts} {hist : List Ent} {d : Db} (hm : o.managed = false)
    (hdet : o.detectConflicts = true) (r : DbReach o hist d) {id cts : Nat} {t : TxnM}
    (hf : d.findTxn id = some t) (hok : (d.commit id 0).2 = .ok cts) :
    ∀ k ∈ t.reads, ∀ x ∈ hist, x.key = k → x.ver ≤ t.readTs := by
  have h := DbL.inv_of_reach hm r
  obtain ⟨t', hf', hg, _⟩ := exists_txn_of_commit_ok hok
  rw [hf] at hf'; cases hf'
  obtain ⟨hdisc, hnc⟩ := commitGoes_true hg
  have hle := C34_db_discard_below_open hm r hf hdisc
  rw [discardAtOrBelow_normal h.l.normal] at hle
  exact (DbL.inv2_of_reach hm hdet r).reads_current hle (hnc (by rw [h.l.tree.opts]; exact hdet))

/-- …hence every key it read has the same newest version at its read timestamp and at any later
    timestamp (in particular just below its commit timestamp): the transaction could have run
    entirely at its commit point. -/
theorem C02_db_serial_point {o : Opts} {hist : List Ent} {d : Db} (hm : o.managed = false)
    (hdet : o.detectConflicts = true) (r : DbReach o hist d) {id cts : Nat} {t : TxnM}
    (hf : d.findTxn id = some t) (hok : (d.commit id 0).2 = .ok cts) (k : Bytes) (hk : k ∈ t.reads)
    (ts : Nat) (hts : t.readTs ≤ ts) :
    newestLE hist k ts = newestLE hist k t.readTs := by
  have hcur := C02_db_commit_reads_current hm hdet r hf hok k hk
  unfold newestLE
  refine foldl_congr_mem (fun best x hx => ?_) none
  by_cases hxk : x.key = k
  · have := hcur x hx hxk
    rw [if_pos ⟨hxk, Nat.le_trans this hts⟩, if_pos ⟨hxk, this⟩]
  · simp [hxk]

/-! non-vacuity: T1 reads key 1, T2 writes key 1 and commits, T1's commit is refused; a third
    transaction that reads key 1 afterwards and writes key 2 commits. -/
def C02_dbOpts : Opts := { maxBatchCount := 1000, maxBatchSize := 100000 }
def C02_dbA : Db :=
  let d := ((Db.init C02_dbOpts 0).begin 1 true 0).1
  let d := (d.txnGet 1 [1]).1
  let d := (d.begin 2 true 0).1
  let d := (d.modify 2 ⟨[1], 0, 0, 0, 0, [9]⟩).1
  let d := (d.commit 2 0).1
  (d.modify 1 ⟨[2], 0, 0, 0, 0, [8]⟩).1
def C02_dbB : Db :=
  let d := ((C02_dbA.commit 1 0).1.begin 3 true 0).1
  let d := (d.txnGet 3 [1]).1
  (d.modify 3 ⟨[2], 0, 0, 0, 0, [7]⟩).1

theorem C02_db_example :
    (match (C02_dbA.commit 1 0).2 with | .conflict => true | _ => false) = true ∧
    (match (C02_dbB.commit 3 0).2 with | .ok ts => ts == 2 | _ => false) = true := by decide

end Badger
